import AnsiProofs.Props.C01
import AnsiProofs.Props.C01b
import AnsiProofs.Props.C02
import AnsiProofs.Props.C02b
import AnsiProofs.Props.C02c
import AnsiProofs.Props.C03
import AnsiProofs.Props.C04
import AnsiProofs.Props.C04b
import AnsiProofs.Props.C04c
import AnsiProofs.Props.C05
import AnsiProofs.Props.C05b
import AnsiProofs.Props.C05c
import AnsiProofs.Props.C05d
import AnsiProofs.Props.C06
import AnsiProofs.Props.C06b
import AnsiProofs.Props.C06c
import AnsiProofs.Props.C06d
import AnsiProofs.Props.C07
import AnsiProofs.Props.C07b
import AnsiProofs.Props.C07c
import AnsiProofs.Props.C08
import AnsiProofs.Props.C09
import AnsiProofs.Props.C09b
import AnsiProofs.Props.C09c
import AnsiProofs.Props.C10
import AnsiProofs.Props.C10b
import AnsiProofs.Props.C11
import AnsiProofs.Props.C11b
import AnsiProofs.Props.C11c
import AnsiProofs.Props.C11d
import AnsiProofs.Props.C11e
import AnsiProofs.Props.C12
import AnsiProofs.Props.C12b
import AnsiProofs.Props.C12c
import AnsiProofs.Props.C12d
import AnsiProofs.Props.C12e
import AnsiProofs.Props.C13
import AnsiProofs.Props.C13b
import AnsiProofs.Props.C13c
import AnsiProofs.Props.C14
import AnsiProofs.Props.C14b
import AnsiProofs.Props.C14c
import AnsiProofs.Props.C14d
import AnsiProofs.Props.C15
import AnsiProofs.Props.C15b
import AnsiProofs.Props.C15c
import AnsiProofs.Props.C15d
import AnsiProofs.Props.C16
import AnsiProofs.Props.C16b
import AnsiProofs.Props.C17
import AnsiProofs.Props.C17b
import AnsiProofs.Props.C17c
import AnsiProofs.Props.C17d
import AnsiProofs.Props.C18
import AnsiProofs.Props.C18b
import AnsiProofs.Props.C19
import AnsiProofs.Props.C19b
import AnsiProofs.Props.C19c
/-
  The theorems of the nineteen properties: one file `Props/Cxx.lean` per property and its continuation
  files `Cxx[b-e].lean`.  The lemma modules under `Lemmas/` come in through them (DESIGN.md §2 says
  what each is for and what stands on what).
-/
