import AnsiProofs.Props.C17c
import AnsiModel.Generated.Methods.RenderCore
/-
  Property C01, part b — the *generated* (statement-by-statement translated) rendering loop of
  `AnsiString.to_str` (`Gen.renderCore` of `AnsiModel/Generated/Methods/RenderCore.lean`: the statements
  after the format spec has been applied and `optimize` has been resolved to
  `optimize and obj.is_optimizable()`) computes exactly what the hand-written model says
  (`Render.render`, `AnsiModel/Render.lean`: the fold of `Render.step` over the triples of the iterator
  before the first key `≥ len`) on values whose table is sorted; the outcome `Exc.key` (the fetch
  `obj._fmts[idx]` of the iterator) never happens there.

  The proof describes one round of the `for` loop on the model's state (`L.round`), shows that the
  rounds are the model's fold (`L.round_render`), and rewrites the translated loop into these rounds by
  `ObjL.foldlM_keysAsc_enc`.
-/

namespace C01b
namespace L
open ObjL

/-- the state of the translated loop:
    `(out_str, last_idx, settings_exist, first_iter, current_settings_dict, cur_, done_)` -/
abbrev S := Str × Int × Bool × Bool × PyDict × List Setting × Bool

/-- the model's loop state, the iterator's `current_settings` and the `break` flag -/
abbrev T := Render.St × List Setting × Bool

abbrev toS (t : T) : S :=
  (t.1.out, (t.1.last : Int), t.1.exist, t.1.first, t.1.dict, t.2.1, t.2.2)

/-- one round of the `for` loop of `to_str`: nothing once `done` is set, the `break` at a key `≥ len`,
    else the model's `Render.step` -/
def round (s : Str) (opt rs : Bool) (t : T) (kp : Nat × Point) : T :=
  if t.2.2 then t
  else if kp.1 ≥ s.length then (t.1, stepPoint t.2.1 kp.2, true)
  else (Render.step s opt rs t.1 (kp.1, kp.2, stepPoint t.2.1 kp.2), stepPoint t.2.1 kp.2, false)

/-- the `break` and `takeWhile` stop at the same entry -/
theorem round_render (s : Str) (opt rs : Bool) (B : Fmts) (st : Render.St) (cur : List Setting) :
    (B.foldl (round s opt rs) (st, cur, false)).1 =
      ((replayFrom cur B).takeWhile (fun t => t.1 < s.length)).foldl (Render.step s opt rs) st := by
  induction B generalizing st cur with
  | nil => rfl
  | cons kp B ih =>
    obtain ⟨k, p⟩ := kp
    have hr : round s opt rs (st, cur, false) (k, p) =
        if k ≥ s.length then (st, stepPoint cur p, true)
        else (Render.step s opt rs st (k, p, stepPoint cur p), stepPoint cur p, false) := rfl
    rw [List.foldl_cons, hr, replayFrom, List.takeWhile_cons]
    by_cases h : k < s.length
    · rw [if_neg (Nat.not_le.mpr h), decide_eq_true h, if_pos rfl, List.foldl_cons]
      exact ih _ _
    · rw [if_pos (Nat.not_lt.mp h), decide_eq_false h, foldl_fixed (fun _ => rfl)]
      rfl

/-- `if a and b:` as the model writes it -/
theorem ite_band {α : Type} (a b : Bool) (u v : α) :
    (if (a && b) = true then u else v) = if a = true ∧ b = true then u else v := by
  cases a <;> cases b <;> rfl

/-- the inner loop over the keys of the old dictionary, written with `continue` -/
theorem foldlM_filter_map_not {ε α β γ : Type} (c : α → Bool) (g : α → β) (pr : γ → α) (l : List γ)
    (acc : List β) :
    List.foldlM (m := Except ε) (fun acc a => if c a = true then .ok acc else .ok (acc ++ [g a])) acc (l.map pr) =
      .ok (acc ++ (l.filter (fun kv => !c (pr kv))).map (fun kv => g (pr kv))) := by
  rw [← foldlM_filter_map (fun a => !c a) g pr]
  congr 1
  funext acc a
  cases c a <;> rfl

end L

open L ObjL

/-- the method was translated (it did not fall outside the translator's fragment) -/
theorem translated : Gen.renderCoreOk = true := by decide

set_option linter.unusedSimpArgs false in
/-- C01: the statements of `to_str` after the format spec has been applied (the object rendered is the
    second argument; Python's `self` is not used any more) and `optimize` has been resolved end
    normally with exactly the model's text -/
theorem renderCore_is_code (x : AStr) (hs : SortedKeys x.fmts) (anySelf : AStr) (opt rs re : Bool) :
    Gen.renderCore anySelf x (opt && x.isFormattingParsable) rs re = .ok (Render.render x opt rs re) := by
  unfold Gen.renderCore
  simp only []
  rw [show (([] : Str), (0 : Int), false, true, ([] : PyDict), ([] : List Setting), false) = toS ({}, [], false)
      from rfl,
    foldlM_keysAsc_enc hs toS (round := round x.s (opt && x.isFormattingParsable) rs) ?spec]
  case spec =>
    intro t k p hg
    obtain ⟨st, cur, d⟩ := t
    generalize (opt && x.isFormattingParsable) = o
    cases d
    · have hr : round x.s o rs (st, cur, false) (k, p) =
          if k ≥ x.s.length then (st, stepPoint cur p, true)
          else (Render.step x.s o rs st (k, p, stepPoint cur p), stepPoint cur p, false) := rfl
      rw [hr]
      clear hr
      obtain ⟨out, last, exist, dict, first⟩ := st
      by_cases h : k ≥ x.s.length
      · -- the `break`
        rw [if_pos h]
        simp [toS, get_of_get? hg, C09c.iter_step_is_code, bind_ok, h]
      · have hne : ¬ x.s = [] := by
          intro h0
          rw [h0] at h
          exact h (Nat.zero_le k)
        rw [if_neg h]
        -- the code's side
        simp only [toS, get_of_get? hg, bind_ok, C09c.iter_step_is_code, foldlM_filter_map, foldlM_filter_map_not]
        simp only [ite_ok, ite_band, dictNe_eq, listSlice_nat, bind_ok, List.singleton_append,
          List.nil_append]
        generalize stepPoint cur p = c'
        -- the model's side
        simp only [Render.step]
        cases o
        · simp only [Bool.false_eq_true, if_false]
          -- the plain codes, whatever they are
          generalize joinSep Gen.ansiSep
            (if !p.rem.isEmpty ∧ !(texts c').isEmpty then Py.natStr Gen.paramReset :: texts c' else texts c') = codes
          by_cases hz : k = 0 ∧ rs = true
          · simp [h, hne, hz, bind_ok, and_assoc]
          · simp [h, hne, hz, bind_ok, and_assoc]
        · simp only [if_true]
          -- the optimized codes and the plain codes, whatever they are
          generalize joinSep Gen.ansiSep
            ((dict.filter (fun kv => !(settingsToDict c').contains kv.1)).map (fun kv => Render.clearCode kv.1) ++
             ((settingsToDict c').filter (fun kv =>
                match dict.get? kv.1 with
                | none => true
                | some v => v.txt != kv.2.txt)).map (fun kv => kv.2.txt)) = oc
          generalize joinSep Gen.ansiSep
            (if !p.rem.isEmpty ∧ !(texts c').isEmpty then Py.natStr Gen.paramReset :: texts c' else texts c') = codes
          by_cases hz : k = 0 ∧ rs = true <;> by_cases he : oc = [] <;>
            by_cases hl : oc.length < codes.length <;> simp [h, hne, hz, he, hl, bind_ok, and_assoc]
    · simp [toS, round]
  -- the statements after the loop
  simp only [bind_ok, toS, ite_ok, ite_band, listSlice_from, round_render]
  rfl

/-- in particular no `KeyError` from the fetch of the point of a key, nothing outside the model's
    representation -/
theorem renderCore_never_outside (x : AStr) (hs : SortedKeys x.fmts) (anySelf : AStr) (opt rs re : Bool)
    (err : Exc) :
    Gen.renderCore anySelf x (opt && x.isFormattingParsable) rs re ≠ .error err := by
  rw [renderCore_is_code x hs anySelf opt rs re]
  intro h; cases h

/-! ## Non-vacuity -/

/-- "abcdef", object 0 (`31`) from 0 to 6, object 1 (`1`) from 2 to 4 -/
def x0 : AStr :=
  { s := "abcdef".toList,
    fmts := [(0, { add := [⟨0, "31".toList⟩] }), (2, { add := [⟨1, "1".toList⟩] }),
             (4, { rem := [⟨1, "1".toList⟩] }), (6, { rem := [⟨0, "31".toList⟩] })] }

/-- "abcdef", `38;5;9` from 1 to 3 and `4` from 1 on, the unparsable `[77` from 3 to a key beyond the end -/
def x1 : AStr :=
  { s := "abcdef".toList,
    fmts := [(1, { add := [⟨0, "38;5;9".toList⟩, ⟨2, "4".toList⟩] }),
             (3, { rem := [⟨0, "38;5;9".toList⟩], add := [⟨1, "[77".toList⟩] }),
             (9, { rem := [⟨1, "[77".toList⟩] })] }

theorem x0_sorted : SortedKeys x0.fmts := by
  unfold SortedKeys
  decide
theorem x1_sorted : SortedKeys x1.fmts := by
  unfold SortedKeys
  decide

example : SortedKeys x0.fmts := x0_sorted
example : SortedKeys x1.fmts := x1_sorted

example : Gen.renderCore x0 x0 (true && x0.isFormattingParsable) false true =
    .ok (Render.render x0 true false true) := renderCore_is_code x0 x0_sorted x0 true false true
example : Gen.renderCore x0 x0 (false && x0.isFormattingParsable) true false =
    .ok (Render.render x0 false true false) := renderCore_is_code x0 x0_sorted x0 false true false
example : Gen.renderCore x1 x1 (true && x1.isFormattingParsable) true true =
    .ok (Render.render x1 true true true) := renderCore_is_code x1 x1_sorted x1 true true true
example : Gen.renderCore x1 x1 (true && x1.isFormattingParsable) false true =
    .ok (Render.render x1 true false true) := renderCore_is_code x1 x1_sorted x1 true false true

/-- the value itself: `ESC[31m ab ESC[1m cd ESC[22m ef ESC[m` -/
example : Gen.renderCore x0 x0 (true && x0.isFormattingParsable) false true = .ok
    ([Char.ofNat 27] ++ "[31mab".toList ++ [Char.ofNat 27] ++ "[1mcd".toList ++ [Char.ofNat 27] ++
      "[22mef".toList ++ [Char.ofNat 27] ++ "[m".toList) := by decide +kernel

/-- the hypothesis `SortedKeys` is needed: on a table out of order the fetch of the point meets `Exc.key` -/
example : Gen.renderCore x0 { s := "abc".toList, fmts := [(2, {}), (0, {})] } true false true = .error .key := by
  decide +kernel

end C01b

#print axioms C01b.translated
#print axioms C01b.renderCore_is_code
#print axioms C01b.renderCore_never_outside
