import AnsiProofs.Lemmas.Display
/-
  Property C06, the clauses about what is displayed after `apply_formatting`.

  Notation: `x` the value before, `x' = x.applyFormatting N start end_ top` the value after, `N` the
  freshly created setting objects (`FreshN x N`), `st`/`en` the slice-normalised bounds,
  `act y i` the settings character `i` of `y` reports (lowest precedence first),
  `eff l : Term.Group → Option Val` the style a conforming terminal shows after the settings `l`
  (`AnsiSpec/Styled.lean`), `touches l g` (`Lemmas/Display.lean`): some setting of `l` sets or
  clears the effect group `g` — decided by the first SGR parameter of its text; the reset `0`
  touches every group.

  All setting texts are well-formed SGR parameter groups (`GroupSettings x`, and the same for `N`).
  Everything is proved for all values, all `N`, all bounds and all groups.
-/
open Term DisplayL

namespace C06b

/-! ### topmost=False -/

/-- on a character of the range, every effect that an existing setting of that
    character sets or clears is displayed exactly as before -/
theorem apply_bottom_display (x : AStr) (N : List Setting) (start end_ : Option Int)
    {st en : Nat} (hst : st = sliceIdx x.len start 0) (hen : en = sliceIdx x.len end_ x.len)
    (hw : WF x) (hf : FreshN x N) (hg : GroupSettings x) (hN : ∀ s ∈ N, isGroupTxt s.txt = true)
    (i : Nat) (h1 : st ≤ i) (h2 : i < en) (h3 : st < x.len) :
    ∀ g, touches (act x i) g →
      eff (act (x.applyFormatting N start end_ false) i) g = eff (act x i) g := by
  intro g ht
  rw [apply_inside_bottom x N start end_ hst hen hw hf i h1 h2 h3]
  exact eff_append_right (group_both hg hN i).1 ht

/-- the new settings show where nothing conflicts — an effect no existing
    setting of the character touches is displayed as the new settings alone would display it -/
theorem apply_bottom_shows (x : AStr) (N : List Setting) (start end_ : Option Int)
    {st en : Nat} (hst : st = sliceIdx x.len start 0) (hen : en = sliceIdx x.len end_ x.len)
    (hw : WF x) (hf : FreshN x N) (hg : GroupSettings x) (hN : ∀ s ∈ N, isGroupTxt s.txt = true)
    (i : Nat) (h1 : st ≤ i) (h2 : i < en) (h3 : st < x.len) :
    ∀ g, ¬ touches (act x i) g →
      eff (act (x.applyFormatting N start end_ false) i) g = eff N g := by
  intro g ht
  rw [apply_inside_bottom x N start end_ hst hen hw hf i h1 h2 h3]
  exact eff_append_left (group_both hg hN i).1 ht

/-! ### topmost=True -/

/-- on the first character of the range, and on each following one for as long
    as no other setting begins in between, the new settings determine the displayed value of every
    effect they set or clear -/
theorem apply_top_display (x : AStr) (N : List Setting) (start end_ : Option Int)
    {st en : Nat} (hst : st = sliceIdx x.len start 0) (hen : en = sliceIdx x.len end_ x.len)
    (hw : WF x) (hf : FreshN x N) (hg : GroupSettings x) (hN : ∀ s ∈ N, isGroupTxt s.txt = true)
    (i : Nat) (h1 : st ≤ i) (h2 : i < en) (h3 : st < x.len)
    (hquiet : ∀ k, st < k → k ≤ i → (x.fmts.getD k).add = []) :
    ∀ g, touches N g →
      eff (act (x.applyFormatting N start end_ true) i) g = eff N g := by
  intro g ht
  rw [apply_top_until x N start end_ hst hen hw hf i h1 h2 h3 hquiet]
  exact eff_append_right (group_both hg hN i).2 ht

/-- … and the effects the new settings do not touch are displayed as before -/
theorem apply_top_keeps (x : AStr) (N : List Setting) (start end_ : Option Int)
    {st en : Nat} (hst : st = sliceIdx x.len start 0) (hen : en = sliceIdx x.len end_ x.len)
    (hw : WF x) (hf : FreshN x N) (hg : GroupSettings x) (hN : ∀ s ∈ N, isGroupTxt s.txt = true)
    (i : Nat) (h1 : st ≤ i) (h2 : i < en) (h3 : st < x.len)
    (hquiet : ∀ k, st < k → k ≤ i → (x.fmts.getD k).add = []) :
    ∀ g, ¬ touches N g →
      eff (act (x.applyFormatting N start end_ true) i) g = eff (act x i) g := by
  intro g ht
  rw [apply_top_until x N start end_ hst hen hw hf i h1 h2 h3 hquiet]
  exact eff_append_left (group_both hg hN i).2 ht

theorem apply_top_first_display (x : AStr) (N : List Setting) (start end_ : Option Int)
    {st en : Nat} (hst : st = sliceIdx x.len start 0) (hen : en = sliceIdx x.len end_ x.len)
    (hw : WF x) (hf : FreshN x N) (hg : GroupSettings x) (hN : ∀ s ∈ N, isGroupTxt s.txt = true)
    (h1 : st < x.len) (h2 : st < en) :
    ∀ g, touches N g →
      eff (act (x.applyFormatting N start end_ true) st) g = eff N g :=
  apply_top_display x N start end_ hst hen hw hf hg hN st (Nat.le_refl _) h2 h1
    (fun _ a b => absurd a (Nat.not_lt_of_le b))

/-! ### outside the range -/

theorem apply_outside_display (x : AStr) (N : List Setting) (start end_ : Option Int) (top : Bool)
    {st en : Nat} (hst : st = sliceIdx x.len start 0) (hen : en = sliceIdx x.len end_ x.len)
    (hw : WF x) (hf : FreshN x N) (i : Nat) (hi : i < st ∨ en ≤ i) :
    eff (act (x.applyFormatting N start end_ top) i) = eff (act x i) := by
  rw [apply_outside x N start end_ top hst hen hw hf i hi]

/-! ### non-vacuity

  `abcd`, red (`31`, object 0) on `[0,4)`, blue (`34`, object 1) on `[1,4)`; the new objects bold
  (`1`) and green (`32`), applied on `[1,3)`. -/

def red : Setting := ⟨0, "31".toList⟩
def blue : Setting := ⟨1, "34".toList⟩
def bold : Setting := ⟨5, "1".toList⟩
def green : Setting := ⟨6, "32".toList⟩

def ex : AStr :=
  { s := "abcd".toList
    fmts := [(0, { add := [red] }), (1, { add := [blue] }), (4, { rem := [red, blue] })] }

def exN : List Setting := [bold, green]

theorem ex_wf : WF ex := wf_of_finite (by decide +kernel)

theorem exN_fresh : FreshN ex exN := ⟨by decide +kernel, by decide +kernel⟩
theorem ex_group : GroupSettings ex := by unfold GroupSettings; decide +kernel
theorem exN_group : ∀ s ∈ exN, isGroupTxt s.txt = true := by decide +kernel

theorem ex_st : 1 = sliceIdx ex.len (some 1) 0 := by decide +kernel
theorem ex_en : 3 = sliceIdx ex.len (some 3) ex.len := by decide +kernel
theorem ex_lt : 1 < ex.len := by decide +kernel

example : WF ex ∧ FreshN ex exN ∧ GroupSettings ex ∧ (∀ s ∈ exN, isGroupTxt s.txt = true) ∧
    sliceIdx ex.len (some 1) 0 = 1 ∧ sliceIdx ex.len (some 3) ex.len = 3 ∧ 1 < ex.len :=
  ⟨ex_wf, exN_fresh, ex_group, exN_group, ex_st.symm, ex_en.symm, ex_lt⟩
/-- `hquiet` for character 2 -/
example : ∀ k, 1 < k → k ≤ 2 → (ex.fmts.getD k).add = [] := by
  intro k a b
  have : k = 2 := by omega
  subst this; decide +kernel

example : touches (act ex 1) .fg ∧ ¬ touches (act ex 1) .boldness ∧
    touches exN .fg ∧ touches exN .boldness ∧ ¬ touches exN .bg := by decide +kernel
/-- a reset setting (`0`) touches every group, a default-colour setting (`39`) the foreground -/
example : (∀ g ∈ Term.allGroups, touches [⟨9, "0".toList⟩] g) ∧ touches [⟨9, "39".toList⟩] .fg ∧
    ¬ touches [⟨9, "39".toList⟩] .bg ∧ touches [⟨9, "38;5;7".toList⟩] .fg := by decide +kernel

/-- topmost=False: blue stays displayed (the new green does not show), bold shows -/
example : act (ex.applyFormatting exN (some 1) (some 3) false) 1 = [bold, green, red, blue] ∧
    eff (act ex 1) .fg = some [34] ∧
    eff (act (ex.applyFormatting exN (some 1) (some 3) false) 1) .fg = some [34] ∧
    eff (act (ex.applyFormatting exN (some 1) (some 3) false) 1) .boldness = some [1] := by
  decide +kernel

example : eff (act (ex.applyFormatting exN (some 1) (some 3) false) 1) .fg = eff (act ex 1) .fg :=
  apply_bottom_display ex exN (some 1) (some 3) ex_st ex_en ex_wf exN_fresh ex_group exN_group 1 (Nat.le_refl _)
    (by decide) ex_lt .fg (by decide +kernel)
example : eff (act (ex.applyFormatting exN (some 1) (some 3) false) 1) .boldness = eff exN .boldness :=
  apply_bottom_shows ex exN (some 1) (some 3) ex_st ex_en ex_wf exN_fresh ex_group exN_group 1 (Nat.le_refl _)
    (by decide) ex_lt .boldness (by decide +kernel)

/-- topmost=True: green is displayed on character 1 (and bold) -/
example : act (ex.applyFormatting exN (some 1) (some 3) true) 1 = [red, blue, bold, green] ∧
    eff (act (ex.applyFormatting exN (some 1) (some 3) true) 1) .fg = some [32] ∧
    eff (act (ex.applyFormatting exN (some 1) (some 3) true) 1) .boldness = some [1] ∧
    eff (act (ex.applyFormatting exN (some 1) (some 3) true) 2) .fg = some [32] := by
  decide +kernel

example : eff (act (ex.applyFormatting exN (some 1) (some 3) true) 1) .fg = eff exN .fg :=
  apply_top_first_display ex exN (some 1) (some 3) ex_st ex_en ex_wf exN_fresh ex_group exN_group ex_lt (by decide)
    .fg (by decide +kernel)
example : eff (act (ex.applyFormatting exN (some 1) (some 3) true) 2) .bg = eff (act ex 2) .bg :=
  apply_top_keeps ex exN (some 1) (some 3) ex_st ex_en ex_wf exN_fresh ex_group exN_group 2 (by decide) (by decide)
    ex_lt
    (by intro k a b; have : k = 2 := by omega
        subst this; decide +kernel) .bg (by decide +kernel)

example : eff (act (ex.applyFormatting exN (some 1) (some 3) true) 3) = eff (act ex 3) :=
  apply_outside_display ex exN (some 1) (some 3) true ex_st ex_en ex_wf exN_fresh 3 (Or.inr (Nat.le_refl _))

/-- the "as long as no other setting begins in between" clause is needed: with red on `[0,4)` and
    blue starting at 2, green applied with topmost=True on `[1,4)` is displayed on character 1 but
    not on character 2, where blue begins -/
def ex2 : AStr :=
  { s := "abcd".toList
    fmts := [(0, { add := [red] }), (2, { add := [blue] }), (4, { rem := [red, blue] })] }

example : eff (act (ex2.applyFormatting [green] (some 1) (some 4) true) 1) .fg = some [32] ∧
    eff (act (ex2.applyFormatting [green] (some 1) (some 4) true) 2) .fg = some [34] := by
  decide +kernel

end C06b

#print axioms C06b.apply_bottom_display
#print axioms C06b.apply_bottom_shows
#print axioms C06b.apply_top_display
#print axioms C06b.apply_top_keeps
#print axioms C06b.apply_top_first_display
#print axioms C06b.apply_outside_display
