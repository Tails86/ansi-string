import AnsiModel.Generated.Methods.RemoveCore
import AnsiProofs.Props.C06d
import AnsiProofs.Props.C09c
import AnsiProofs.Props.C15c
import AnsiProofs.Lemmas.Remove

/-
  Property C07, part c — the statements of `AnsiString.remove_formatting` after the settings have been
  scrubbed, translated statement by statement (`Gen.removeCore`, `AnsiModel/Generated/Methods/RemoveCore.lean`),
  against the hand-written model `AStr.removeFormatting` (`removeLoop`, `removeAtStart`, `removeRems`,
  `selected` of `AnsiModel/Format.lean`).

  `removeCore_eq`: on a value whose table is sorted, and when the guard at the top of `remove_formatting`
  lets the statements run,

      Gen.removeCore x A st en = if loopOk … then .ok (x.removeFormatting (A.map texts) s e)
                                 else .error (.py .indexError)

  where `loopOk` (`Lemmas/Remove.lean`) is a Boolean function of the *model* (the replay of the table): "the
  `while` loop at `end` (`while carried_settings[0] not in removed_settings: del carried_settings[0]`) finds
  an element".  The model uses `dropWhile`, which is total; the code raises IndexError when the list is used
  up.  On a well-formed value (`WF`) `loopOk` holds (`loopOk_of_WF`: the entry left in `removed_settings` is
  an active setting that is neither stopped nor started at `end`, so it is in the list the loop walks);
  `xBad` below is a sorted, ill-formed table (one object started twice) on which the code does raise.

  `namespace L` does not mention `Gen.removeCore`: one fold lemma per loop of the method, each for an
  *arbitrary* loop body meeting a spec predicate (`StartSpec`, `RemsSpec`, `MidSpec`, `OuterSpec`), so that
  `removeCore_eq` only has to discharge the specs for the translated lambdas.
-/

namespace C07c
namespace L
open ObjL C06d.L Remove

theorem ite_ok_gen {ε α : Type} (c : Prop) [Decidable c] (a b : α) :
    (if c then (Except.ok a : Except ε α) else .ok b) = .ok (if c then a else b) :=
  ite_ok c a b

/-- `C06d.L.find_ge_zero` / `find_lt_zero` as propositions, the forms `simp` normalises to -/
theorem find_nonneg_iff (s : Setting) (l : List Setting) :
    0 ≤ Gen.findSettingReference s l ↔ hasId l s.id = true := by
  have := find_ge_zero s l
  rw [← this]
  simp

theorem find_neg_iff (s : Setting) (l : List Setting) :
    Gen.findSettingReference s l < 0 ↔ hasId l s.id = false := by
  have := find_nonneg_iff s l
  cases h : hasId l s.id <;> simp [h] at this ⊢ <;> omega

/-- every comparison of two natural keys, as integers, that the translated code makes -/
theorem cmp_lt {a b : Nat} (h : a < b) :
    ((a : Int) < b) ∧ ((a : Int) ≤ b) ∧ ((a : Int) ≠ b) ∧ ((b : Int) ≠ a) ∧ ¬ ((b : Int) < a) ∧
      ¬ ((b : Int) ≤ a) := by omega

theorem cmp_self (a : Nat) : ¬ ((a : Int) < a) ∧ ((a : Int) ≤ a) ∧ ((a : Int) = a) := by omega

theorem rangeDesc_zero : Py.rangeDesc ((0 : Nat) : Int) = [] := rfl

/-! ## `s in ansi_settings` and `selected` -/

theorem hasTxt_eq_contains (l : List Setting) (t : Str) : hasTxt l t = (texts l).contains t := by
  unfold hasTxt texts
  induction l with
  | nil => rfl
  | cons a l ih =>
    simp only [List.any_cons, List.map_cons, List.contains_cons, ih]
    rw [Bool.beq_comm]

theorem selected_none (s : Setting) : AStr.selected none s = true := rfl

theorem selected_some (l : List Setting) (s : Setting) :
    AStr.selected (some (texts l)) s = hasTxt l s.txt := by
  rw [hasTxt_eq_contains]; rfl

/-! ## The three inner loops -/

/-- one round of `for s in current_settings` at `start`: what `rasStep` says -/
def StartSpec (M : Option (List Str))
    (step : Point × List Setting → Setting → Except Exc (Point × List Setting)) : Prop :=
  ∀ acc s, step acc s = .ok (rasStep M acc s)

theorem fold_start {M : Option (List Str)} {step : Point × List Setting → Setting → Except Exc (Point × List Setting)}
    (h : StartSpec M step) (p : Point) (R cur : List Setting) :
    List.foldlM step (p, R) cur = .ok (AStr.removeAtStart M p R cur) := by
  rw [foldlM_ok h, removeAtStart_eq]

/-- one round of `for i in reversed(range(len(settings_point.rem)))`: the stop marker at `i` goes away
    together with its entry in `removed_settings`, when there is one -/
def RemsSpec (step : List Setting × Point → Int → Except Exc (List Setting × Point)) : Prop :=
  ∀ (R : List Setting) (sp : Point) (i : Nat) (s : Setting), sp.rem[i]? = some s →
    step (R, sp) (i : Int) =
      .ok (if hasId R s.id then (eraseId R s.id, { sp with rem := sp.rem.eraseIdx i }) else (R, sp))

theorem fold_rems {step : List Setting × Point → Int → Except Exc (List Setting × Point)}
    (h : RemsSpec step) (R : List Setting) (sp : Point) :
    List.foldlM step (R, sp) (Py.rangeDesc (sp.rem.length : Int)) =
      .ok ((AStr.removeRems sp.rem R).2, { sp with rem := (AStr.removeRems sp.rem R).1 }) :=
  foldlM_rangeDesc_del (fun l R => (R, { sp with rem := l })) (fun R s => hasId R s.id)
    (fun R s => eraseId R s.id) (fun _ R i s hi => h R _ i s hi) sp.rem R

/-- one round of `for i in reversed(range(len(settings_point.add)))` strictly inside the range: a selected
    start marker goes away and is noted in `removed_settings` -/
def MidSpec (M : Option (List Str))
    (step : Point × List Setting → Int → Except Exc (Point × List Setting)) : Prop :=
  ∀ (sp : Point) (R : List Setting) (i : Nat) (s : Setting), sp.add[i]? = some s →
    step (sp, R) (i : Int) =
      .ok (if AStr.selected M s then ({ sp with add := sp.add.eraseIdx i }, R ++ [s]) else (sp, R))

theorem fold_mid {M : Option (List Str)}
    {step : Point × List Setting → Int → Except Exc (Point × List Setting)}
    (h : MidSpec M step) (sp : Point) (R : List Setting) :
    List.foldlM step (sp, R) (Py.rangeDesc (sp.add.length : Int)) =
      .ok ({ sp with add := sp.add.filter (fun s => !AStr.selected M s) },
           R ++ (sp.add.filter (AStr.selected M)).reverse) := by
  have hf : ∀ l : List Setting,
      l.foldr (fun s (r : List Setting × List Setting) =>
          if AStr.selected M s then (r.1, r.2 ++ [s]) else (s :: r.1, r.2)) ([], R) =
        (l.filter (fun s => !AStr.selected M s), R ++ (l.filter (AStr.selected M)).reverse) := by
    intro l
    induction l with
    | nil => simp
    | cons s l ih => rw [List.foldr_cons, ih]; cases hs : AStr.selected M s <;> simp [hs]
  have := foldlM_rangeDesc_del (step := step) (fun l R => (({ sp with add := l } : Point), R))
    (fun _ s => AStr.selected M s) (fun R s => R ++ [s]) (fun _ R i s hi => h _ R i s hi) sp.add R
  rwa [hf] at this

/-! ## The outer loop over the keys of the table -/

/-- the state of the translated loop: the object, `removed_settings`, the iterator's `current_settings`,
    and "a `break` has been executed" -/
abbrev St := AStr × List Setting × List Setting × Bool

/-- one round of the loop over the keys, on a key that is present (`p` the point under it, `c` the
    iterator's settings before it) -/
structure OuterSpec (M : Option (List Str)) (st en : Nat) (s : Str) (step : St → Int → Except Exc St) : Prop where
  /-- after `break` nothing happens -/
  done : ∀ a R c k, step (a, R, c, true) k = .ok (a, R, c, true)
  /-- before `start`: the point is kept -/
  before : ∀ (F : Fmts) (R c : List Setting) (k : Nat) (p : Point), F.get? k = some p → k < st →
    step (⟨s, F⟩, R, c, false) (k : Int) = .ok (⟨s, F.modify k (fun _ => p)⟩, R, stepPoint c p, false)
  /-- behind `end`: the point is kept, `break` -/
  after : ∀ (F : Fmts) (R c : List Setting) (k : Nat) (p : Point), F.get? k = some p → ¬ k < st → k > en →
    step (⟨s, F⟩, R, c, false) (k : Int) = .ok (⟨s, F.modify k (fun _ => p)⟩, R, stepPoint c p, true)
  /-- at `start` -/
  start : ∀ (F : Fmts) (R c : List Setting) (k : Nat) (p : Point), F.get? k = some p → ¬ k < st → ¬ k > en →
    k = st →
    step (⟨s, F⟩, R, c, false) (k : Int) =
      .ok (⟨s, F.modify k (fun _ => (AStr.removeAtStart M p R (stepPoint c p)).1)⟩,
           (AStr.removeAtStart M p R (stepPoint c p)).2, stepPoint c p, false)
  /-- at `end`: the only place where an exception can come from -/
  atEnd : ∀ (F : Fmts) (R c : List Setting) (k : Nat) (p : Point), F.get? k = some p → ¬ k < st → ¬ k > en →
    k ≠ st → k = en →
    step (⟨s, F⟩, R, c, false) (k : Int) =
      if endOk s.length en p R (stepPoint c p) then
        .ok (⟨s, F.modify k (fun _ => endPt s.length en p R (stepPoint c p))⟩,
             (AStr.removeRems p.rem R).2, stepPoint c p, false)
      else .error (.py .indexError)
  /-- strictly inside -/
  mid : ∀ (F : Fmts) (R c : List Setting) (k : Nat) (p : Point), F.get? k = some p → ¬ k < st → ¬ k > en →
    k ≠ st → k ≠ en →
    step (⟨s, F⟩, R, c, false) (k : Int) =
      .ok (⟨s, F.modify k (fun _ => midPt M p R)⟩, midR M p R, stepPoint c p, false)

theorem OuterSpec.round {M : Option (List Str)} {st en : Nat} {s : Str} {step : St → Int → Except Exc St}
    (h : OuterSpec M st en s step) (F : Fmts) (R c : List Setting) (k : Nat) (p : Point)
    (hg : F.get? k = some p) :
    step (⟨s, F⟩, R, c, false) (k : Int) =
      if roundOk st en s.length k p R (stepPoint c p) then
        .ok (⟨s, F.modify k (fun _ => (roundPt M st en s.length k p R (stepPoint c p)).1)⟩,
             (roundPt M st en s.length k p R (stepPoint c p)).2.1, stepPoint c p,
             (roundPt M st en s.length k p R (stepPoint c p)).2.2)
      else .error (.py .indexError) := by
  by_cases h1 : k < st
  · rw [roundPt_before h1, roundOk_of_not fun c => c.1 h1]
    exact h.before F R c k p hg h1
  by_cases h2 : k > en
  · rw [roundPt_after h1 h2, roundOk_of_ne (Nat.ne_of_gt h2)]
    exact h.after F R c k p hg h1 h2
  by_cases h3 : k = st
  · rw [roundPt_start h1 h2 h3, roundOk_of_not fun c => c.2.1 h3]
    exact h.start F R c k p hg h1 h2 h3
  by_cases h4 : k = en
  · rw [roundPt_end h1 h2 h3 h4, roundOk_end h1 h3 h4]
    exact h.atEnd F R c k p hg h1 h2 h3 h4
  · rw [roundPt_mid h1 h2 h3 h4, roundOk_of_ne h4]
    exact h.mid F R c k p hg h1 h2 h3 h4

/-- `B` the keys still to come, `A` the part of the table already dealt with.  `SortedKeys` is needed
    for the point under the next key to be still the original one. -/
theorem fold_outer {M : Option (List Str)} {st en : Nat} {s : Str} {step : St → Int → Except Exc St}
    (h : OuterSpec M st en s step) :
    ∀ (B A : Fmts) (R c : List Setting), SortedKeys B → (∀ x ∈ A, ∀ y ∈ B, x.1 < y.1) →
      (List.foldlM step (⟨s, A ++ B⟩, R, c, false) (Obj.keysAsc B)).map (·.1) =
        if loopOk M st en s.length R (replayFrom c B) then
          .ok ⟨s, A ++ AStr.removeLoop M st en s.length R (replayFrom c B)⟩
        else .error (.py .indexError) := by
  intro B
  induction B with
  | nil => intro A R c _ _; rfl
  | cons kp B ih =>
    obtain ⟨k, p⟩ := kp
    intro A R c hs hAB
    have hA : ∀ x ∈ A, x.1 < k := fun x hx => hAB x hx (k, p) (by simp)
    have hB : ∀ y ∈ B, k < y.1 := fun y hy => (List.pairwise_cons.mp hs).1 y hy
    have hkeys : Obj.keysAsc ((k, p) :: B) = (k : Int) :: Obj.keysAsc B := rfl
    rw [hkeys, List.foldlM_cons, h.round _ R c k p (get?_mid p B hA), modify_mid p B _ hA]
    simp only [replayFrom, loopOk, removeLoop_round]
    cases hok : roundOk st en s.length k p R (stepPoint c p) with
    | false => rfl
    | true =>
      simp only [if_true, Bool.true_and]
      show (List.foldlM step _ _).map _ = _
      cases hd : (roundPt M st en s.length k p R (stepPoint c p)).2.2 with
      | true =>
        rw [foldlM_fixed (h.done _ _ _), replayFrom_untag]
        rfl
      | false =>
        simp only [Bool.false_eq_true, if_false]
        have := ih (A ++ [(k, (roundPt M st en s.length k p R (stepPoint c p)).1)])
          (roundPt M st en s.length k p R (stepPoint c p)).2.1 (stepPoint c p)
          (List.pairwise_cons.mp hs).2
          (by
            intro x hx y hy
            rcases List.mem_append.mp hx with hx | hx
            · exact hAB x hx y (List.mem_cons_of_mem _ hy)
            · simp only [List.mem_singleton] at hx
              subst hx
              exact hB y hy)
        simpa only [List.append_assoc, List.singleton_append] using this

/-! ## Putting the statements around the loop together -/

/-- `if k not in self._fmts: self._fmts[k] = _AnsiSettingPoint()` -/
theorem ensure_stmt {s : Str} {f : Fmts} {j : Nat} {e : Except Exc AStr}
    (h : e = if f.contains j then .ok ⟨s, f⟩ else .ok ⟨s, f.set j {}⟩) : e = .ok ⟨s, f.ensure j⟩ := by
  rw [h]; unfold Fmts.ensure; split <;> rfl

/-- the loop with what comes before (the initial state) and after it (dropping the empty points) -/
theorem core_frame {M : Option (List Str)} {st en : Nat} {s : Str} {step : St → Int → Except Exc St}
    {k : St → Except Exc AStr} {init : St} {keys : List Int} {B : Fmts}
    (hstep : OuterSpec M st en s step) (hB : SortedKeys B)
    (hinit : init = (⟨s, B⟩, [], [], false)) (hkeys : keys = Obj.keysAsc B)
    (hk : ∀ a R c d, k (a, R, c, d) = .ok { a with fmts := a.fmts.filter (fun kp => kp.2.nonEmpty) }) :
    (List.foldlM step init keys).bind k =
      if loopOk M st en s.length [] (replay B) then
        .ok ⟨s, (AStr.removeLoop M st en s.length [] (replay B)).filter (fun kp => kp.2.nonEmpty)⟩
      else .error (.py .indexError) := by
  subst hinit hkeys
  exact bind_of_map (g := fun a => { a with fmts := a.fmts.filter (fun kp => kp.2.nonEmpty) })
    (fold_outer hstep B [] [] [] hB (by simp)) (fun x => hk x.1 x.2.1 x.2.2.1 x.2.2.2)

/-! ## Totality: on a well-formed value the `while` loop at `end` finds an element -/

theorem loopOk_of_WF {x : AStr} (hx : WF x) (M : Option (List Str)) (st en : Nat) (h2 : st < en) :
    loopOk M st en x.len [] (replay ((x.fmts.ensure st).ensure en)) = true :=
  (f0_loop hx M st en h2).2.2

end L

open L ObjL C06d.L Remove

/-- the method did not fall outside the translator's fragment -/
theorem translated : Gen.removeCoreOk = true := by decide

set_option linter.unusedSimpArgs false in
theorem removeCore_eq (x : AStr) (hs : SortedKeys x.fmts) (A : Option (List Setting)) (s e : Option Int)
    (hgo : ¬ (sliceIdx x.len s 0 ≥ x.len ∨ sliceIdx x.len e x.len ≤ sliceIdx x.len s 0)) :
    Gen.removeCore x A (sliceIdx x.len s 0 : Nat) (sliceIdx x.len e x.len : Nat) =
      if loopOk (A.map texts) (sliceIdx x.len s 0) (sliceIdx x.len e x.len) x.len []
          (replay ((x.fmts.ensure (sliceIdx x.len s 0)).ensure (sliceIdx x.len e x.len))) then
        .ok (x.removeFormatting (A.map texts) s e)
      else .error (.py .indexError) := by
  unfold AStr.removeFormatting
  simp only [hgo, if_false]
  generalize sliceIdx x.len s 0 = st at *
  generalize sliceIdx x.len e x.len = en at *
  obtain ⟨xs, xf⟩ := x
  simp only [AStr.len] at *
  unfold Gen.removeCore
  have hse : st < en := by omega
  refine (bind_of_ok (a := ⟨xs, xf.ensure st⟩) (ensure_stmt ?_)).trans ?_
  · simp only [has_nat, set_nat, bind_ok, Bool.not_not] <;> cases xf.contains st <;> rfl
  refine (bind_of_ok (a := ⟨xs, (xf.ensure st).ensure en⟩) (ensure_stmt ?_)).trans ?_
  · simp only [has_nat, set_nat, bind_ok, Bool.not_not] <;> cases (xf.ensure st).contains en <;> rfl
  refine core_frame (M := A.map texts) (st := st) (en := en) ?spec
    (Fmts.sorted_ensure (Fmts.sorted_ensure hs st) en) rfl rfl ?k
  case k =>
    -- what follows the loop: the empty points are dropped
    intro a R c d
    simp only [C15c.point_bool_is_code]
  case spec =>
    -- one round of the loop over the keys; per branch, the comparisons of the key with `start` and `end`
    -- as facts about integers
    refine ⟨?done, ?before, ?after, ?start, ?atEnd, ?mid⟩
    case done =>
      intro a R c k
      first | rfl | simp
    case' before =>
      intro F R c k p hg h1
      have hc := And.intro (cmp_lt h1) (cmp_lt (show k < en by omega))
    case' after =>
      intro F R c k p hg h1 h2
      have hc := And.intro (cmp_lt h2) (cmp_lt (show st < k by omega))
    case' start =>
      intro F R c k p hg h1 h2 h3
      subst h3
      have hc := And.intro (cmp_self k) (cmp_lt hse)
    case' atEnd =>
      intro F R c k p hg h1 h2 h3 h4
      subst h4
      have hc := And.intro (cmp_self k) (cmp_lt hse)
    case' mid =>
      intro F R c k p hg h1 h2 h3 h4
      have hc := And.intro (cmp_lt (show st < k by omega)) (cmp_lt (show k < en by omega))
    -- the head of a round: fetch the point, step the iterator, decide the comparisons, clean up the
    -- Booleans; this finishes the two rounds outside the range
    all_goals
      simp only [↓reduceIte, get_of_get? hg, modifyAt_of_get? _ hg, hc, C09c.iter_step_is_code, bind_ok, gt_iff_lt,
        ge_iff_le, ne_eq, not_true_eq_false, not_false_eq_true, decide_true, decide_false, Bool.not_true,
        Bool.not_false, Bool.false_eq_true, Bool.true_and, Bool.and_true, Bool.false_and, Bool.and_false,
        if_true, if_false]
    case start =>
      rw [fold_start (M := A.map texts) ?sspec]
      case sspec =>
        intro acc s
        obtain ⟨sp, rs⟩ := acc
        unfold rasStep
        cases A with
        | none =>
          cases hh : hasId sp.add s.id <;>
            simp [find_nonneg_iff, find_neg_iff, hh, C09c.del_found, selected_none, bind_ok]
        | some l =>
          cases hh : hasId sp.add s.id <;> cases ht : hasTxt l s.txt <;>
            simp [find_nonneg_iff, find_neg_iff, hh, ht, C09c.del_found, selected_some, Py.optGet, bind_ok]
      first | rfl | simp [bind_ok]
    -- the other two rounds begin with the loop over the stop markers
    all_goals
      rw [fold_rems ?rspec]
      case rspec =>
        intro R sp i s hi
        have hlt := lt_of_getElem? hi
        cases hh : hasId R s.id <;>
          simp [getIdx_nat hi, find_nonneg_iff, find_neg_iff, hh, C09c.del_found, delIdx_nat hlt, bind_ok]
    case atEnd =>
      simp only [bind_ok, find_lt_zero, find_ge_zero, dropWhileHead_eq, sliceAssign_zero]
      unfold endOk endPt
      generalize AStr.removeRems p.rem R = rr
      have e5 : ((k : Int) = (xs.length : Int)) ↔ k = xs.length := by omega
      obtain ⟨r1, r2⟩ := rr
      by_cases h5 : k = xs.length <;> cases r2 <;>
        cases h7 : (List.filter (fun x => !hasId p.add x.id) (stepPoint c p)).all
          (fun x => !hasId (r1, _).2 x.id) <;>
        simp [e5, h5, h7, bind_ok, bind_error] <;> simp_all
    case mid =>
      simp only [bind_ok]
      rw [fold_mid (M := A.map texts) ?mspec]
      case mspec =>
        intro sp R i s hi
        have hlt := lt_of_getElem? hi
        cases A with
        | none => simp [getIdx_nat hi, delIdx_nat hlt, bind_ok, selected_none]
        | some l =>
          cases ht : hasTxt l s.txt <;>
            simp [getIdx_nat hi, delIdx_nat hlt, bind_ok, selected_some, Py.optGet, ht]
      first | rfl | simp [bind_ok, midPt, midR]

/-- no KeyError (`Exc.key`), nothing outside the model's representation (`Exc.outside`), no other Python
    exception than the IndexError of the `while` loop at `end` -/
theorem removeCore_outcomes (x : AStr) (hs : SortedKeys x.fmts) (A : Option (List Setting)) (s e : Option Int)
    (hgo : ¬ (sliceIdx x.len s 0 ≥ x.len ∨ sliceIdx x.len e x.len ≤ sliceIdx x.len s 0)) :
    Gen.removeCore x A (sliceIdx x.len s 0 : Nat) (sliceIdx x.len e x.len : Nat) =
        .ok (x.removeFormatting (A.map texts) s e) ∨
      Gen.removeCore x A (sliceIdx x.len s 0 : Nat) (sliceIdx x.len e x.len : Nat) =
        .error (.py .indexError) :=
  outcome_cases (removeCore_eq x hs A s e hgo)

theorem removeCore_sound (x : AStr) (hs : SortedKeys x.fmts) (A : Option (List Setting)) (s e : Option Int)
    (hgo : ¬ (sliceIdx x.len s 0 ≥ x.len ∨ sliceIdx x.len e x.len ≤ sliceIdx x.len s 0)) (y : AStr)
    (h : Gen.removeCore x A (sliceIdx x.len s 0 : Nat) (sliceIdx x.len e x.len : Nat) = .ok y) :
    y = x.removeFormatting (A.map texts) s e :=
  outcome_sound (removeCore_outcomes x hs A s e hgo) h

/-- the exact criterion for returning the model's value -/
theorem removeCore_is_code_partial (x : AStr) (hs : SortedKeys x.fmts) (A : Option (List Setting))
    (s e : Option Int)
    (hgo : ¬ (sliceIdx x.len s 0 ≥ x.len ∨ sliceIdx x.len e x.len ≤ sliceIdx x.len s 0)) :
    (Gen.removeCore x A (sliceIdx x.len s 0 : Nat) (sliceIdx x.len e x.len : Nat) =
        .ok (x.removeFormatting (A.map texts) s e)) ↔
      loopOk (A.map texts) (sliceIdx x.len s 0) (sliceIdx x.len e x.len) x.len []
        (replay ((x.fmts.ensure (sliceIdx x.len s 0)).ensure (sliceIdx x.len e x.len))) = true :=
  outcome_iff (removeCore_eq x hs A s e hgo)

/-- on well-formed values the translated statements of `remove_formatting` compute the model function:
    no IndexError, no KeyError, nothing outside the model -/
theorem removeCore_is_code (x : AStr) (hx : WF x) (A : Option (List Setting)) (s e : Option Int)
    (hgo : ¬ (sliceIdx x.len s 0 ≥ x.len ∨ sliceIdx x.len e x.len ≤ sliceIdx x.len s 0)) :
    Gen.removeCore x A (sliceIdx x.len s 0 : Nat) (sliceIdx x.len e x.len : Nat) =
      .ok (x.removeFormatting (A.map texts) s e) := by
  rw [removeCore_eq x hx.sorted A s e hgo, loopOk_of_WF hx _ _ _ (by omega)]
  rfl

/-! ## Non-vacuity -/

def x0 : AStr :=
  { s := "abcdef".toList,
    fmts := [(0, { add := [⟨0, "31".toList⟩] }), (2, { add := [⟨1, "1".toList⟩] }),
             (4, { rem := [⟨1, "1".toList⟩] }), (6, { rem := [⟨0, "31".toList⟩] })] }

theorem x0_wf : WF x0 := wf_of_finite (by decide +kernel)

example : SortedKeys x0.fmts ∧ WF x0 ∧
    ¬ (sliceIdx x0.len (some 1) 0 ≥ x0.len ∨ sliceIdx x0.len (some 5) x0.len ≤ sliceIdx x0.len (some 1) 0) :=
  ⟨x0_wf.sorted, x0_wf, by decide⟩

example : Gen.removeCore x0 none 1 5 = .ok (x0.removeFormatting none (some 1) (some 5)) :=
  removeCore_is_code x0 x0_wf none (some 1) (some 5) (by decide)
example : Gen.removeCore x0 (some [⟨9, "31".toList⟩]) 1 3 =
    .ok (x0.removeFormatting (some ["31".toList]) (some 1) (some 3)) :=
  removeCore_is_code x0 x0_wf (some [⟨9, "31".toList⟩]) (some 1) (some 3) (by decide)
example : Gen.removeCore x0 (some [⟨9, "31".toList⟩]) 0 6 =
    .ok (x0.removeFormatting (some ["31".toList]) (some 0) (some 6)) :=
  removeCore_is_code x0 x0_wf (some [⟨9, "31".toList⟩]) (some 0) (some 6) (by decide)
example : Gen.removeCore x0 (some [⟨9, "1".toList⟩]) 3 6 =
    .ok (x0.removeFormatting (some ["1".toList]) (some 3) (some 6)) :=
  removeCore_is_code x0 x0_wf (some [⟨9, "1".toList⟩]) (some 3) (some 6) (by decide)

/-- the value itself: `31` removed on [1,3) is stopped at 1 and restarted at 3 *below* `1` -/
example : Gen.removeCore x0 (some [⟨9, "31".toList⟩]) 1 3 = .ok
    { s := "abcdef".toList,
      fmts := [(0, { add := [⟨0, "31".toList⟩] }), (1, { rem := [⟨0, "31".toList⟩] }),
               (2, { add := [⟨1, "1".toList⟩] }),
               (3, { add := [⟨0, "31".toList⟩, ⟨1, "1".toList⟩], rem := [⟨1, "1".toList⟩] }),
               (4, { rem := [⟨1, "1".toList⟩] }), (6, { rem := [⟨0, "31".toList⟩] })] } := by
  decide +kernel

/-- An ill-formed (sorted) table on which the code raises IndexError while the model's `dropWhile` is
    total: the same object started twice (0 and 3) — at `end` = 3 the removed object is among the start
    markers of the point, so `carried_settings` is empty and `while carried_settings[0] …` runs off it. -/
def xBad : AStr :=
  { s := "abcdef".toList,
    fmts := [(0, { add := [⟨0, "31".toList⟩] }), (3, { add := [⟨0, "31".toList⟩] })] }

example : SortedKeys xBad.fmts := by unfold SortedKeys; decide
example : Gen.removeCore xBad none 1 3 = .error (.py .indexError) := by decide +kernel
example : loopOk none 1 3 xBad.len [] (replay ((xBad.fmts.ensure 1).ensure 3)) = false := by decide +kernel

end C07c

#print axioms C07c.removeCore_eq
#print axioms C07c.removeCore_sound
#print axioms C07c.removeCore_outcomes
#print axioms C07c.removeCore_is_code_partial
#print axioms C07c.removeCore_is_code
