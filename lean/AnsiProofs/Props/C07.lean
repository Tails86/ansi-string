import AnsiProofs.Lemmas.Remove
/-
  Property C07 — `remove_formatting(settings, start, end)` never changes the text; afterwards each
  character inside the slice-normalised range reports its previous settings minus every setting
  equal to one of the given ones (all of them when `settings` is `None`), the remaining ones keeping
  their relative precedence; each character outside the range reports the same settings with the
  same precedence as before.  An empty range is a no-op, and `clear_formatting()` leaves the text
  with no settings on any character.

  Notation: `M : Option (List Str)` are the scrubbed texts to remove (`none` = all),
  `st = sliceIdx x.len start 0`, `en = sliceIdx x.len end_ x.len`.
-/

open Remove

/-! ## text, empty range -/

theorem remove_text (x : AStr) (M : Option (List Str)) (start end_ : Option Int) :
    (x.removeFormatting M start end_).s = x.s := by
  unfold AStr.removeFormatting
  simp only
  split <;> rfl

theorem remove_noop (x : AStr) (M : Option (List Str)) (start end_ : Option Int)
    (h : sliceIdx x.len start 0 ≥ x.len ∨ sliceIdx x.len end_ x.len ≤ sliceIdx x.len start 0) :
    x.removeFormatting M start end_ = x := by
  unfold AStr.removeFormatting
  simp only [h, if_true]

/-! ## inside the range: the previous settings minus the selected ones, order kept -/

theorem remove_act (x : AStr) (hx : WF x) (M : Option (List Str)) (start end_ : Option Int) (i : Nat) :
    act (x.removeFormatting M start end_) i =
      if sliceIdx x.len start 0 ≤ i ∧ i < sliceIdx x.len end_ x.len then
        (act x i).filter (fun s => !AStr.selected M s)
      else act x i := by
  by_cases hn : sliceIdx x.len start 0 ≥ x.len ∨ sliceIdx x.len end_ x.len ≤ sliceIdx x.len start 0
  · have hle : sliceIdx x.len end_ x.len ≤ x.len := sliceIdx_le _ _ _ (Nat.le_refl _)
    rw [remove_noop x M start end_ hn, if_neg (by omega)]
  · rw [removeFormatting_eq x M start end_ hn]
    exact new_active hx M _ _ (by omega) i

set_option linter.unusedVariables false in
/-- (`h1` follows from `h2` and `h3`, the end of the range being at most `x.len`, and is not used.) -/
theorem remove_inside (x : AStr) (hx : WF x) (M : Option (List Str)) (start end_ : Option Int) (i : Nat)
    (h1 : sliceIdx x.len start 0 < x.len) (h2 : sliceIdx x.len start 0 ≤ i)
    (h3 : i < sliceIdx x.len end_ x.len) :
    act (x.removeFormatting M start end_) i = (act x i).filter (fun s => !AStr.selected M s) :=
  (remove_act x hx M start end_ i).trans (if_pos ⟨h2, h3⟩)

/-- with `settings=None` nothing is left inside the range -/
theorem remove_inside_all (x : AStr) (hx : WF x) (start end_ : Option Int) (i : Nat)
    (h1 : sliceIdx x.len start 0 < x.len) (h2 : sliceIdx x.len start 0 ≤ i)
    (h3 : i < sliceIdx x.len end_ x.len) :
    act (x.removeFormatting none start end_) i = [] := by
  rw [remove_inside x hx none start end_ i h1 h2 h3]
  apply List.filter_eq_nil_iff.mpr
  intro a _
  simp [AStr.selected]

/-! ## outside the range: same settings (same objects), same precedence -/

theorem remove_outside (x : AStr) (hx : WF x) (M : Option (List Str)) (start end_ : Option Int) (i : Nat)
    (h : i < sliceIdx x.len start 0 ∨ sliceIdx x.len end_ x.len ≤ i) :
    act (x.removeFormatting M start end_) i = act x i :=
  (remove_act x hx M start end_ i).trans
    (if_neg fun c => h.elim (Nat.not_lt.mpr c.1) (Nat.not_le.mpr c.2))

/-- hence the same displayed style outside the range -/
theorem remove_outside_eff (x : AStr) (hx : WF x) (M : Option (List Str)) (start end_ : Option Int) (i : Nat)
    (h : i < sliceIdx x.len start 0 ∨ sliceIdx x.len end_ x.len ≤ i) :
    eff (act (x.removeFormatting M start end_) i) = eff (act x i) := by
  rw [remove_outside x hx M start end_ i h]

/-! ## the history invariant is preserved -/

theorem remove_wf (x : AStr) (hx : WF x) (M : Option (List Str)) (start end_ : Option Int) :
    WF (x.removeFormatting M start end_) := by
  by_cases hn : sliceIdx x.len start 0 ≥ x.len ∨ sliceIdx x.len end_ x.len ≤ sliceIdx x.len start 0
  · rw [remove_noop x M start end_ hn]; exact hx
  · have hle : sliceIdx x.len end_ x.len ≤ x.len := sliceIdx_le _ _ _ (Nat.le_refl _)
    rw [removeFormatting_eq x M start end_ hn]
    exact new_wf hx M _ _ (by omega) (by omega) hle

/-! ## `clear_formatting` -/

theorem clear_all (x : AStr) (i : Nat) : act x.clearFormatting i = [] := rfl

theorem clear_text (x : AStr) : x.clearFormatting.s = x.s := rfl

/-! ## the raw entry point (argument scrubbing, falsy-but-not-None arguments) -/

theorem removeRaw_spec (x : AStr) (a : Option SArg) (start end_ : Option Int) (y' : AStr)
    (h : x.removeRaw a start end_ = .ok y') :
    y' = x ∨ (a = none ∧ y' = x.removeFormatting none start end_) ∨
      ∃ arg ts, a = some arg ∧ Scrub.scrub arg = .ok ts ∧ y' = x.removeFormatting (some ts) start end_ := by
  unfold AStr.removeRaw at h
  cases a with
  | none =>
    simp only at h
    split at h
    · left
      injection h with h
      exact h.symm
    · injection h with h
      exact Or.inr (Or.inl ⟨rfl, h.symm⟩)
  | some arg =>
    simp only at h
    split at h
    · left
      injection h with h
      exact h.symm
    · cases hs : Scrub.scrub arg with
      | error e =>
        rw [hs] at h
        cases h
      | ok ts =>
        rw [hs] at h
        injection h with h
        exact Or.inr (Or.inr ⟨arg, ts, rfl, hs, h.symm⟩)

/-! ## Non-vacuity: `abcd`, red and blue (two objects) over the whole text, remove red on `[1,2)` -/

namespace C07Ex

def red : Setting := ⟨0, "31".toList⟩
def blue : Setting := ⟨1, "34".toList⟩

def x0 : AStr :=
  { s := "abcd".toList, fmts := [(0, { add := [red, blue] }), (4, { rem := [red, blue] })] }

theorem x0_wf : WF x0 := wf_of_finite (by decide +kernel)

/-- `remove_formatting("31", 1, 2)` -/
def y0 : AStr := x0.removeFormatting (some ["31".toList]) (some 1) (some 2)

example : y0.s = "abcd".toList := by decide +kernel
example : act y0 0 = [red, blue] := by decide +kernel
example : act y0 1 = [blue] := by decide +kernel
/-- characters 2 and 3: red is back *below* blue, as before -/
example : act y0 2 = [red, blue] := by decide +kernel
example : act y0 3 = [red, blue] := by decide +kernel
example : y0.fmts =
    [(0, { add := [red, blue] }), (1, { rem := [red] }),
     (2, { add := [red, blue], rem := [blue] }), (4, { rem := [red, blue] })] := by decide +kernel

example : sliceIdx x0.len (some 1) 0 < x0.len ∧ sliceIdx x0.len (some 1) 0 ≤ 1 ∧
    1 < sliceIdx x0.len (some 2) x0.len := by decide +kernel
example : 0 < sliceIdx x0.len (some 1) 0 ∧ sliceIdx x0.len (some 2) x0.len ≤ 3 := by decide +kernel
example : act y0 1 = (act x0 1).filter (fun s => !AStr.selected (some ["31".toList]) s) :=
  remove_inside x0 x0_wf _ _ _ 1 (by decide +kernel) (by decide +kernel) (by decide +kernel)
example : act y0 3 = act x0 3 := remove_outside x0 x0_wf _ _ _ 3 (Or.inr (by decide +kernel))
example : WF y0 := remove_wf x0 x0_wf _ _ _
/-- empty range -/
example : sliceIdx x0.len (some 2) 0 ≥ x0.len ∨ sliceIdx x0.len (some 2) x0.len ≤ sliceIdx x0.len (some 2) 0 := by
  decide +kernel
/-- remove everything on `[1,3)`, negative bound -/
example : act (x0.removeFormatting none (some 1) (some (-1))) 2 = [] := by decide +kernel
example : act (x0.removeFormatting none (some 1) (some (-1))) 3 = [red, blue] := by decide +kernel
example : x0.removeRaw (some (.obj "31".toList)) (some 1) (some 2) = .ok y0 := rfl

/-! a second value: a change point strictly inside the range, the removed setting in the middle of
    the precedence order at `end` (so `carried = [red, c]`, `c` is stopped and restarted above `red`) -/

def a : Setting := ⟨2, "1".toList⟩
def c : Setting := ⟨3, "4".toList⟩

def x1 : AStr :=
  { s := "abcdef".toList,
    fmts := [(0, { add := [a] }), (1, { add := [red] }), (3, { add := [c] }), (5, { rem := [red] }),
             (6, { rem := [a, c] })] }

theorem x1_wf : WF x1 := wf_of_finite (by decide +kernel)

def y1 : AStr := x1.removeFormatting (some ["31".toList]) (some 2) (some 4)

example : (List.range 6).map (act x1) = [[a], [a, red], [a, red], [a, red, c], [a, red, c], [a, c]] := by decide +kernel
example : (List.range 6).map (act y1) = [[a], [a, red], [a], [a, c], [a, red, c], [a, c]] := by decide +kernel
example : y1.fmts =
    [(0, { add := [a] }), (1, { add := [red] }), (2, { rem := [red] }), (3, { add := [c] }),
     (4, { add := [red, c], rem := [c] }), (5, { rem := [red] }), (6, { rem := [a, c] })] := by decide +kernel
example : act y1 4 = act x1 4 := remove_outside x1 x1_wf _ _ _ 4 (Or.inr (by decide +kernel))
example : act y1 3 = (act x1 3).filter (fun s => !AStr.selected (some ["31".toList]) s) :=
  remove_inside x1 x1_wf _ _ _ 3 (by decide +kernel) (by decide +kernel) (by decide +kernel)
example : WF y1 := remove_wf x1 x1_wf _ _ _

end C07Ex

#print axioms remove_text
#print axioms remove_noop
#print axioms remove_inside
#print axioms remove_inside_all
#print axioms remove_outside
#print axioms remove_outside_eff
#print axioms remove_wf
#print axioms clear_all
#print axioms clear_text
#print axioms removeRaw_spec
