import AnsiProofs.Lemmas.Pad
import AnsiProofs.Lemmas.StrLit
/-
  Property C12 — padding (`ljust`, `rjust`, `center`, `zfill`), `assign_str` with a text that is
  not shorter, and the `[fill][+|-][<|>|^][width]` part of a format spec.

  In the statements `padNum x w = (w - x.len).toNat` is the number of fill characters and `act x k`
  the settings character `k` reports.  The specifications are stated in this file:
  `PySpec.formatAlign` (Python's `format()` alignment of a `str`), `Grammar.fmtSpec` / `Grammar.Mem`
  (the grammar of the justification part), `PySpec.padApply` (what `_apply_string_format` has to do
  once the spec is parsed).

  The model is functional: `x.toStr …`, `x.ljust …` return new values, so "never changes `s`" is
  true by construction (Python: `to_str` works on `self.copy()`, checked by the harness).
-/

namespace C12
open PadL

/-! ## Independent specifications -/

namespace PySpec

/-- Python's `format(s, f"{fill}{align}{width}")` for a `str`: `'^'` puts the extra fill
    character on the right -/
def formatAlign (s : Str) (fill : Char) (align : Char) (width : Int) : Str :=
  let num := (width - s.length).toNat
  let left := match align with
    | '<' => 0
    | '>' => num
    | _ => num / 2
  List.replicate left fill ++ s ++ List.replicate (num - left) fill

example : formatAlign "ab".toList '*' '<' 5 = "ab***".toList := by decide
example : formatAlign "ab".toList '*' '>' 5 = "***ab".toList := by decide
example : formatAlign "ab".toList '*' '^' 5 = "*ab**".toList := by decide
example : formatAlign "ab".toList '*' '^' 1 = "ab".toList := by decide
example : formatAlign "ab".toList '*' '^' (-3) = "ab".toList := by decide

def pad (obj : AStr) (al : Char) (w : Int) (fill : Char) (extend : Bool) : AStr :=
  if al = '<' then obj.ljust w fill extend
  else if al = '>' then obj.rjust w fill extend
  else obj.center w fill extend

/-- what `_apply_string_format` has to do with the parsed parts and the ansi part of the spec
    (`none` = no `:ansi` part): apply the ansi part first when formatting is not extended, pad
    (only when a width is given), apply the ansi part last when formatting is extended -/
def padApply (obj : AStr) (nid : Nat) (fill : Char) (extend : Bool) (al : Char) (digits : Str)
    (ansi : Option Str) : Except PyErr AStr := do
  let st : SArg := .str (ansi.getD [])
  let present : Bool := match ansi with | some s => !s.isEmpty | none => false
  let obj ← if !extend ∧ present then obj.applyRaw nid st none none else pure obj
  let obj := if digits.isEmpty then obj else pad obj al (Py.digitsVal digits) fill extend
  if extend ∧ present then obj.applyRaw nid st none none else pure obj

end PySpec

namespace Grammar

def isSign (c : Char) : Bool := c == '+' || c == '-'
def isAlign (c : Char) : Bool := c == '<' || c == '>' || c == '^'
def isDigit (c : Char) : Bool := '0' ≤ c && c ≤ '9'

/-- fill, sign, alignment (`'<'` for a bare width), width digits (possibly none) -/
abbrev Parts := Option Char × Option Char × Char × Str

/-- `fill sign a digits*` -/
def form3 (a : Char) : Str → Option Parts
  | f :: g :: a' :: ds =>
    if f != '\n' && isSign g && a' == a && ds.all isDigit then some (some f, some g, a, ds) else none
  | _ => none
/-- `fill a digits*` -/
def form2 (a : Char) : Str → Option Parts
  | f :: a' :: ds => if f != '\n' && a' == a && ds.all isDigit then some (some f, none, a, ds) else none
  | _ => none
/-- `sign a digits*` -/
def formS (a : Char) : Str → Option Parts
  | g :: a' :: ds => if isSign g && a' == a && ds.all isDigit then some (none, some g, a, ds) else none
  | _ => none
/-- `a digits*` -/
def form1 (a : Char) : Str → Option Parts
  | a' :: ds => if a' == a && ds.all isDigit then some (none, none, a, ds) else none
  | _ => none
/-- `digits*`: a bare width left-justifies -/
def bare (s : Str) : Option Parts := if s.all isDigit then some (none, none, '<', s) else none

/-- the readings with alignment character `a`, a reading with a fill character first -/
def withAlign (a : Char) (s : Str) : Option Parts :=
  (form3 a s).or ((form2 a s).or ((formS a s).or (form1 a s)))

/-- The grammar `[fill][sign]align digits* | digits*` of the justification part as a parser:
    the first reading that applies.  The readings for different alignment characters and the bare
    width exclude each other; the only ambiguity is `sign align …` against `fill align …`, which
    the library resolves in favour of the fill character (see `fmtSpec_sign_needs_fill`). -/
def fmtSpec (s : Str) : Option Parts :=
  ((withAlign '<' s).or (bare s)).or ((withAlign '>' s).or (withAlign '^' s))

/-- the same grammar as a set of texts -/
def Mem (s : Str) : Prop :=
  (∃ (fill sg : Option Char) (al : Char) (ds : Str), s = fill.toList ++ sg.toList ++ al :: ds ∧
     (∀ c, fill = some c → c ≠ '\n') ∧ (∀ c, sg = some c → isSign c = true) ∧ isAlign al = true ∧
     ds.all isDigit = true)
  ∨ s.all isDigit = true

/-- the text without one final newline: the library's `$` also matches before a final `'\n'` -/
def stripNl (s : Str) : Str := if s.getLast? = some '\n' then s.dropLast else s

/-- the rest of a format spec after the justification part: nothing, or `:` and the ansi part -/
def ansiSuffix : Option Str → Str
  | none => []
  | some a => ':' :: a

/-- the `format_parts` of `to_str` (the library's own splitter `(^.?[-\+]?[<>\^]?[0-9]*)(:.*)?$`) -/
def specParts (spec : Str) : Str × Option Str :=
  match Re.matchStart Render.reSpec spec with
  | none => (spec, none)
  | some caps =>
    match Re.group caps 2 with
    | some (_ :: rest) => ((Re.group caps 1).getD [], some rest)
    | _ => ((Re.group caps 1).getD [], none)

end Grammar

/-! the specifications above are, definitionally, the ones the helper lemmas are stated for -/
theorem padApply_eq : @PySpec.padApply = @Rx.padApply := rfl
theorem fmtSpec_eq : Grammar.fmtSpec = Rx.parse := rfl
theorem mem_eq : Grammar.Mem = Rx.Mem := rfl
theorem stripNl_eq (s : Str) : Grammar.stripNl s = Rx.stripNl s := Rx.stripNlDecl_eq s
theorem ansiSuffix_eq : Grammar.ansiSuffix = Rx.suffix := rfl
theorem specParts_eq : Grammar.specParts = Rx.specParts := rfl

abbrev padNum (x : AStr) (w : Int) : Nat := (w - (x.len : Int)).toNat

/-! ## The text is what Python's `format()` produces -/

theorem ljust_text (x : AStr) (w : Int) (c : Char) (e : Bool) :
    (x.ljust w c e).s = PySpec.formatAlign x.s c '<' w := by
  rw [AStr.ljust_s]; simp [PySpec.formatAlign, AStr.len]

theorem rjust_text (x : AStr) (w : Int) (c : Char) (e : Bool) :
    (x.rjust w c e).s = PySpec.formatAlign x.s c '>' w := by
  rw [AStr.rjust_s]; simp [PySpec.formatAlign, AStr.len]

theorem center_text (x : AStr) (w : Int) (c : Char) (e : Bool) :
    (x.center w c e).s = PySpec.formatAlign x.s c '^' w := by
  rw [AStr.center_s]; simp [PySpec.formatAlign, AStr.len]

theorem zfill_eq (x : AStr) (w : Int) : x.zfill w = x.rjust w '0' true := rfl

theorem zfill_text (x : AStr) (w : Int) : (x.zfill w).s = PySpec.formatAlign x.s '0' '>' w :=
  rjust_text x w '0' true

/-! ## Original characters keep their settings -/

theorem ljust_original {x : AStr} (hw : WF x) (w : Int) (c : Char) (e : Bool) {k : Nat}
    (hk : k < x.len) : act (x.ljust w c e) k = act x k := by
  rw [AStr.act_ljust hw, ← padAct_original (Nat.zero_le _) e hk, Nat.zero_add]

theorem rjust_original {x : AStr} (hw : WF x) (w : Int) (c : Char) (e : Bool) {k : Nat}
    (_hk : k < x.len) : act (x.rjust w c e) (padNum x w + k) = act x k := by
  rw [AStr.act_rjust hw]; exact padAct_original (Nat.le_refl _) e _hk

theorem center_original {x : AStr} (hw : WF x) (w : Int) (c : Char) (e : Bool) {k : Nat}
    (hk : k < x.len) : act (x.center w c e) (padNum x w / 2 + k) = act x k := by
  rw [AStr.act_center hw]; exact padAct_original (Nat.div_le_self _ _) e hk

/-! ## Fill characters -/

/-! ### extended formatting: the adjacent original character's settings -/

theorem ljust_fill_ext {x : AStr} (hw : WF x) (w : Int) (c : Char) (hn : 0 < x.len) {j : Nat}
    (h1 : x.len ≤ j) (h2 : j < x.len + padNum x w) :
    act (x.ljust w c true) j = act x (x.len - 1) := by
  rw [AStr.act_ljust hw]; exact padAct_right_ext hw hn (by omega) h2

theorem rjust_fill_ext {x : AStr} (hw : WF x) (w : Int) (c : Char) {j : Nat}
    (h : j < padNum x w) : act (x.rjust w c true) j = act x 0 := by
  rw [AStr.act_rjust hw]; exact padAct_left_ext hw (Nat.le_refl _) h

theorem center_fill_ext_left {x : AStr} (hw : WF x) (w : Int) (c : Char) (hn : 0 < x.len) {j : Nat}
    (h : j < padNum x w / 2) : act (x.center w c true) j = act x 0 := by
  rw [AStr.act_center hw]; exact padAct_left_ext hw (Nat.div_le_self _ _) h

theorem center_fill_ext_right {x : AStr} (hw : WF x) (w : Int) (c : Char) (hn : 0 < x.len) {j : Nat}
    (h1 : padNum x w / 2 + x.len ≤ j) (h2 : j < x.len + padNum x w) :
    act (x.center w c true) j = act x (x.len - 1) := by
  rw [AStr.act_center hw]; exact padAct_right_ext hw hn h1 h2

/-! ### formatting not extended: no settings (for every position outside the original text) -/

theorem ljust_fill_plain {x : AStr} (hw : WF x) (w : Int) (c : Char) {j : Nat} (h1 : x.len ≤ j) :
    act (x.ljust w c false) j = [] := by
  rw [AStr.act_ljust hw]; exact padAct_plain hw _ (by omega)

theorem rjust_fill_plain {x : AStr} (hw : WF x) (w : Int) (c : Char) {j : Nat}
    (h : j < padNum x w) : act (x.rjust w c false) j = [] := by
  rw [AStr.act_rjust hw]; exact padAct_plain hw _ (Or.inl h)

theorem center_fill_plain_left {x : AStr} (hw : WF x) (w : Int) (c : Char) {j : Nat}
    (h : j < padNum x w / 2) : act (x.center w c false) j = [] := by
  rw [AStr.act_center hw]; exact padAct_plain hw _ (Or.inl h)

theorem center_fill_plain_right {x : AStr} (hw : WF x) (w : Int) (c : Char) {j : Nat}
    (h1 : padNum x w / 2 + x.len ≤ j) : act (x.center w c false) j = [] := by
  rw [AStr.act_center hw]; exact padAct_plain hw _ (Or.inr h1)

/-! ### the empty text: every position of the result reports no settings -/

theorem ljust_fill_empty {x : AStr} (hw : WF x) (w : Int) (c : Char) (e : Bool) (hn : x.len = 0)
    (j : Nat) : act (x.ljust w c e) j = [] := by
  rw [AStr.act_ljust hw]; exact padAct_empty hw hn _ _ e j

theorem rjust_fill_empty {x : AStr} (hw : WF x) (w : Int) (c : Char) (e : Bool) (hn : x.len = 0)
    (j : Nat) : act (x.rjust w c e) j = [] := by
  rw [AStr.act_rjust hw]; exact padAct_empty hw hn _ _ e j

theorem center_fill_empty {x : AStr} (hw : WF x) (w : Int) (c : Char) (e : Bool) (hn : x.len = 0)
    (j : Nat) : act (x.center w c e) j = [] := by
  rw [AStr.act_center hw]; exact padAct_empty hw hn _ _ e j

/-! ## The invariant is preserved (no marker beyond the new length, everything closed at the
    new end — `center` on the unrepaired library failed exactly this) -/

theorem ljust_wf {x : AStr} (hw : WF x) (w : Int) (c : Char) (e : Bool) : WF (x.ljust w c e) := by
  refine wf_of_padAct hw (Nat.zero_le _) (AStr.ljust_len x w c e) ?_ (AStr.act_ljust hw w c e)
  by_cases h : 0 < (w - (x.len : Int)).toNat
  · cases e with
    | true =>
      rw [AStr.ljust_fmts_ext hw.sorted c h]
      exact moved_padExt hw.sorted hw.bound (by omega)
    | false =>
      rw [AStr.ljust_fmts_plain]
      exact moved_self hw.sorted hw.bound _
  · rw [AStr.ljust_noop' c e (by omega)]
    exact moved_self hw.sorted hw.bound _

theorem rjust_wf {x : AStr} (hw : WF x) (w : Int) (c : Char) (e : Bool) : WF (x.rjust w c e) := by
  refine wf_of_padAct hw (Nat.le_refl _) (AStr.rjust_len x w c e) ?_ (AStr.act_rjust hw w c e)
  rw [AStr.rjust_fmts]
  exact moved_shiftKeys hw.sorted hw.bound (Nat.le_refl _) e

theorem center_wf {x : AStr} (hw : WF x) (w : Int) (c : Char) (e : Bool) : WF (x.center w c e) := by
  refine wf_of_padAct hw (Nat.div_le_self _ 2) (AStr.center_len x w c e) ?_ (AStr.act_center hw w c e)
  cases e with
  | false =>
    rw [AStr.center_fmts_plain]
    exact moved_shiftKeys hw.sorted hw.bound (Nat.div_le_self _ 2) false
  | true =>
    by_cases h : 0 < (w - (x.len : Int)).toNat
    · rw [AStr.center_fmts_ext x c h]
      exact moved_padExt hw.sorted hw.bound (by omega)
    · rw [AStr.center_noop' c true (by omega)]
      exact moved_self hw.sorted hw.bound _

theorem zfill_wf {x : AStr} (hw : WF x) (w : Int) : WF (x.zfill w) := rjust_wf hw w '0' true

/-! ## A width that is not larger than the text changes nothing -/

theorem ljust_noop (x : AStr) {w : Int} (c : Char) (e : Bool) (h : w ≤ x.len) : x.ljust w c e = x :=
  AStr.ljust_noop' c e (by omega)

theorem rjust_noop (x : AStr) {w : Int} (c : Char) (e : Bool) (h : w ≤ x.len) : x.rjust w c e = x :=
  AStr.rjust_noop' c e (by omega)

theorem center_noop (x : AStr) {w : Int} (c : Char) (e : Bool) (h : w ≤ x.len) : x.center w c e = x :=
  AStr.center_noop' c e (by omega)

/-! ## `assign_str` with a text that is not shorter -/

theorem assignStr_text (x : AStr) (t : Str) : (x.assignStr t).s = t := AStr.assignStr_s x t

/-- a text that is not shorter: `len t - len x` fill characters behind, formatting extended -/
theorem act_assignStr {x : AStr} (hw : WF x) {t : Str} (ht : x.len ≤ t.length) (j : Nat) :
    act (x.assignStr t) j = padAct x 0 (t.length - x.len) true j := by
  unfold act
  by_cases h : x.len < t.length
  · rw [AStr.assignStr_fmts_longer hw.sorted h, active_padExt hw (by omega)]
    unfold padAct
    rw [if_pos rfl, show x.len + (t.length - x.len) = t.length by omega]
  · rw [AStr.assignStr_fmts_same (by omega), show t.length - x.len = 0 by omega]
    exact (padAct_zero hw true j).symm

theorem assignStr_keep {x : AStr} (hw : WF x) {t : Str} (ht : t.length ≥ x.len) {k : Nat}
    (hk : k < x.len) : act (x.assignStr t) k = act x k := by
  rw [act_assignStr hw ht, ← padAct_original (Nat.zero_le _) true hk, Nat.zero_add]

/-- added characters take the last character's settings -/
theorem assignStr_extend {x : AStr} (hw : WF x) {t : Str} (hn : 0 < x.len) {k : Nat}
    (h1 : x.len ≤ k) (h2 : k < t.length) : act (x.assignStr t) k = act x (x.len - 1) := by
  rw [act_assignStr hw (by omega)]
  exact padAct_right_ext hw hn (by omega) (by omega)

/-- … and none when the old text was empty -/
theorem assignStr_extend_empty {x : AStr} (hw : WF x) {t : Str} (hn : x.len = 0) (k : Nat) :
    act (x.assignStr t) k = [] := by
  rw [act_assignStr hw (by omega)]
  exact padAct_empty hw hn _ _ _ _

theorem assignStr_wf_longer {x : AStr} (hw : WF x) {t : Str} (ht : t.length ≥ x.len) :
    WF (x.assignStr t) := by
  have hlen : (x.assignStr t).len = x.len + (t.length - x.len) := by
    unfold AStr.len at ht ⊢
    rw [assignStr_text]
    omega
  refine wf_of_padAct hw (Nat.zero_le _) hlen ?_ (act_assignStr hw ht)
  by_cases h : x.len < t.length
  · rw [AStr.assignStr_fmts_longer hw.sorted h, show x.len + (t.length - x.len) = t.length by omega]
    exact moved_padExt hw.sorted hw.bound (by omega)
  · rw [AStr.assignStr_fmts_same (by omega)]
    exact moved_self hw.sorted hw.bound _

/-! ## The grammar of the justification part decides `_apply_string_format` -/

/-- `_apply_string_format(fmt, settings)`: `ValueError` when `fmt` without one final newline is
    outside the grammar; otherwise the padding/`apply_formatting` sequence `PySpec.padApply` with the
    fill character (default `' '`), the extend flag (sign ≠ `'-'`), the justification and the width
    digits of the grammar's reading. -/
theorem fmtspec_grammar (obj : AStr) (nid : Nat) (fmt : Str) (settings : Option Str) :
    Render.applyStringFormat obj nid fmt settings =
      match Grammar.fmtSpec (Grammar.stripNl fmt) with
      | none => .error .valueError
      | some (fill, sign, al, ds) =>
        PySpec.padApply obj nid (fill.getD ' ') (sign != some '-') al ds settings := by
  rw [Rx.applyStringFormat_eq, stripNl_eq]
  unfold Rx.specApply
  rw [fmtSpec_eq]
  cases Rx.parse (Rx.stripNl fmt) with
  | none => rfl
  | some p => obtain ⟨fill, sign, al, ds⟩ := p; rfl

theorem fmtspec_reject (obj : AStr) (nid : Nat) (fmt : Str) (settings : Option Str)
    (h : Grammar.fmtSpec (Grammar.stripNl fmt) = none) :
    Render.applyStringFormat obj nid fmt settings = .error .valueError := by
  rw [fmtspec_grammar, h]

theorem fmtspec_accept (obj : AStr) (nid : Nat) (fmt : Str) (settings : Option Str)
    {fill sign : Option Char} {al : Char} {ds : Str}
    (h : Grammar.fmtSpec (Grammar.stripNl fmt) = some (fill, sign, al, ds)) :
    Render.applyStringFormat obj nid fmt settings =
      PySpec.padApply obj nid (fill.getD ' ') (sign != some '-') al ds settings := by
  rw [fmtspec_grammar, h]

/-- without an ansi part nothing else can fail: the error is raised exactly outside the grammar -/
theorem fmtspec_error_iff (obj : AStr) (nid : Nat) (fmt : Str) :
    Render.applyStringFormat obj nid fmt none = .error .valueError ↔
      Grammar.fmtSpec (Grammar.stripNl fmt) = none := by
  rw [fmtspec_grammar]
  cases h : Grammar.fmtSpec (Grammar.stripNl fmt) with
  | none => simp
  | some p => simp [PySpec.padApply, pure, Except.pure, bind, Except.bind]

theorem fmtSpec_isSome_iff_mem (s : Str) : (Grammar.fmtSpec s).isSome = true ↔ Grammar.Mem s :=
  Rx.parse_isSome_iff s

theorem fmtSpec_no_newline {s : Str} {p : Grammar.Parts} (h : Grammar.fmtSpec s = some p) :
    '\n' ∉ s ∧ Grammar.stripNl s = s := by
  have := Rx.parse_no_nl h
  exact ⟨this, by rw [stripNl_eq, Rx.stripNl_of_no_nl this]⟩

/-- the one ambiguity: "sign without fill" is never the library's reading — `'-<5'` is fill `'-'`
    with extended formatting, not "do not extend" -/
theorem fmtSpec_sign_needs_fill {s : Str} {sg : Option Char} {al : Char} {ds : Str}
    (h : Grammar.fmtSpec s = some (none, sg, al, ds)) : sg = none :=
  Rx.parse_never_sign_without_fill h

/-! ### concrete decisions -/

example : Grammar.fmtSpec "+5".toList = none := by
  simp only [strLitToList]
  decide
example : Grammar.fmtSpec " 5".toList = none := by
  simp only [strLitToList]
  decide
example : Grammar.fmtSpec "x".toList = none := by
  simp only [strLitToList]
  decide
example : Grammar.fmtSpec "a+b".toList = none := by
  simp only [strLitToList]
  decide
example : Grammar.fmtSpec "5\n".toList = none := by
  simp only [strLitToList]
  decide
example : Grammar.fmtSpec (Grammar.stripNl "5\n".toList) = some (none, none, '<', ['5']) := by
  simp only [strLitToList]
  decide
example : Grammar.fmtSpec (Grammar.stripNl "5\n\n".toList) = none := by
  simp only [strLitToList]
  decide
example : Grammar.fmtSpec "5".toList = some (none, none, '<', ['5']) := by
  simp only [strLitToList]
  decide
example : Grammar.fmtSpec "05".toList = some (none, none, '<', ['0', '5']) := by
  simp only [strLitToList]
  decide
example : Grammar.fmtSpec "<5".toList = some (none, none, '<', ['5']) := by
  simp only [strLitToList]
  decide
example : Grammar.fmtSpec "*>7".toList = some (some '*', none, '>', ['7']) := by
  simp only [strLitToList]
  decide
example : Grammar.fmtSpec ":^9".toList = some (some ':', none, '^', ['9']) := by
  simp only [strLitToList]
  decide
example : Grammar.fmtSpec "+<3".toList = some (some '+', none, '<', ['3']) := by
  simp only [strLitToList]
  decide
example : Grammar.fmtSpec "*-^4".toList = some (some '*', some '-', '^', ['4']) := by
  simp only [strLitToList]
  decide
example : Grammar.fmtSpec "<".toList = some (none, none, '<', []) := by
  simp only [strLitToList]
  decide
/-- `'<<5'` is NOT rejected: fill `'<'`, left, width 5 —
    the same reading as Python's `format('ab', '<<5') = 'ab<<<'` -/
example : Grammar.fmtSpec "<<5".toList = some (some '<', none, '<', ['5']) := by
  simp only [strLitToList]
  decide
example : Grammar.fmtSpec "-<5".toList = some (some '-', none, '<', ['5']) := by
  simp only [strLitToList]
  decide

/-! the same decisions on the library's regular expressions themselves -/
example : Re.matchStart Render.reLeft "+5".toList = none ∧
    Re.matchStart (Render.reAligned '>') "+5".toList = none ∧
    Re.matchStart (Render.reAligned '^') "+5".toList = none := by decide
example : Re.matchStart Render.reLeft "a+b".toList = none ∧
    Re.matchStart (Render.reAligned '>') "a+b".toList = none ∧
    Re.matchStart (Render.reAligned '^') "a+b".toList = none := by decide
example : Re.matchStart Render.reLeft "<<5".toList = some [(3, ['5']), (2, []), (1, ['<'])] := by decide
example : Re.matchStart Render.reLeft "*-^4".toList = none ∧
    Re.matchStart (Render.reAligned '>') "*-^4".toList = none ∧
    Re.matchStart (Render.reAligned '^') "*-^4".toList = some [(3, ['4']), (2, ['-']), (1, ['*'])] := by
  decide
example (obj : AStr) (nid : Nat) (st : Option Str) :
    Render.applyStringFormat obj nid "+5".toList st = .error .valueError :=
  fmtspec_reject obj nid _ st (by decide)
example (obj : AStr) (nid : Nat) :
    Render.applyStringFormat obj nid "*-^4".toList none = .ok (obj.center 4 '*' false) :=
  fmtspec_accept obj nid _ none (fill := some '*') (sign := some '-') (al := '^') (ds := ['4']) (by decide)

/-! ## `format(x, spec)` / `to_str(spec)` = pad and `apply_formatting` on a copy, then render -/

/-- an ansi part without newline is one the splitter's `.*` takes whole -/
theorem all_dot {ansi : Option Str} (ha : ∀ a, ansi = some a → '\n' ∉ a) :
    ∀ a, ansi = some a → a.all Render.dot = true := by
  intro a h
  simp only [List.all_eq_true, Render.dot, bne_iff_ne, ne_eq]
  intro c hc e
  exact ha a h (e ▸ hc)

/-- For a spec `core` or `core:ansi` whose justification part `core` is a non-empty text of the
    grammar (and whose ansi part contains no newline), `to_str` renders the value obtained by:
    apply the ansi part (if present and formatting is not extended), pad, apply the ansi part
    (if present and formatting is extended). -/
theorem format_eq_pad_apply (x : AStr) {core : Str} {fill sign : Option Char} {al : Char} {ds : Str}
    (hne : core ≠ []) (hp : Grammar.fmtSpec core = some (fill, sign, al, ds))
    (ansi : Option Str) (ha : ∀ a, ansi = some a → '\n' ∉ a) (o rs re : Bool) (nid : Nat) :
    x.toStr (some (core ++ Grammar.ansiSuffix ansi)) o rs re nid =
      (PySpec.padApply x nid (fill.getD ' ') (sign != some '-') al ds ansi >>= fun obj =>
        pure (Render.render obj o rs re)) := by
  exact Rx.toStr_grammar x hne hp ansi (all_dot ha) o rs re nid

/-- `to_str` raises `ValueError` when the justification part the library's splitter isolates is
    non-empty and outside the grammar -/
theorem format_valueError (x : AStr) (spec : Str) (o rs re : Bool) (nid : Nat)
    (h1 : (Grammar.specParts spec).1 ≠ [])
    (h2 : Grammar.fmtSpec (Grammar.stripNl (Grammar.specParts spec).1) = none) :
    x.toStr (some spec) o rs re nid = .error .valueError := by
  have hs : spec.isEmpty = false := by
    cases spec with
    | nil => exact absurd rfl h1
    | cons c r => rfl
  rw [specParts_eq] at h1 h2
  have h1' : (Rx.specParts spec).1.isEmpty = false := by
    cases h : (Rx.specParts spec).1 with
    | nil => exact absurd h h1
    | cons c r => rfl
  unfold AStr.toStr
  simp only [hs, Bool.not_false, Bool.not_true, Bool.false_eq_true, false_and, if_false, if_true,
    Option.getD_some]
  rw [Rx.applySpec_eq]
  simp only [h1', Bool.not_false, if_true]
  rw [fmtspec_reject x nid _ _ h2]
  rfl

theorem specParts_grammar {core : Str} {p : Grammar.Parts} (hne : core ≠ [])
    (hp : Grammar.fmtSpec core = some p) (ansi : Option Str) (ha : ∀ a, ansi = some a → '\n' ∉ a) :
    Grammar.specParts (core ++ Grammar.ansiSuffix ansi) = (core, ansi) := by
  rcases Rx.parse_shape hp with h | h
  · exact absurd h hne
  · exact Rx.specParts_grammar h ansi (all_dot ha)

example : Grammar.specParts ">10:underline;red".toList = (">10".toList, some "underline;red".toList) := by
  simp only [strLitToList]
  decide
example : Grammar.specParts " ->10:underline;red".toList = (" ->10".toList, some "underline;red".toList) := by
  simp only [strLitToList]
  decide
example : Grammar.specParts ":^9".toList = (":^9".toList, none) := by
  simp only [strLitToList]
  decide
example : Grammar.specParts "+5".toList = ("+5".toList, none) := by
  simp only [strLitToList]
  decide
example (x : AStr) : x.toStr (some "+5".toList) = .error .valueError :=
  format_valueError x _ _ _ _ _ (by decide) (by decide)


/-! ## Non-vacuity: the hypotheses of the theorems above hold on concrete values -/

/-- `ab` is `AnsiString('ab', 'red')` -/
def red : Setting := ⟨0, "31".toList⟩
def ab : AStr := { s := "ab".toList, fmts := [(0, { add := [red] }), (2, { rem := [red] })] }

theorem ab_wf : WF ab := wf_of_finite (by decide +kernel)

theorem empty_wf : WF {} := wf_empty

/-- the index hypotheses of the `_original` and `_fill_` theorems for `'ab'.center(6)` / `ljust(6)` / `rjust(6)` (num = 4) -/
example : padNum ab 6 = 4 ∧ 0 < ab.len ∧ 1 < ab.len ∧ 1 < padNum ab 6 / 2 ∧ 1 < padNum ab 6 ∧
    padNum ab 6 / 2 + ab.len ≤ 5 ∧ ab.len ≤ 5 ∧ 5 < ab.len + padNum ab 6 := by decide

/-- `'ab'` red, `center(6, '*')`: `**ab**`, every character red, closed at 6 -/
example : (ab.center 6 '*' true).s = "**ab**".toList := by decide
example : (ab.center 6 '*' true).fmts = [(0, { add := [red] }), (6, { rem := [red] })] := by decide
example : act (ab.center 6 '*' true) 1 = act ab 0 := center_fill_ext_left ab_wf 6 '*' (by decide) (by decide)
example : act (ab.center 6 '*' true) 5 = act ab (ab.len - 1) :=
  center_fill_ext_right ab_wf 6 '*' (by decide) (by decide) (by decide)
example : act (ab.center 6 '*' true) (padNum ab 6 / 2 + 1) = act ab 1 :=
  center_original ab_wf 6 '*' true (by decide)
example : act ab 0 = [red] ∧ act ab 1 = [red] ∧ act ab 2 = [] := by decide
example : (List.range 8).map (act (ab.center 6 '*' true)) =
    [[red], [red], [red], [red], [red], [red], [], []] := by decide
/-- not extended: only the original characters are red -/
example : (List.range 8).map (act (ab.center 6 '*' false)) =
    [[], [], [red], [red], [], [], [], []] := by decide
example : act (ab.center 6 '*' false) 1 = [] := center_fill_plain_left ab_wf 6 '*' (by decide)
example : act (ab.center 6 '*' false) 5 = [] := center_fill_plain_right ab_wf 6 '*' (by decide)
example : WF (ab.center 6 '*' true) ∧ WF (ab.center 7 '*' false) :=
  ⟨center_wf ab_wf _ _ _, center_wf ab_wf _ _ _⟩
/-- an odd number of fill characters: the extra one goes to the right -/
example : (ab.center 5 '*' true).s = "*ab**".toList := by decide

example : (List.range 7).map (act (ab.ljust 6 '*' true)) = [[red], [red], [red], [red], [red], [red], []] := by
  decide
example : (List.range 7).map (act (ab.ljust 6 '*' false)) = [[red], [red], [], [], [], [], []] := by
  decide
example : act (ab.ljust 6 '*' true) 5 = act ab (ab.len - 1) :=
  ljust_fill_ext ab_wf 6 '*' (by decide) (by decide) (by decide)
example : act (ab.ljust 6 '*' false) 5 = [] := ljust_fill_plain ab_wf 6 '*' (by decide)
example : act (ab.ljust 6 '*' true) 1 = act ab 1 := ljust_original ab_wf 6 '*' true (by decide)

example : (List.range 7).map (act (ab.rjust 6 '*' true)) = [[red], [red], [red], [red], [red], [red], []] := by
  decide
example : (List.range 7).map (act (ab.rjust 6 '*' false)) = [[], [], [], [], [red], [red], []] := by
  decide
example : act (ab.rjust 6 '*' true) 1 = act ab 0 := rjust_fill_ext ab_wf 6 '*' (by decide)
example : act (ab.rjust 6 '*' false) 1 = [] := rjust_fill_plain ab_wf 6 '*' (by decide)
example : act (ab.rjust 6 '*' true) (padNum ab 6 + 1) = act ab 1 := rjust_original ab_wf 6 '*' true (by decide)
example : (ab.zfill 4).s = "00ab".toList := by decide

/-- the empty text (with and without an empty change point at 0) -/
example : (({} : AStr).center 3 '*' true).s = "***".toList ∧ act (({} : AStr).center 3 '*' true) 1 = [] :=
  ⟨by decide, center_fill_empty empty_wf 3 '*' true rfl 1⟩

example : ab.center 2 '*' true = ab := center_noop ab '*' true (by decide)
example : ab.ljust (-1) '*' false = ab := ljust_noop ab '*' false (by decide)

/-- `assign_str('abcd')` on `'ab'` red: the two new characters are red, closed at 4 -/
example : "abcd".toList.length ≥ ab.len ∧ 0 < ab.len ∧ ab.len ≤ 3 ∧ 3 < "abcd".toList.length := by decide
example : (List.range 6).map (act (ab.assignStr "abcd".toList)) = [[red], [red], [red], [red], [], []] := by
  decide
example : act (ab.assignStr "abcd".toList) 3 = act ab (ab.len - 1) :=
  assignStr_extend ab_wf (by decide) (by decide) (by decide)
example : WF (ab.assignStr "abcd".toList) := assignStr_wf_longer ab_wf (by decide)
example : WF (ab.assignStr "xy".toList) := assignStr_wf_longer ab_wf (by decide)

/-- the hypotheses of `format_eq_pad_apply` / `specParts_grammar` on `'*^6:bold'` and `'*-^6'` -/
example : "*^6".toList ≠ [] ∧ Grammar.fmtSpec "*^6".toList = some (some '*', none, '^', ['6']) ∧
    (∀ a, some "bold".toList = some a → '\n' ∉ a) := by
  refine ⟨by decide, by decide, ?_⟩
  intro a h; cases h; decide
example (o rs re : Bool) (nid : Nat) :
    ab.toStr (some "*^6:bold".toList) o rs re nid =
      (PySpec.padApply ab nid '*' true '^' ['6'] (some "bold".toList) >>= fun obj =>
        pure (Render.render obj o rs re)) :=
  format_eq_pad_apply ab (core := "*^6".toList) (fill := some '*') (sign := none) (al := '^')
    (ds := ['6']) (by decide) (by decide) (some "bold".toList)
    (by intro a h; cases h; decide) o rs re nid
example (o rs re : Bool) (nid : Nat) :
    ab.toStr (some "*-^6".toList) o rs re nid = .ok (Render.render (ab.center 6 '*' false) o rs re) :=
  format_eq_pad_apply ab (core := "*-^6".toList) (fill := some '*') (sign := some '-') (al := '^')
    (ds := ['6']) (by decide) (by decide) none
    (by intro a h; cases h) o rs re nid

end C12
