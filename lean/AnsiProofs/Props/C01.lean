import AnsiProofs.Lemmas.Render
/-
  Property C01 — `str()`, `format()` and `to_str()` against a conforming SGR terminal.

  "For every AnsiString/AnsiStr value reachable through the public API whose settings are
  well-formed SGR parameter groups, the text returned by str(), format() and to_str() under every
  combination of optimize, reset_start and reset_end, when interpreted by a conforming SGR terminal,
  shows exactly the characters of base_str in order, each with the effective style obtained from the
  settings the object reports for that character (a later setting overriding earlier ones of the same
  effect). optimize=True and optimize=False are display-equivalent; with reset_start the output
  begins with a reset and the result does not depend on the terminal's prior state; with reset_end
  the terminal is back in its default state after the output whenever any style was emitted."

  `Render.render x o rs re` models `to_str(None, optimize=o, reset_start=rs, reset_end=re)`;
  `Term.run t0 out` is the independent terminal of `AnsiSpec/Terminal.lean` started in state `t0`
  (the displayed characters, each with the state it is displayed under, and the final state);
  `den x` (`AnsiSpec/Styled.lean`) pairs each character of the base text with the effective style
  `eff (act x i)` of the settings the value reports for it; `RenderL.lastStyle x` is the settings of
  the last character (`[]` for the empty text).

  All theorems hold for every `x` (no size bound), every flag combination and every prior state.
  Only the `sorted` field of `WF` is used.
-/
open Term Eff RenderL

namespace C01

/-- display and final state at once; the numbered theorems below are its parts -/
theorem render_run (x : AStr) (o rs re : Bool) (t0 : Term.TState)
    (hwf : WF x) (hg : GroupSettings x) (hne : NoEsc x.s) (h0 : rs = true ∨ t0 = Term.default) :
    Term.run t0 (Render.render x o rs re) =
      (den x, if re then Term.default else eff (lastStyle x)) :=
  RenderL.render_run hwf.sorted hg hne o rs re t0 h0

/-- **1.** the terminal displays exactly the characters of the base text, in order, each under the
    effective style of the settings the value reports for it -/
theorem render_display (x : AStr) (o rs re : Bool) (t0 : Term.TState)
    (hwf : WF x) (hg : GroupSettings x) (hne : NoEsc x.s) (h0 : rs = true ∨ t0 = Term.default) :
    (Term.run t0 (Render.render x o rs re)).1 =
      x.s.zipIdx.map (fun ci => (ci.1, eff (act x ci.2))) := by
  rw [render_run x o rs re t0 hwf hg hne h0]; rfl

theorem render_chars (x : AStr) (o rs re : Bool) (t0 : Term.TState)
    (hwf : WF x) (hg : GroupSettings x) (hne : NoEsc x.s) (h0 : rs = true ∨ t0 = Term.default) :
    (Term.run t0 (Render.render x o rs re)).1.map (·.1) = x.s := by
  rw [render_display x o rs re t0 hwf hg hne h0, List.map_map]
  have : ((fun (ct : Char × Term.TState) => ct.1) ∘ fun (ci : Char × Nat) => (ci.1, eff (act x ci.2))) =
      fun ci => ci.1 := rfl
  rw [this]
  exact List.zipIdx_map_fst 0 x.s

/-- **2.** `optimize=True` and `optimize=False` are display-equivalent (same display, same final state) -/
theorem optimize_equiv (x : AStr) (rs re : Bool) (t0 : Term.TState)
    (hwf : WF x) (hg : GroupSettings x) (hne : NoEsc x.s) (h0 : rs = true ∨ t0 = Term.default) :
    Term.run t0 (Render.render x true rs re) = Term.run t0 (Render.render x false rs re) := by
  rw [render_run x true rs re t0 hwf hg hne h0, render_run x false rs re t0 hwf hg hne h0]

/-- **3a.** with `reset_start` the output begins with an SGR sequence whose first parameter is 0
    (written `0` or left empty), i.e. with a reset.  `GroupSettings` is needed: see the counterexample
    `reset_start_begins_needs_valid` below. -/
theorem reset_start_begins (x : AStr) (o rs re : Bool) (hrs : rs = true) (hg : GroupSettings x) :
    ∃ ps rest, Render.render x o rs re = '\x1b' :: '[' :: ps ++ 'm' :: rest ∧
      (∀ c ∈ ps, Term.isFinal c = false) ∧ (Term.params ps).head? = some (some 0) := by
  subst hrs
  exact render_begins (fun kp hkp => nonFinal_of_groupTxt fun s hs =>
    hg s (List.mem_flatMap.2 ⟨kp, hkp, List.mem_append_left _ hs⟩)) o re

/-- **3b.** with `reset_start` the result does not depend on the terminal's prior state -/
theorem reset_start_independent (x : AStr) (o rs re : Bool) (t0 t0' : Term.TState) (hrs : rs = true)
    (hwf : WF x) (hg : GroupSettings x) (hne : NoEsc x.s) :
    Term.run t0 (Render.render x o rs re) = Term.run t0' (Render.render x o rs re) := by
  rw [render_run x o rs re t0 hwf hg hne (.inl hrs), render_run x o rs re t0' hwf hg hne (.inl hrs)]

/-- **4.** with `reset_end` the terminal is back in its default state after the output (whether or
    not a style was emitted) -/
theorem reset_end_default (x : AStr) (o rs re : Bool) (t0 : Term.TState)
    (hwf : WF x) (hg : GroupSettings x) (hne : NoEsc x.s) (h0 : rs = true ∨ t0 = Term.default)
    (hre : re = true) : (Term.run t0 (Render.render x o rs re)).2 = Term.default := by
  rw [render_run x o rs re t0 hwf hg hne h0, hre]; rfl

theorem no_reset_end_state (x : AStr) (o rs : Bool) (t0 : Term.TState)
    (hwf : WF x) (hg : GroupSettings x) (hne : NoEsc x.s) (h0 : rs = true ∨ t0 = Term.default) :
    (Term.run t0 (Render.render x o rs false)).2 = eff (lastStyle x) := by
  rw [render_run x o rs false t0 hwf hg hne h0]; rfl

/-! ### 5. `str()`, `format()`, `to_str()` are this function -/

theorem str_eq (x : AStr) : x.str = (if x.fmts.isEmpty then x.s else Render.render x true false true) := rfl

theorem render_empty (x : AStr) (h : x.fmts = []) (o rs re : Bool) :
    Render.render x o rs re = (if rs then Gen.escapeClear else []) ++ x.s :=
  RenderL.render_empty h o rs re

/-- so `str(x)` is the rendering with the default flags, empty table or not -/
theorem str_eq_render (x : AStr) : x.str = Render.render x true false true :=
  RenderStripL.str_eq_render x

/-- `to_str()` / `format(x)` (no format spec) -/
theorem toStr_none (x : AStr) (o rs re : Bool) (nid : Nat) :
    x.toStr none o rs re nid =
      .ok (if x.fmts.isEmpty ∧ rs = false then x.s else Render.render x o rs re) := by
  rw [RenderStripL.toStr_none]
  split
  · rename_i h
    rw [RenderL.render_empty (List.isEmpty_iff.1 h.1), h.2]; rfl
  · rfl

/-- `format(x, '')` (empty format spec) -/
theorem toStr_some_nil (x : AStr) (o rs re : Bool) (nid : Nat) :
    x.toStr (some []) o rs re nid =
      .ok (if x.fmts.isEmpty ∧ rs = false then x.s else Render.render x o rs re) :=
  toStr_none x o rs re nid

/-- the shortcut for an unformatted value returns what the loop would have returned -/
theorem toStr_none_eq_render (x : AStr) (o rs re : Bool) (nid : Nat) :
    x.toStr none o rs re nid = .ok (Render.render x o rs re) :=
  RenderStripL.toStr_none x o rs re nid

theorem toStr_some_nil_eq_render (x : AStr) (o rs re : Bool) (nid : Nat) :
    x.toStr (some []) o rs re nid = .ok (Render.render x o rs re) :=
  RenderStripL.toStr_nil x o rs re nid

theorem str_display (x : AStr) (hwf : WF x) (hg : GroupSettings x) (hne : NoEsc x.s) :
    Term.run Term.default x.str = (den x, Term.default) := by
  rw [str_eq_render, render_run x true false true Term.default hwf hg hne (.inr rfl)]; rfl

/-! ### non-vacuity: `"abcd"`, red on `[0,3)`, bold on `[1,4)`, `"39"` (default colour) on `[2,3)` -/

def sRed : Setting := ⟨1, "31".toList⟩
def sBold : Setting := ⟨2, "1".toList⟩
def sDef : Setting := ⟨3, "39".toList⟩

def ex : AStr :=
  { s := "abcd".toList,
    fmts := [(0, { add := [sRed] }), (1, { add := [sBold] }), (2, { add := [sDef] }),
             (3, { rem := [sRed, sDef] }), (4, { rem := [sBold] })] }

theorem ex_wf : WF ex := wf_of_finite (by decide +kernel)

theorem ex_group : GroupSettings ex := by unfold GroupSettings; decide +kernel
theorem ex_noEsc : NoEsc ex.s := by unfold NoEsc; decide +kernel

/-- the hypotheses of all theorems above are satisfiable by a value with overlapping settings, one
    of which is a *clear* code -/
example : WF ex ∧ GroupSettings ex ∧ NoEsc ex.s ∧ ex.isFormattingParsable = true :=
  ⟨ex_wf, ex_group, ex_noEsc, by decide +kernel⟩

example : Render.render ex false false true =
    "\x1b[31ma\x1b[31;1mb\x1b[31;1;39mc\x1b[0;1md\x1b[m".toList := by
  simp only [ex, sRed, sBold, sDef, strLitToList]
  decide +kernel
example : Render.render ex true false true = "\x1b[31ma\x1b[1mb\x1b[39mcd\x1b[m".toList := by
  simp only [ex, sRed, sBold, sDef, strLitToList]
  decide +kernel
example : Render.render ex true true false = "\x1b[0;31ma\x1b[1mb\x1b[39mcd".toList := by
  simp only [ex, sRed, sBold, sDef, strLitToList]
  decide +kernel
example : Render.render ex false true true =
    "\x1b[0;31ma\x1b[31;1mb\x1b[31;1;39mc\x1b[0;1md\x1b[m".toList := by
  simp only [ex, sRed, sBold, sDef, strLitToList]
  decide +kernel
example : ex.str = "\x1b[31ma\x1b[1mb\x1b[39mcd\x1b[m".toList := by
  simp only [ex, sRed, sBold, sDef, strLitToList]
  decide +kernel

example : (Term.run Term.default (Render.render ex true false true)).1.map (fun ct => (ct.1, ct.2.toList)) =
    [('a', [(.fg, [31])]), ('b', [(.boldness, [1]), (.fg, [31])]), ('c', [(.boldness, [1])]),
     ('d', [(.boldness, [1])])] := by decide +kernel
example : (Term.run Term.default (Render.render ex false false true)).1.map (fun ct => (ct.1, ct.2.toList)) =
    [('a', [(.fg, [31])]), ('b', [(.boldness, [1]), (.fg, [31])]), ('c', [(.boldness, [1])]),
     ('d', [(.boldness, [1])])] := by decide +kernel
-- a prior state that is not the default one (blinking, green background), with `reset_start`
example : (Term.run ((Term.default.put .blinking [5]).put .bg [42])
      (Render.render ex true true false)).1.map (fun ct => (ct.1, ct.2.toList)) =
    [('a', [(.fg, [31])]), ('b', [(.boldness, [1]), (.fg, [31])]), ('c', [(.boldness, [1])]),
     ('d', [(.boldness, [1])])] := by decide +kernel
-- without `reset_start` the prior state shows through: the hypothesis `rs = true ∨ t0 = default` is needed
example : (Term.run ((Term.default.put .blinking [5]).put .bg [42])
      (Render.render ex true false true)).1.map (fun ct => (ct.1, ct.2.toList)) ≠
    [('a', [(.fg, [31])]), ('b', [(.boldness, [1]), (.fg, [31])]), ('c', [(.boldness, [1])]),
     ('d', [(.boldness, [1])])] := by decide +kernel
example : (Term.run Term.default (Render.render ex true false true)).2.toList = [] := by decide +kernel
example : (Term.run Term.default (Render.render ex true false false)).2.toList = [(.boldness, [1])] := by decide +kernel
example : lastStyle ex = [sBold] := by decide +kernel

example : (Term.run Term.default (Render.render ex true false true)).1 = den ex :=
  render_display ex true false true _ ex_wf ex_group ex_noEsc (.inr rfl)
example : ∃ ps rest, Render.render ex true true true = '\x1b' :: '[' :: ps ++ 'm' :: rest ∧
    (∀ c ∈ ps, Term.isFinal c = false) ∧ (Term.params ps).head? = some (some 0) :=
  reset_start_begins ex true true true rfl ex_group

/-! ### `reset_start_begins` needs settings without final bytes

  The statement "with `reset_start` the output begins with an SGR sequence whose first parameter is 0"
  is false for a well-formed value one of whose settings contains a final byte (here `"A"`):
  the output is `ESC [ 0 ; A m a ESC [ m`, which a terminal reads as the control sequence `ESC [ 0 ; A`
  (cursor up) followed by the text `ma`. -/

def bad : AStr :=
  { s := "a".toList, fmts := [(0, { add := [⟨1, "A".toList⟩] }), (1, { rem := [⟨1, "A".toList⟩] })] }

theorem bad_wf : WF bad := wf_of_finite (by decide +kernel)

example : Render.render bad false true true = "\x1b[0;Ama\x1b[m".toList := by
  simp only [bad, strLitToList]
  decide +kernel

theorem reset_start_begins_needs_valid :
    WF bad ∧ ¬ ∃ ps rest, Render.render bad false true true = '\x1b' :: '[' :: ps ++ 'm' :: rest ∧
      (∀ c ∈ ps, Term.isFinal c = false) ∧ (Term.params ps).head? = some (some 0) := by
  refine ⟨bad_wf, fun h => ?_⟩
  have : beginsB (Render.render bad false true true) = true := Begins.check h
  revert this
  decide +kernel

end C01

#print axioms C01.render_run
#print axioms C01.render_display
#print axioms C01.render_chars
#print axioms C01.optimize_equiv
#print axioms C01.reset_start_begins
#print axioms C01.reset_start_independent
#print axioms C01.reset_end_default
#print axioms C01.no_reset_end_state
#print axioms C01.str_eq
#print axioms C01.render_empty
#print axioms C01.str_eq_render
#print axioms C01.toStr_none
#print axioms C01.toStr_some_nil
#print axioms C01.toStr_none_eq_render
#print axioms C01.toStr_some_nil_eq_render
#print axioms C01.str_display
#print axioms C01.reset_start_begins_needs_valid
