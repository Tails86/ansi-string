import AnsiSpec
import AnsiProofs.Lemmas.StrLit
/-
  C08 — value semantics.  The model is pure, so these theorems are *structural*: they state what
  the model promises (an operation changes only the variables in `writes`; a failed operation
  changes nothing; in-place and non-in-place forms compute the same value; a copy equals its
  source).  What decides C08 for the *code* is the correspondence check, in which every live Python
  object is observed before and after every operation and compared with this prediction.
-/

namespace Store

theorem get?_put_ne (σ : Store) (v w : Var) (x : AStr) (h : w ≠ v) : (σ.put v x).get? w = σ.get? w := by
  have hp : ∀ kv : Var × AStr, decide ((kv.1 != v) = true ∧ (kv.1 == w) = true) = (kv.1 == w) := fun kv =>
    decide_eq_decide.mpr ⟨fun h' => eq_of_beq h'.2, fun e => ⟨bne_iff_ne.mpr (e ▸ h), beq_iff_eq.mpr e⟩⟩
  show Option.map _ (List.find? _ ((v, x) :: _)) = _
  rw [List.find?_cons_of_neg (p := fun kv : Var × AStr => kv.1 == w) (fun e => h (eq_of_beq e).symm),
    List.find?_filter, funext hp]
  rfl

theorem get?_put_eq (σ : Store) (v : Var) (x : AStr) : (σ.put v x).get? v = some x := by
  simp [Store.get?, Store.put]

theorem get?_bump (σ : Store) (x : AStr) (v : Var) : (σ.bump x).get? v = σ.get? v := rfl

theorem get?_commit_eq (σ : Store) (v : Var) (x : AStr) : ((σ.commit v x).1).get? v = some x :=
  get?_put_eq σ v x

theorem commit_frame (σ : Store) (v w : Var) (x : AStr) (h : w ≠ v) : ((σ.commit v x).1).get? w = σ.get? w :=
  get?_put_ne σ v w x h

/-- What an operation does to the store `σ`: it writes one value that satisfies `A` to a variable
    of `ws`, or it leaves the store alone and reports either an unbound name or an outcome that
    satisfies `B`.  `step` is put together from `withVal`, `fromExcept`, `pad1`, `piece` and `commit`,
    and each of them has this shape. -/
inductive Effect (σ : Store) (ws : List Var) (A : AStr → Prop) (B : Outcome → Prop) : Store × Outcome → Prop
  | commit {d : Var} {x : AStr} (hd : d ∈ ws) (hx : A x) : Effect σ ws A B (σ.commit d x)
  | unbound : Effect σ ws A B (σ, .unbound)
  | skip {o : Outcome} (ho : B o) : Effect σ ws A B (σ, o)

namespace Effect
variable {σ : Store} {ws : List Var} {A : AStr → Prop} {B : Outcome → Prop}

theorem withVal {v : Var} {k : AStr → Store × Outcome}
    (hk : ∀ x, σ.get? v = some x → Effect σ ws A B (k x)) : Effect σ ws A B (σ.withVal v k) := by
  unfold Store.withVal
  split
  · exact hk _ ‹_›
  · exact unbound

theorem fromExcept {d : Var} {r : Except PyErr AStr} (hd : d ∈ ws) (hx : ∀ y, r = .ok y → A y)
    (he : ∀ e, r = .error e → B (.err e)) : Effect σ ws A B (σ.fromExcept d r) :=
  match r with
  | .ok y => commit hd (hx y rfl)
  | .error e => skip (he e rfl)

theorem pad1 {d : Var} {fill : Str} {f : Char → AStr} (hd : d ∈ ws) (hf : ∀ c, A (f c))
    (he : B (.err .valueError)) : Effect σ ws A B (σ.pad1 d fill f) := by
  unfold Store.pad1
  split
  · exact commit hd (hf _)
  · exact skip he

theorem piece {d : Var} {o : Option AStr} (hd : d ∈ ws) (ho : ∀ p, o = some p → A p) :
    Effect σ ws A B (σ.piece d o) :=
  match o with
  | some p => commit hd (ho p rfl)
  | none => unbound

theorem frame {r : Store × Outcome} (h : Effect σ ws A B r) {w : Var} (hw : w ∉ ws) :
    r.1.get? w = σ.get? w := by
  cases h with
  | commit hd _ => exact commit_frame σ _ w _ (fun e => hw (e ▸ hd))
  | unbound => rfl
  | skip _ => rfl

theorem atomic {r : Store × Outcome} (h : Effect σ ws A B r) (hr : r.2 ≠ .ok) : r.1 = σ := by
  cases h with
  | commit _ _ => exact absurd rfl hr
  | unbound => rfl
  | skip _ => rfl

theorem outcome {r : Store × Outcome} (h : Effect σ ws A B r) : r.2 = .ok ∨ r.2 = .unbound ∨ B r.2 := by
  cases h with
  | commit _ _ => exact Or.inl rfl
  | unbound => exact Or.inr (Or.inl rfl)
  | skip ho => exact Or.inr (Or.inr ho)

end Effect

/-- every operation writes at most one variable, one of `writes` -/
theorem step_effect (σ : Store) (op : Op) :
    Effect σ op.writes (fun _ => True) (fun _ => True) (σ.step op) := by
  cases op with
  | new => exact .fromExcept (.head _) (fun _ _ => trivial) (fun _ _ => trivial)
  | copy | apply | remove | index | fmatch | unfmatch =>
    exact .withVal fun _ _ => .fromExcept (.head _) (fun _ _ => trivial) (fun _ _ => trivial)
  | clear | slice | addStr | assign | simplify | strip | removeprefix | removesuffix | zfill | clip
  | expandtabs =>
    exact .withVal fun _ _ => .commit (.head _) trivial
  | iadd | add => exact .withVal fun _ _ => .withVal fun _ _ => .commit (.head _) trivial
  | ljust | rjust | center => exact .withVal fun _ _ => .pad1 (.head _) (fun _ => trivial) trivial
  | replace _ _ _ new _ =>
    cases new with
    | inr => exact .withVal fun _ _ => .commit (.head _) trivial
    | inl => exact .withVal fun _ _ => .withVal fun _ _ => .commit (.head _) trivial
  | render | find =>
    refine .withVal fun x _ => ?_
    split
    · exact .skip trivial
    · exact .skip trivial
  | join d vs =>
    show Effect _ _ _ _ (match σ.getAll vs with | some xs => _ | none => _)
    split
    · exact .commit (.head _) trivial
    · exact .unbound
  | splitPiece =>
    refine .withVal fun x _ => ?_
    split
    · exact .piece (.head _) (fun _ _ => trivial)
    · exact .skip trivial
  | linePiece | partPiece => exact .withVal fun _ _ => .piece (.head _) (fun _ _ => trivial)

/-- an operation leaves every variable it does not write exactly as it was —
    arguments (the right operand of `+`/`+=`, the replacement of `replace`, the source of a copy,
    slice, pad …) are never modified and results share nothing with their sources. -/
theorem step_frame (σ : Store) (op : Op) (w : Var) (h : w ∉ op.writes) :
    ((σ.step op).1).get? w = σ.get? w :=
  (step_effect σ op).frame h

theorem step_atomic (σ : Store) (op : Op) (h : (σ.step op).2 ≠ .ok) : (σ.step op).1 = σ :=
  (step_effect σ op).atomic h

/-- a failed operation (documented error) changes nothing at all -/
theorem error_atomic (σ : Store) (op : Op) (e : PyErr) (h : (σ.step op).2 = .err e) :
    (σ.step op).1 = σ :=
  step_atomic σ op fun h' => Outcome.noConfusion (h.symm.trans h')

theorem withVal_some {σ : Store} {v : Var} {x : AStr} (h : σ.get? v = some x) (k : AStr → Store × Outcome) :
    σ.withVal v k = k x := by
  unfold Store.withVal
  rw [h]

theorem piece_getElem? (σ : Store) (d : Var) (ps : List AStr) (j : Nat) :
    (∀ hj : j < ps.length, σ.piece d ps[j]? = σ.commit d ps[j]) ∧
    (ps.length ≤ j → σ.piece d ps[j]? = (σ, .unbound)) :=
  ⟨fun hj => by rw [List.getElem?_eq_getElem hj]; rfl, fun hj => by rw [List.getElem?_eq_none hj]; rfl⟩

theorem getAll_cons {σ : Store} {v : Var} {x : AStr} {vs : List Var} {xs : List AStr}
    (hx : σ.get? v = some x) (hxs : σ.getAll vs = some xs) : σ.getAll (v :: vs) = some (x :: xs) := by
  rw [Store.getAll, hx, hxs]

theorem run_cons (σ : Store) (op : Op) (ops : List Op) : σ.run (op :: ops) = (σ.step op).1.run ops := rfl

theorem run_append (σ : Store) (ops ops' : List Op) : σ.run (ops ++ ops') = (σ.run ops).run ops' :=
  List.foldl_append

theorem step_add {σ : Store} {v u : Var} {x y : AStr} (hx : σ.get? v = some x) (hy : σ.get? u = some y)
    (d : Var) : σ.step (.add d v u) = σ.commit d (x.iadd y) := by
  show σ.withVal v _ = _
  rw [withVal_some hx, withVal_some hy]

/-- `a += b` and `a + b` compute the same value (the in-place form writes the receiver) -/
theorem inplace_eq (σ : Store) (v u d : Var) (x y : AStr) (hx : σ.get? v = some x) (hy : σ.get? u = some y) :
    ((σ.step (.iadd v u)).1).get? v = ((σ.step (.add d v u)).1).get? d := by
  have h : σ.step (.iadd v u) = σ.commit v (x.iadd y) := step_add hx hy v
  rw [h, step_add hx hy, get?_commit_eq, get?_commit_eq]

/-- `copy()` / `AnsiString(s)`: the copy equals its source and the source is unchanged -/
theorem copy_eq (σ : Store) (d src : Var) (x : AStr) (hx : σ.get? src = some x) :
    ((σ.step (.copy d src [])).1).get? d = some x := by
  show ((σ.withVal src _).1).get? d = _
  rw [withVal_some hx]
  exact get?_commit_eq σ d x

/-- `x.clip a b` and `x[a:b]` compute the same value -/
theorem clip_eq_slice (σ : Store) (d src : Var) (a b : Option Int) :
    σ.step (.clip d src a b) = σ.step (.slice d src a b) := rfl

/-- `x.zfill w` is `x.rjust w "0"` with the leading style extended -/
theorem zfill_eq_rjust (σ : Store) (d src : Var) (w : Int) :
    σ.step (.zfill d src w) = σ.step (.rjust d src w ['0'] true) := rfl

/-- `AnsiString.join(x, y)` computes the value of `x + y` -/
theorem join_pair_eq_add (σ : Store) (v u d : Var) (x y : AStr) (hx : σ.get? v = some x) (hy : σ.get? u = some y) :
    ((σ.step (.join d [v, u])).1).get? d = ((σ.step (.add d v u)).1).get? d := by
  have h : σ.step (.join d [v, u]) = σ.commit d (x.iadd y) := by
    show (match σ.getAll [v, u] with | some xs => σ.commit d (AStr.join xs) | none => _) = _
    rw [getAll_cons hx (getAll_cons hy rfl)]
    rfl
  rw [h, step_add hx hy]

/-- the loop of `fmatch` is the loop of `AStr.formatMatching`; only the numbering of the new objects
    differs (from the store's counter on instead of from the value's own next identity) -/
theorem formatMatchingFrom_zero (x : AStr) (a : SArg) (spans : List (Int × Int)) (count : Int) :
    x.formatMatchingFrom 0 a spans count = x.formatMatching a spans count := by
  unfold AStr.formatMatchingFrom AStr.formatMatching
  simp only [Nat.zero_max]

end Store

/-- a concrete store in which `v1` is sliced, the slice concatenated with itself and
    cleared; `v1` is observed unchanged -/
example :
    let σ0 : Store := { vals := [(1, { s := "abcd".toList, fmts := [(0, { add := [⟨1, "31".toList⟩] }), (4, { rem := [⟨1, "31".toList⟩] })] })], nid := 2 }
    let σ := Store.run σ0 [.slice 2 1 (some 1) (some 3), .iadd 2 2, .clear 2]
    σ.get? 1 = σ0.get? 1 ∧ (σ.get? 2).map (·.s) = some "bcbc".toList := by
  simp only [strLitToList]
  decide +kernel

/-- the same for `v2 = join(v1, v1)`, `v2.format_matching(…)` on the
    span (1,3), `v3 = v2.split("c")[1]`, `v4 = v3.zfill(5)`; `v1` is observed unchanged, and a failing
    `format_matching` (a float as format) leaves the whole store as it was -/
example :
    let σ0 : Store := { vals := [(1, { s := "abcd".toList, fmts := [(0, { add := [⟨1, "31".toList⟩] }), (4, { rem := [⟨1, "31".toList⟩] })] })], nid := 2 }
    let σ := Store.run σ0 [.join 2 [1, 1], .fmatch 2 (.int 4) [(1, 3)] (-1),
      .splitPiece 3 2 (some "c".toList) (-1) false 1, .zfill 4 3 5]
    σ.get? 1 = σ0.get? 1 ∧ (σ.get? 2).map (·.s) = some "abcdabcd".toList ∧
      (σ.get? 3).map (·.s) = some "dab".toList ∧ (σ.get? 4).map (·.s) = some "00dab".toList ∧
      (σ.step (.fmatch 2 (.bad true) [(1, 3)] (-1))).1.vals = σ.vals ∧
      (1 : Var) ∉ (Op.fmatch 2 (.int 4) [(1, 3)] (-1)).writes ∧
      (∀ x y, σ0.get? 1 = some x → σ0.get? 1 = some y →
        ((σ0.step (.join 5 [1, 1])).1).get? 5 = ((σ0.step (.add 5 1 1)).1).get? 5) := by
  simp only [← and_assoc, strLitToList]
  exact ⟨by decide +kernel, fun x y hx hy => Store.join_pair_eq_add _ 1 1 5 x y hx hy⟩
