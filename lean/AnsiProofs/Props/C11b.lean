import AnsiProofs.Lemmas.Replace
/-
  Property C11, `replace` / `expandtabs` clause — the SETTINGS of the result (its text is C10):
  characters outside the matches are unchanged, a plain-`str` replacement takes the settings of the
  first character of the match it replaces, an AnsiString/AnsiStr replacement keeps its own, for
  every match, the same replacement value being used for all of them.

  `styled y` is the text of `y` with, for every character, the list of setting TEXTS it reports
  (lowest precedence first; texts rather than objects, because concatenation may re-target the
  identity of a setting that is merged at a seam).  `old ≠ []` throughout (the empty `old` is a
  different code path: insertion before every character).

  The specification `PySpec.replaceStyled` is a left-to-right scan over styled characters, written
  without the model's loop, slices or concatenation.  `replace_settings` / `replace_settings_str`
  prove the whole loop against it; the `replace_one*` theorems say what one iteration does.
-/

open StrLikeL ConcatL ReplaceL

namespace PySpec

/-- `replace(old, new, count)` on STYLED characters, for a NON-EMPTY `old`: the scan of
    `PySpec.replaceGo`, a match being replaced by `new st` where `st` is the style of the FIRST
    matched character. -/
def replaceStyledGo (old : Str) (new : List Str → List (Char × List Str)) :
    List (Char × List Str) → Nat → Int → List (Char × List Str)
  | [], _, _ => []
  | _ :: rest, skip + 1, count => replaceStyledGo old new rest skip count
  | c :: rest, 0, count =>
    if count ≠ 0 ∧ old.isPrefixOf ((c :: rest).map (·.1)) then
      new c.2 ++ replaceStyledGo old new rest (old.length - 1) (if count > 0 then count - 1 else count)
    else c :: replaceStyledGo old new rest 0 count

def replaceStyled (s : List (Char × List Str)) (old : Str)
    (new : List Str → List (Char × List Str)) (count : Int) : List (Char × List Str) :=
  replaceStyledGo old new s 0 count

/-! ### the specification means what it says -/

theorem replaceStyledGo_skip (old : Str) (new : List Str → List (Char × List Str))
    (s : List (Char × List Str)) (k : Nat) (c : Int) :
    replaceStyledGo old new s k c = replaceStyledGo old new (s.drop k) 0 c := by
  induction s generalizing k with
  | nil => simp [replaceStyledGo]
  | cons a s ih =>
    cases k with
    | zero => rfl
    | succ k => rw [replaceStyledGo, ih]; rfl

theorem replaceStyledGo_zero (old : Str) (new : List Str → List (Char × List Str))
    (s : List (Char × List Str)) : replaceStyledGo old new s 0 0 = s := by
  induction s with
  | nil => rfl
  | cons a s ih => rw [replaceStyledGo]; simp [ih]

theorem replaceStyledGo_absent (old : Str) (new : List Str → List (Char × List Str))
    (s : List (Char × List Str)) (c : Int)
    (h : ∀ j, j ≤ s.length → old.isPrefixOf ((s.map (·.1)).drop j) = false) :
    replaceStyledGo old new s 0 c = s := by
  induction s with
  | nil => rfl
  | cons a s ih =>
    have h0 := h 0 (Nat.zero_le _)
    rw [List.drop_zero] at h0
    rw [replaceStyledGo, h0]
    simp only [Bool.false_eq_true, and_false, if_false]
    rw [ih (fun j hj => by simpa using h (j + 1) (by simpa using hj))]

theorem replaceStyledGo_first (old : Str) (new : List Str → List (Char × List Str)) (_hold : old ≠ [])
    (pre : List (Char × List Str)) (m : Char × List Str) (mid post : List (Char × List Str))
    (c : Int) (hc : c ≠ 0) (hmid : (m :: mid).map (·.1) = old)
    (h : ∀ j, j < pre.length →
      old.isPrefixOf (((pre ++ (m :: mid) ++ post).map (·.1)).drop j) = false) :
    replaceStyledGo old new (pre ++ (m :: mid) ++ post) 0 c =
      pre ++ new m.2 ++ replaceStyledGo old new post 0 (if c > 0 then c - 1 else c) := by
  induction pre with
  | nil =>
    have hp : old.isPrefixOf (((m :: mid) ++ post).map (·.1)) = true := by
      rw [List.map_append, hmid]
      exact List.isPrefixOf_iff_prefix.mpr ⟨_, rfl⟩
    have hl : mid.length = old.length - 1 := by
      rw [← hmid]; simp
    simp only [List.nil_append, List.cons_append] at hp ⊢
    rw [replaceStyledGo, hp, replaceStyledGo_skip, ← hl, List.drop_left]
    simp [hc]
  | cons a pre ih =>
    have h0 := h 0 (by simp)
    rw [List.drop_zero] at h0
    simp only [List.cons_append] at h0 ⊢
    rw [replaceStyledGo, h0]
    simp only [Bool.false_eq_true, and_false, if_false]
    rw [ih (fun j hj => by simpa using h (j + 1) (by simpa using hj))]

/-- the text of the styled specification is `str.replace` (`PySpec.replaceGo`) of the text, whenever
    the inserted value always has the same text `nt` -/
theorem replaceStyledGo_text (old : Str) (new : List Str → List (Char × List Str)) (nt : Str)
    (hn : ∀ st, (new st).map (·.1) = nt) (s : List (Char × List Str)) (k : Nat) (c : Int) :
    (replaceStyledGo old new s k c).map (·.1) = replaceGo old nt (s.map (·.1)) k c := by
  induction s generalizing k c with
  | nil => simp [replaceStyledGo, replaceGo]
  | cons a s ih =>
    cases k with
    | succ k => simp only [replaceStyledGo, List.map_cons, replaceGo]; exact ih k c
    | zero =>
      simp only [replaceStyledGo, List.map_cons, replaceGo]
      split
      · rw [List.map_append, hn, ih]
      · rw [List.map_cons, ih]

theorem replaceStyled_text (s : List (Char × List Str)) (old : Str)
    (new : List Str → List (Char × List Str)) (nt : Str) (hn : ∀ st, (new st).map (·.1) = nt)
    (count : Int) :
    (replaceStyled s old new count).map (·.1) = replaceGo old nt (s.map (·.1)) 0 count :=
  replaceStyledGo_text old new nt hn s 0 count

end PySpec

namespace C11b

/-- `y.s` with, for every character, the texts of the settings it reports -/
abbrev styled (y : AStr) : List (Char × List Str) := ReplaceL.styled y

theorem styled_def (y : AStr) :
    styled y = y.s.zipIdx.map (fun (c, i) => (c, texts (act y i))) := rfl

theorem styled_at (y : AStr) (k : Nat) :
    (styled y)[k]? = (y.s[k]?).map (fun c => (c, texts (act y k))) := styled_getElem? y k

theorem styled_text (y : AStr) : (styled y).map (·.1) = y.s := styled_map_fst y

/-! ## one iteration of the loop: `obj = obj[:i] + rep + obj[i+len(old):]` -/

/-- one iteration with the replacement value `rep`: characters in front of the match keep their
    settings (objects and order); the characters of `rep` and those behind the match report the
    setting TEXTS they reported before.  (`CoherentPair obj rep`: identities shared by `obj` and `rep` carry the same
    text — needed for the intermediate value `obj[:i] + rep` to be well-formed.) -/
theorem replace_one_at (obj rep : AStr) (old : Str) (i : Nat) (hw : WF obj) (hr : WF rep)
    (hc : CoherentPair obj rep) (hi : i + old.length ≤ obj.len) :
    let obj' := ((obj.getSlice none (some (i : Int))).iadd rep).iadd
      (obj.getSlice (some ((i + old.length : Nat) : Int)) none)
    (∀ k, k < i → act obj' k = act obj k) ∧
    (∀ q, q < rep.len → texts (act obj' (i + q)) = texts (act rep q)) ∧
    (∀ k, i + old.length + k < obj.len →
      texts (act obj' (i + rep.len + k)) = texts (act obj (i + old.length + k))) :=
  step_act hw hr hc old.length (by omega)

theorem find_inside (s old : Str) (from_ i : Nat) (hold : old ≠ [])
    (hfind : Py.find s old from_ = some i) : i + old.length ≤ s.length ∧ i < s.length := by
  obtain ⟨hi, -, hocc, -⟩ := (find_some_iff _ _ _ _).mp hfind
  have := PiecesL.occ_le s old i hocc hi
  have hol : 0 < old.length := List.length_pos_iff.mpr hold
  omega

/-- the same for a match found by `find` -/
theorem replace_one (obj rep : AStr) (old : Str) (from_ i : Nat) (hold : old ≠ []) (hw : WF obj)
    (hr : WF rep) (hc : CoherentPair obj rep) (hfind : Py.find obj.s old from_ = some i) :
    let obj' := ((obj.getSlice none (some (i : Int))).iadd rep).iadd
      (obj.getSlice (some ((i + old.length : Nat) : Int)) none)
    (∀ k, k < i → act obj' k = act obj k) ∧
    (∀ q, q < rep.len → texts (act obj' (i + q)) = texts (act rep q)) ∧
    (∀ k, i + old.length + k < obj.len →
      texts (act obj' (i + rep.len + k)) = texts (act obj (i + old.length + k))) :=
  replace_one_at obj rep old i hw hr hc (find_inside obj.s old from_ i hold hfind).1

/-- this IS the step of the model's loop (for both kinds of `new`; `repOf` is the model's
    `let (rep, nid')`) -/
theorem replace_one_is_loop_step (old : Str) (new : AStr.Repl) (fuel : Nat) (obj : AStr)
    (count : Int) (hc : count ≠ 0) (i nid : Nat) :
    AStr.replaceLoop old new (fuel + 1) obj count (some i) nid =
      let obj' := ((obj.getSlice none (some (i : Int))).iadd (repOf new obj i nid).1).iadd
        (obj.getSlice (some ((i + old.length : Nat) : Int)) none)
      AStr.replaceLoop old new fuel obj' (if count > 0 then count - 1 else count)
        (Py.find obj'.s old (i + new.advance + (if old.isEmpty then 1 else 0)))
        (repOf new obj i nid).2 := by
  rw [replaceLoop_succ, if_neg hc]

/-- a plain-`str` replacement `raw` (no ESC): the value inserted for a match at `i` is well-formed
    and every one of its characters reports exactly the setting texts of character `i` of `obj`
    (they are fresh copies: identities `nid, nid+1, …`) -/
theorem replace_one_str (obj : AStr) (raw : Str) (i nid : Nat) (hraw : '\x1b' ∉ raw)
    (hi : i < obj.len) :
    let rep := (repOf (.str raw) obj i nid).1
    rep.s = raw ∧ WF rep ∧
    (∀ q, q < raw.length → texts (act rep q) = texts (act obj i)) ∧
    (∀ s ∈ rep.fmts.settings, nid ≤ s.id ∧ s.id < (repOf (.str raw) obj i nid).2) := by
  rw [repOf_str raw hraw obj hi nid]
  refine ⟨strRep_s _ _ _, strRep_wf _ _ _, ?_, ?_⟩
  · intro q hq
    rw [strRep_act raw nid _ hq, texts_freshSettings]
  · intro s hs
    have := strRep_ids raw nid _ s hs
    simpa [texts] using this

/-- one iteration with a plain-`str` replacement: the inserted characters all report the setting
    texts of the FIRST matched character -/
theorem replace_one_str_at (obj : AStr) (old raw : Str) (i nid : Nat) (hraw : '\x1b' ∉ raw)
    (hold : old ≠ []) (hw : WF obj) (hf : FreshFrom obj nid) (hi : i + old.length ≤ obj.len) :
    let obj' := ((obj.getSlice none (some (i : Int))).iadd (repOf (.str raw) obj i nid).1).iadd
      (obj.getSlice (some ((i + old.length : Nat) : Int)) none)
    (∀ k, k < i → act obj' k = act obj k) ∧
    (∀ q, q < raw.length → texts (act obj' (i + q)) = texts (act obj i)) ∧
    (∀ k, i + old.length + k < obj.len →
      texts (act obj' (i + raw.length + k)) = texts (act obj (i + old.length + k))) := by
  have hol : 0 < old.length := List.length_pos_iff.mpr hold
  rw [repOf_str raw hraw obj (by omega) nid]
  obtain ⟨h1, h2, h3⟩ := replace_one_at obj _ old i hw (strRep_wf raw nid _) (strRep_coherent hf raw _) hi
  have hl : (strRep raw nid (texts (act obj i))).len = raw.length :=
    congrArg List.length (strRep_s raw nid _)
  rw [hl] at h2 h3
  exact ⟨h1, fun q hq => by rw [h2 q hq, strRep_act raw nid _ hq, texts_freshSettings], h3⟩

theorem replace_one_styled (obj rep : AStr) (old : Str) (i : Nat) (hw : WF obj) (hr : WF rep)
    (hc : CoherentPair obj rep) (hi : i + old.length ≤ obj.len) :
    styled (((obj.getSlice none (some (i : Int))).iadd rep).iadd
      (obj.getSlice (some ((i + old.length : Nat) : Int)) none)) =
      (styled obj).take i ++ styled rep ++ (styled obj).drop (i + old.length) :=
  step_styled hw hr hc hi

/-! ## the whole loop -/

/-- The replacement value of an AnsiString/AnsiStr `new` is the SAME value `v` in every iteration:
    the model is pure, nothing can change `v` between two matches (so the `new` argument of the
    specification is a constant function). -/
theorem replace_reuses_value (v : AStr) (obj₁ obj₂ : AStr) (i₁ i₂ nid₁ nid₂ : Nat) :
    (repOf (.astr v) obj₁ i₁ nid₁).1 = v ∧ (repOf (.astr v) obj₂ i₂ nid₂).1 = v ∧
      (repOf (.astr v) obj₁ i₁ nid₁).2 = nid₁ := ⟨rfl, rfl, rfl⟩

/-- the loop against the specification, for either kind of replacement: `newf st` is the styled
    value inserted for a match whose first character reports `st`, `Inv` what an iteration keeps -/
theorem replace_all (x : AStr) (old : Str) (new : AStr.Repl) (newf : List Str → List (Char × List Str))
    (Inv : AStr → Nat → Prop) (count : Int) (nid : Nat) (hold : old ≠ [])
    (hadv : ∀ st, (newf st).length = new.advance)
    (hstep : StepOk old new newf Inv)
    (hinv : Inv x nid) :
    (∃ nid', Inv (x.replace old new count nid) nid') ∧
    styled (x.replace old new count nid) = PySpec.replaceStyled (styled x) old newf count := by
  have h := replaceLoop_styled old hold new newf Inv hadv hstep
    (fun s c => PySpec.replaceStyledGo old newf s 0 c)
    (fun s c hs => PySpec.replaceStyledGo_absent old _ s c hs)
    (fun s => PySpec.replaceStyledGo_zero old _ s)
    (fun pre m mid post c hc hm hs => PySpec.replaceStyledGo_first old _ hold pre m mid post c hc hm hs)
    (x.len + 2) x count nid [] (styled x) hinv rfl (by rw [styled_length]; omega)
  rw [styled_map_fst] at h
  simp only [List.length_nil, Nat.add_zero, Option.map_id', List.nil_append] at h
  exact h

theorem replace_astr_all (x : AStr) (old : Str) (v : AStr) (count : Int) (nid : Nat)
    (hold : old ≠ []) (hx : WF x) (hv : WF v) (hc : CoherentPair x v) :
    (WF (x.replace old (.astr v) count nid) ∧ CoherentPair (x.replace old (.astr v) count nid) v) ∧
    styled (x.replace old (.astr v) count nid) =
      PySpec.replaceStyled (styled x) old (fun _ => styled v) count := by
  obtain ⟨⟨_, hI⟩, hS⟩ := replace_all x old (.astr v) (fun _ => styled v) (InvA v) count nid hold
    (fun _ => styled_length v) (astr_step old v hv) ⟨hx, hc⟩
  exact ⟨hI, hS⟩

/-- `replace(old, v, count)` for an AnsiString/AnsiStr `v`: every character outside the matches
    keeps its style, every match is replaced by `v` with `v`'s own styles -/
theorem replace_settings (x : AStr) (old : Str) (v : AStr) (count : Int) (nid : Nat)
    (hold : old ≠ []) (hx : WF x) (hv : WF v) (hc : CoherentPair x v) :
    styled (x.replace old (.astr v) count nid) =
      PySpec.replaceStyled (styled x) old (fun _ => styled v) count :=
  (replace_astr_all x old v count nid hold hx hv hc).2

theorem replace_str_all (x : AStr) (old raw : Str) (count : Int) (nid : Nat)
    (hold : old ≠ []) (hx : WF x) (hf : FreshFrom x nid) (hraw : '\x1b' ∉ raw) :
    (∃ nid', WF (x.replace old (.str raw) count nid) ∧
      FreshFrom (x.replace old (.str raw) count nid) nid') ∧
    styled (x.replace old (.str raw) count nid) =
      PySpec.replaceStyled (styled x) old (fun st => raw.map (fun c => (c, st))) count :=
  replace_all x old (.str raw) _ InvS count nid hold
    (fun _ => by simp [AStr.Repl.advance, AStr.len, C02.parse_plain raw 0 hraw]) (str_step old hold raw hraw) ⟨hx, hf⟩

/-- `replace(old, raw, count)` for a plain `str` `raw` (no ESC): every character outside the
    matches keeps its style, every match is replaced by `raw`, each of its characters in the style
    of the FIRST character of the match it replaces -/
theorem replace_settings_str (x : AStr) (old raw : Str) (count : Int) (nid : Nat)
    (hold : old ≠ []) (hx : WF x) (hf : FreshFrom x nid) (hraw : '\x1b' ∉ raw) :
    styled (x.replace old (.str raw) count nid) =
      PySpec.replaceStyled (styled x) old (fun st => raw.map (fun c => (c, st))) count :=
  (replace_str_all x old raw count nid hold hx hf hraw).2

/-! ## expandtabs -/

/-- `expandtabs(k)`: every tab becomes `k` spaces in the style of the tab; all other characters
    keep their style -/
theorem expandtabs_settings (x : AStr) (k : Int) (nid : Nat) (hx : WF x) (hf : FreshFrom x nid) :
    styled (x.expandtabs k nid) =
      PySpec.replaceStyled (styled x) ['\t']
        (fun st => (List.replicate k.toNat ' ').map (fun c => (c, st))) (-1) := by
  unfold AStr.expandtabs
  refine replace_settings_str x ['\t'] _ (-1) nid (by simp) hx hf ?_
  intro hmem
  exact absurd (List.eq_of_mem_replicate hmem) (by decide)

theorem expandtabs_wf (x : AStr) (k : Int) (nid : Nat) (hx : WF x) (hf : FreshFrom x nid) :
    WF (x.expandtabs k nid) :=
  have ⟨⟨_, h, _⟩, _⟩ := replace_str_all x ['\t'] (List.replicate k.toNat ' ') (-1) nid (by simp) hx hf
    (fun hmem => absurd (List.eq_of_mem_replicate hmem) (by decide))
  h

/-! ## the invariant is kept -/

theorem replace_wf (x : AStr) (old : Str) (v : AStr) (count : Int) (nid : Nat)
    (hold : old ≠ []) (hx : WF x) (hv : WF v) (hc : CoherentPair x v) :
    WF (x.replace old (.astr v) count nid) :=
  (replace_astr_all x old v count nid hold hx hv hc).1.1

/-- the result is still coherent with `v`, so it can be used with `v` again -/
theorem replace_coherent (x : AStr) (old : Str) (v : AStr) (count : Int) (nid : Nat)
    (hold : old ≠ []) (hx : WF x) (hv : WF v) (hc : CoherentPair x v) :
    CoherentPair (x.replace old (.astr v) count nid) v :=
  (replace_astr_all x old v count nid hold hx hv hc).1.2

theorem replace_wf_str (x : AStr) (old raw : Str) (count : Int) (nid : Nat)
    (hold : old ≠ []) (hx : WF x) (hf : FreshFrom x nid) (hraw : '\x1b' ∉ raw) :
    WF (x.replace old (.str raw) count nid) := by
  obtain ⟨⟨_, h, _⟩, _⟩ := replace_str_all x old raw count nid hold hx hf hraw
  exact h

/-- the identities created for the copies stay below some counter -/
theorem replace_fresh_str (x : AStr) (old raw : Str) (count : Int) (nid : Nat)
    (hold : old ≠ []) (hx : WF x) (hf : FreshFrom x nid) (hraw : '\x1b' ∉ raw) :
    ∃ nid', FreshFrom (x.replace old (.str raw) count nid) nid' := by
  obtain ⟨⟨n, _, h⟩, _⟩ := replace_str_all x old raw count nid hold hx hf hraw
  exact ⟨n, h⟩

/-! ## non-vacuity

  `x = "a-b-c"`, red (`31`, object 1) on `[0,3)` and blue (`34`, object 2) on `[3,5)`: the first
  `-` is red, the second blue.  `plus = "+"`, bold (`1`, object 3). -/

def red : Setting := ⟨1, "31".toList⟩
def blue : Setting := ⟨2, "34".toList⟩
def bold : Setting := ⟨3, "1".toList⟩

def exX : AStr :=
  { s := "a-b-c".toList,
    fmts := [(0, { add := [red] }), (3, { add := [blue], rem := [red] }), (5, { rem := [blue] })] }

def plus : AStr := { s := "+".toList, fmts := [(0, { add := [bold] }), (1, { rem := [bold] })] }

theorem exX_wf : WF exX := wf_of_finite (by decide +kernel)

theorem plus_wf : WF plus := wf_of_finite (by decide +kernel)

/-- the hypotheses of `replace_settings`, `replace_wf`, `replace_settings_str`,
    `expandtabs_settings` hold on the example -/
example : "-".toList ≠ [] ∧ WF exX ∧ WF plus ∧ CoherentPair exX plus ∧ FreshFrom exX 10 ∧
    '\x1b' ∉ "+".toList :=
  ⟨by decide +kernel, exX_wf, plus_wf, by decide +kernel, by unfold FreshFrom; decide +kernel, by decide +kernel⟩

/-- the hypotheses of `replace_one` / `replace_one_at` / `replace_one_str_at` -/
example : Py.find exX.s "-".toList 0 = some 1 ∧ Py.find exX.s "-".toList 2 = some 3 ∧
    1 + "-".toList.length ≤ exX.len := by decide +kernel

example : styled exX =
    [('a', ["31".toList]), ('-', ["31".toList]), ('b', ["31".toList]), ('-', ["34".toList]),
     ('c', ["34".toList])] := by decide +kernel

/-- AnsiString replacement: both `+` report bold only — NOT the red / blue of the `-` they replace —
    and both occurrences are the same value `plus` -/
example : styled (exX.replace "-".toList (.astr plus) (-1) 10) =
    [('a', ["31".toList]), ('+', ["1".toList]), ('b', ["31".toList]), ('+', ["1".toList]),
     ('c', ["34".toList])] := by decide +kernel

/-- … which is what the specification says -/
example : PySpec.replaceStyled (styled exX) "-".toList (fun _ => styled plus) (-1) =
    [('a', ["31".toList]), ('+', ["1".toList]), ('b', ["31".toList]), ('+', ["1".toList]),
     ('c', ["34".toList])] := by decide +kernel

example : styled (exX.replace "-".toList (.astr plus) (-1) 10) =
    PySpec.replaceStyled (styled exX) "-".toList (fun _ => styled plus) (-1) :=
  replace_settings exX _ plus (-1) 10 (by decide +kernel) exX_wf plus_wf (by decide +kernel)

/-- plain-`str` replacement: the first `+` reports red, the second blue -/
example : styled (exX.replace "-".toList (.str "+".toList) (-1) 10) =
    [('a', ["31".toList]), ('+', ["31".toList]), ('b', ["31".toList]), ('+', ["34".toList]),
     ('c', ["34".toList])] := by decide +kernel

example : PySpec.replaceStyled (styled exX) "-".toList (fun st => "+".toList.map (fun c => (c, st))) (-1) =
    [('a', ["31".toList]), ('+', ["31".toList]), ('b', ["31".toList]), ('+', ["34".toList]),
     ('c', ["34".toList])] := by decide +kernel

example : styled (exX.replace "-".toList (.str "+".toList) (-1) 10) =
    PySpec.replaceStyled (styled exX) "-".toList (fun st => "+".toList.map (fun c => (c, st))) (-1) :=
  replace_settings_str exX _ _ (-1) 10 (by decide +kernel) exX_wf (by unfold FreshFrom; decide +kernel) (by decide +kernel)

/-- `count = 1`: only the first `-` is replaced -/
example : styled (exX.replace "-".toList (.str "+=".toList) 1 10) =
    [('a', ["31".toList]), ('+', ["31".toList]), ('=', ["31".toList]), ('b', ["31".toList]),
     ('-', ["34".toList]), ('c', ["34".toList])] := by decide +kernel

/-- the table of the AnsiString case: the two `+` are the same object 3 (the value is reused) -/
example : (exX.replace "-".toList (.astr plus) (-1) 10).fmts =
    [(0, { add := [red] }), (1, { add := [bold], rem := [red] }), (2, { add := [red], rem := [bold] }),
     (3, { add := [bold], rem := [red] }), (4, { add := [blue], rem := [bold] }), (5, { rem := [blue] })] := by
  decide +kernel

example : WF (exX.replace "-".toList (.astr plus) (-1) 10) :=
  replace_wf exX _ plus (-1) 10 (by decide +kernel) exX_wf plus_wf (by decide +kernel)

/-- one iteration on the example (the match at 1, `rep = plus`) -/
example : act (((exX.getSlice none (some 1)).iadd plus).iadd (exX.getSlice (some 2) none)) 0 = [red] ∧
    act (((exX.getSlice none (some 1)).iadd plus).iadd (exX.getSlice (some 2) none)) 1 = [bold] ∧
    act (((exX.getSlice none (some 1)).iadd plus).iadd (exX.getSlice (some 2) none)) 3 = [blue] := by
  decide +kernel

/-- expandtabs: the tab is blue, so are its two spaces -/
def exT : AStr :=
  { s := "a\tb".toList,
    fmts := [(0, { add := [red] }), (1, { add := [blue], rem := [red] }), (2, { rem := [blue] })] }

theorem exT_wf : WF exT := wf_of_finite (by decide +kernel)

example : WF exT ∧ FreshFrom exT 10 := ⟨exT_wf, by unfold FreshFrom; decide +kernel⟩

example : styled (exT.expandtabs 2 10) =
    [('a', ["31".toList]), (' ', ["34".toList]), (' ', ["34".toList]), ('b', [])] := by decide +kernel

end C11b

#print axioms PySpec.replaceStyledGo_absent
#print axioms PySpec.replaceStyledGo_zero
#print axioms PySpec.replaceStyledGo_first
#print axioms PySpec.replaceStyled_text
#print axioms C11b.replace_one_at
#print axioms C11b.replace_one
#print axioms C11b.replace_one_str
#print axioms C11b.find_inside
#print axioms C11b.replace_one_is_loop_step
#print axioms C11b.replace_one_str_at
#print axioms C11b.replace_one_styled
#print axioms C11b.replace_reuses_value
#print axioms C11b.replace_astr_all
#print axioms C11b.replace_settings
#print axioms C11b.replace_str_all
#print axioms C11b.replace_settings_str
#print axioms C11b.expandtabs_settings
#print axioms C11b.expandtabs_wf
#print axioms C11b.replace_wf
#print axioms C11b.replace_coherent
#print axioms C11b.replace_wf_str
#print axioms C11b.replace_fresh_str
#print axioms C11b.exX_wf
#print axioms C11b.plus_wf
#print axioms C11b.exT_wf
