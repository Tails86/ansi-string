import AnsiSpec.Styled
import AnsiProofs.Lemmas.StrLit
/-
  Property C13 — `AnsiStr` (the immutable `str` subclass) has the same text, per-character settings
  and rendering as `AnsiString` under every shared method, and its `str` payload equals its rendering.

  The theorems are structural.  In the code (`class AnsiStr(str)` in ansi_string.py) every method has
  the shape

      cpy = self._s.copy(); cpy.<the AnsiString method>(…, inplace=True); return AnsiStr(cpy)

  and `AnsiStr.__new__` computes the `str` payload as `str(ansi_string)` at construction (or takes
  the payload and the wrapped object of an existing `AnsiStr` over unchanged).  This file writes
  that shape down once (`AnsiStrW.mk'`, `lift`, `liftE`, `liftL`, `lift2`, `rewrap`) and proves what
  follows from the shape alone.

  Whether each of the ~70 methods of the code's `AnsiStr` really has that shape is NOT a theorem
  here.  It is decided by twin execution in the differential harness: every operation is run on an
  `AnsiString` and on an `AnsiStr` built from the same constructor arguments, and text, per-character
  settings, rendering and `str` payload are compared after every step.

  The model has no aliasing (values, not objects), so `copy()` is the identity on values.
-/

namespace C13

/-- an `AnsiStr`: the wrapped `AnsiString` (`_s`) and the `str` payload of the `str` base class -/
structure AnsiStrW where
  val : AStr
  payload : Str
  deriving DecidableEq, Repr

namespace AnsiStrW

/-- `AnsiStr(ansi_string)`: `super().__new__(cls, str(ansi_string))`, `instance._s = ansi_string` -/
def mk' (v : AStr) : AnsiStrW := ⟨v, v.str⟩

/-- `AnsiStr(other_ansi_str)` without settings: `super().__new__(cls, str(s))`, `instance._s = s._s`.
    `AnsiStr` does not override `__str__`, so `str(s)` is the payload of `s`. -/
def rewrap (a : AnsiStrW) : AnsiStrW := ⟨a.val, a.payload⟩

/-- a method returning an `AnsiStr`: copy, call the in-place `AnsiString` method, re-wrap -/
def lift (f : AStr → AStr) (a : AnsiStrW) : AnsiStrW := mk' (f a.val)

def liftE (f : AStr → Except PyErr AStr) (a : AnsiStrW) : Except PyErr AnsiStrW := (f a.val).map mk'

/-- the same for a method returning a list (`split`, `partition`, `splitlines`, iteration, …) -/
def liftL (f : AStr → List AStr) (a : AnsiStrW) : List AnsiStrW := (f a.val).map mk'

/-- a method taking a second `AnsiStr` (`+`, `join` element, `replace` argument, …) -/
def lift2 (f : AStr → AStr → AStr) (a b : AnsiStrW) : AnsiStrW := mk' (f a.val b.val)

/-- a method returning something that is not an `AnsiStr` (`find`, `startswith`, `len`, `to_str`, …) -/
def fwd {β : Type} (f : AStr → β) (a : AnsiStrW) : β := f a.val

end AnsiStrW

open AnsiStrW

def Inv (a : AnsiStrW) : Prop := a.payload = a.val.str

/-! ## The result is the `AnsiString` result -/

theorem payload_eq (v : AStr) : (mk' v).payload = v.str := rfl

theorem mk_val (v : AStr) : (mk' v).val = v := rfl

theorem lift_val (f : AStr → AStr) (a : AnsiStrW) : (a.lift f).val = f a.val := rfl

theorem lift_payload (f : AStr → AStr) (a : AnsiStrW) : (a.lift f).payload = (f a.val).str := rfl

theorem lift_same (f : AStr → AStr) (a : AnsiStrW) :
    (a.lift f).val.s = (f a.val).s ∧ (∀ i, act (a.lift f).val i = act (f a.val) i) ∧
    den (a.lift f).val = den (f a.val) ∧ (a.lift f).val.str = (f a.val).str :=
  ⟨rfl, fun _ => rfl, rfl, rfl⟩

theorem liftE_ok (f : AStr → Except PyErr AStr) (a : AnsiStrW) (y : AStr) (h : f a.val = .ok y) :
    a.liftE f = .ok (mk' y) := by
  rw [liftE, h]; rfl

theorem liftE_error (f : AStr → Except PyErr AStr) (a : AnsiStrW) (e : PyErr) (h : f a.val = .error e) :
    a.liftE f = .error e := by
  rw [liftE, h]; rfl

theorem liftE_val (f : AStr → Except PyErr AStr) (a b : AnsiStrW) (h : a.liftE f = .ok b) :
    f a.val = .ok b.val ∧ b.payload = b.val.str := by
  unfold liftE at h
  cases hf : f a.val with
  | error e => rw [hf] at h; cases h
  | ok y => rw [hf] at h; cases h; exact ⟨rfl, rfl⟩

theorem liftL_val (f : AStr → List AStr) (a : AnsiStrW) : (a.liftL f).map (·.val) = f a.val := by
  simp [liftL, Function.comp_def, mk_val]

theorem liftL_length (f : AStr → List AStr) (a : AnsiStrW) : (a.liftL f).length = (f a.val).length := by
  simp [liftL]

theorem lift2_val (f : AStr → AStr → AStr) (a b : AnsiStrW) : (lift2 f a b).val = f a.val b.val := rfl

theorem lift2_payload (f : AStr → AStr → AStr) (a b : AnsiStrW) :
    (lift2 f a b).payload = (f a.val b.val).str := rfl

theorem fwd_eq {β : Type} (f : AStr → β) (a : AnsiStrW) : a.fwd f = f a.val := rfl

theorem rewrap_eq (a : AnsiStrW) : a.rewrap = a := rfl

/-! ## The receiver is unchanged

  `a` is a value, so there is no state in which computing `a.lift f` could have changed it; the
  statement below is the trivial one the purity leaves.  That the *code* never writes to `self._s`
  (it always works on `self._s.copy()`) is what the harness's alias probe observes. -/

theorem lift_receiver_unchanged (f : AStr → AStr) (a : AnsiStrW) :
    let _b := a.lift f
    a = a := rfl

/-- two uses of the same receiver see the same wrapped value and payload, whatever was computed from
    it in between -/
theorem lift_receiver_reusable (f g : AStr → AStr) (a : AnsiStrW) :
    ((a.lift f, a.lift g).2).val = g a.val ∧ ((a.lift f, a).2).payload = a.payload := ⟨rfl, rfl⟩

/-! ## The payload invariant `payload = str(wrapped)` -/

theorem inv_mk (v : AStr) : Inv (mk' v) := rfl

theorem inv_lift (f : AStr → AStr) (a : AnsiStrW) : Inv (a.lift f) := rfl

theorem inv_lift2 (f : AStr → AStr → AStr) (a b : AnsiStrW) : Inv (lift2 f a b) := rfl

theorem inv_liftE (f : AStr → Except PyErr AStr) (a b : AnsiStrW) (h : a.liftE f = .ok b) : Inv b :=
  (liftE_val f a b h).2

theorem inv_liftL (f : AStr → List AStr) (a : AnsiStrW) : ∀ b ∈ a.liftL f, Inv b := by
  intro b hb
  obtain ⟨v, _, rfl⟩ := List.mem_map.mp hb
  rfl

theorem inv_rewrap (a : AnsiStrW) (h : Inv a) : Inv a.rewrap := h

/-- everything that can be built: from the constructor, by any method of any of the shapes, from
    things that were built -/
inductive Reach : AnsiStrW → Prop
  | mk (v : AStr) : Reach (mk' v)
  | rewrap {a : AnsiStrW} : Reach a → Reach a.rewrap
  | lift (f : AStr → AStr) {a : AnsiStrW} : Reach a → Reach (a.lift f)
  | lift2 (f : AStr → AStr → AStr) {a b : AnsiStrW} : Reach a → Reach b → Reach (lift2 f a b)
  | liftE (f : AStr → Except PyErr AStr) {a b : AnsiStrW} : Reach a → a.liftE f = .ok b → Reach b
  | liftL (f : AStr → List AStr) {a b : AnsiStrW} : Reach a → b ∈ a.liftL f → Reach b

/-- "The str payload of an AnsiStr always equals its own rendering." -/
theorem payload_invariant {a : AnsiStrW} (h : Reach a) : Inv a := by
  induction h with
  | mk v => exact inv_mk v
  | rewrap _ ih => exact inv_rewrap _ ih
  | lift f _ _ => exact inv_lift f _
  | lift2 f _ _ _ _ => exact inv_lift2 f _ _
  | liftE f _ h _ => exact inv_liftE f _ _ h
  | liftL f _ h _ => exact inv_liftL f _ _ h

/-- the invariant is not vacuous as a predicate: a wrapper with a stale payload violates it -/
example : ¬ Inv ⟨{ s := "ab".toList, fmts := [(0, { add := [⟨0, "1".toList⟩] }), (2, { rem := [⟨0, "1".toList⟩] })] },
    "ab".toList⟩ := by
  simp only [Inv, strLitToList]
  decide +kernel

/-! ## On a concrete value: bold `ab`, `clear_formatting`, an operation that raises -/

def exV : AStr :=
  { s := "ab".toList, fmts := [(0, { add := [⟨0, "1".toList⟩] }), (2, { rem := [⟨0, "1".toList⟩] })] }

example : (mk' exV).payload = "\x1b[1mab\x1b[m".toList := by
  simp only [exV, strLitToList]
  decide +kernel
example : ((mk' exV).lift AStr.clearFormatting).val = exV.clearFormatting ∧
    ((mk' exV).lift AStr.clearFormatting).payload = "ab".toList := by decide +kernel
example : Reach ((mk' exV).lift AStr.clearFormatting) := Reach.lift _ (Reach.mk _)
example : Inv ((mk' exV).lift AStr.clearFormatting) := payload_invariant (Reach.lift _ (Reach.mk _))
example : (mk' exV).liftE (fun _ => .error .typeError) = .error .typeError := liftE_error _ _ _ rfl
example : (mk' exV).liftE (fun v => .ok v.clearFormatting) = .ok (mk' exV.clearFormatting) :=
  liftE_ok _ _ _ rfl
example : ((mk' exV).liftL (fun v => [v, v.clearFormatting])).map (·.payload) =
    ["\x1b[1mab\x1b[m".toList, "ab".toList] := by
  simp only [exV, strLitToList]
  decide +kernel

end C13

#print axioms C13.payload_eq
#print axioms C13.lift_val
#print axioms C13.lift_payload
#print axioms C13.lift_same
#print axioms C13.liftE_ok
#print axioms C13.liftE_error
#print axioms C13.liftE_val
#print axioms C13.liftL_val
#print axioms C13.lift2_val
#print axioms C13.lift_receiver_unchanged
#print axioms C13.lift_receiver_reusable
#print axioms C13.inv_liftE
#print axioms C13.inv_liftL
#print axioms C13.payload_invariant
