import AnsiModel.SetAnsi
import AnsiModel.Generated.Methods.SetAnsiDiff
import AnsiProofs.Lemmas.Obj
/-
  Property C02, part c — the block of `AnsiString.set_ansi_str` that computes `settings_to_remove` /
  `settings_to_apply` from the old and the new effect dictionaries, from the source.

  `Gen.setAnsiDiff` is that block translated statement by statement (harness/pyobj.py):
  a loop over the new dictionary (a changed effect stops the old setting object and starts the new
  one, a new effect starts), then a loop over the old dictionary (an effect that is gone stops).
  The hand-written model `AStr.setAnsiStep` (`AnsiModel/SetAnsi.lean`) has the same two lists as the
  local expressions `toRemove` / `toApply`; they are repeated here verbatim as functions
  (`step_uses_diff` shows, by `rfl`, that the model's step is written with them) and
  `diff_is_code` shows that the translated statements compute exactly them, in the same order, and
  never raise (`d[k]` is only evaluated under `k in d`).

  A `for` loop whose round appends to its accumulated lists something that depends on the element
  only is a `flatMap` (`ObjL.foldlM_append`, `L.fold_append2`); the `flatMap`s of what the rounds
  append (`L.applyOf`, `L.removeOf`, `L.goneOf`) are the model's `filter`/`filterMap`/`map`
  expressions.  `Py.dictGet`, `PyDict.contains` and `PyDict.get?` are all `find?` of the first pair
  with the key, so no hypothesis on the dictionaries is needed — keys may even repeat.
-/

namespace C02c
namespace L

theorem fold_append2 {ε α β γ : Type} (f : List β × List γ → α → Except ε (List β × List γ))
    (A : α → List β) (R : α → List γ)
    (hf : ∀ st a, f st a = .ok (st.1 ++ A a, st.2 ++ R a)) (l : List α) (st : List β × List γ) :
    List.foldlM f st l = .ok (st.1 ++ l.flatMap A, st.2 ++ l.flatMap R) := by
  induction l generalizing st with
  | nil => simp [pure, Except.pure]
  | cons a l ih =>
    rw [List.foldlM_cons, hf]
    show List.foldlM f (st.1 ++ A a, st.2 ++ R a) l = _
    rw [ih]; simp

theorem flatMap_if {α β : Type} (c : α → Bool) (g : α → β) (l : List α) :
    l.flatMap (fun a => if c a = true then [g a] else []) = (l.filter c).map g := by
  induction l with
  | nil => rfl
  | cons a l ih =>
    rw [List.flatMap_cons, ih]
    cases h : c a <;> simp [h]

/-- `d[k]` -/
theorem dictGet_eq (d : PyDict) (k : Nat) :
    Py.dictGet d k = (match d.get? k with | some v => .ok v | none => .error .key) := by
  unfold Py.dictGet PyDict.get?
  cases d.find? (fun kv => kv.1 == k) <;> rfl

/-- `k in d` -/
theorem contains_eq (d : PyDict) (k : Nat) : d.contains k = (d.get? k).isSome := by
  unfold PyDict.contains PyDict.get?
  induction d with
  | nil => rfl
  | cons kv rest ih =>
    cases h : kv.1 == k <;> simp [h]
    simpa using ih

/-- first loop, to `settings_to_apply`: the new setting of an effect that is new or has changed -/
def applyOf (old : PyDict) (kv : Nat × Setting) : List Setting :=
  if (match old.get? kv.1 with | some v => v.txt != kv.2.txt | none => true) = true then [kv.2] else []

/-- first loop, to `settings_to_remove`: the old setting of an effect that has changed -/
def removeOf (old : PyDict) (kv : Nat × Setting) : List Setting :=
  match old.get? kv.1 with
  | some v => if (v.txt != kv.2.txt) = true then [v] else []
  | none => []

theorem changed_eq (old new : PyDict) :
    (new.filter (fun kv => match old.get? kv.1 with
        | some v => v.txt != kv.2.txt
        | none => false)).filterMap (fun kv => old.get? kv.1) = new.flatMap (removeOf old) := by
  induction new with
  | nil => rfl
  | cons kv rest ih =>
    rw [List.flatMap_cons, ← ih, List.filter_cons]
    unfold removeOf
    cases h : old.get? kv.1 with
    | none => simp
    | some o => by_cases h' : o.txt = kv.2.txt <;> simp [h, h']

/-- second loop, to `settings_to_remove`: the old setting of an effect that is gone -/
def goneOf (new : PyDict) (kv : Nat × Setting) : List Setting :=
  if (!new.contains kv.1) = true then [kv.2] else []

end L

open L ObjL

/-- the model's `settings_to_remove` (the local `toRemove` of `AStr.setAnsiStep`, verbatim) -/
def toRemove (old new : PyDict) : List Setting :=
  ((new.filter (fun kv => match old.get? kv.1 with
      | some v => v.txt != kv.2.txt
      | none => false)).filterMap (fun kv => old.get? kv.1)) ++
    (old.filter (fun kv => !new.contains kv.1)).map (·.2)

/-- the model's `settings_to_apply` (the local `toApply` of `AStr.setAnsiStep`, verbatim) -/
def toApply (old new : PyDict) : List Setting :=
  (new.filter (fun kv => match old.get? kv.1 with
      | some v => v.txt != kv.2.txt
      | none => true)).map (·.2)

/-- the block was translated (it did not fall outside the translator's fragment) -/
theorem translated : Gen.setAnsiDiffOk = true := by decide

theorem toApply_eq (old new : PyDict) : toApply old new = new.flatMap (applyOf old) := by
  unfold toApply applyOf
  rw [flatMap_if]

theorem toRemove_eq (old new : PyDict) :
    toRemove old new = new.flatMap (removeOf old) ++ old.flatMap (goneOf new) := by
  unfold toRemove goneOf
  rw [flatMap_if, changed_eq]

set_option linter.unusedSimpArgs false in
/-- The statements of `set_ansi_str` from `settings_to_remove = []` up to `if settings_to_remove:`, as
    translated from the source, compute the two lists of the model, in the model's order, and raise
    nothing. (Argument order of the generated function: the new dictionary, then the old one.) -/
theorem diff_is_code (new old : PyDict) :
    Gen.setAnsiDiff new old = .ok (toRemove old new, toApply old new) := by
  unfold Gen.setAnsiDiff
  dsimp only
  rw [fold_append2 _ (applyOf old) (removeOf old), bind_ok]
  · dsimp only
    rw [ObjL.foldlM_append (R := goneOf new), bind_ok]
    · simp only [List.nil_append, toRemove_eq, toApply_eq]
    · intro acc kv _
      obtain ⟨k, v⟩ := kv
      unfold goneOf
      cases new.contains k <;> simp
  · intro st kv
    obtain ⟨ap, rm⟩ := st
    obtain ⟨k, v⟩ := kv
    unfold applyOf removeOf
    simp only [contains_eq, dictGet_eq]
    cases old.get? k with
    | none => simp
    | some o =>
      simp only [bind_ok, Option.isSome_some, if_true]
      by_cases h' : o.txt = v.txt <;> simp [h']

/-- in particular no `KeyError` from `old_settings[setting_key]` -/
theorem diff_never_raises (new old : PyDict) (err : Exc) : Gen.setAnsiDiff new old ≠ .error err := by
  rw [diff_is_code]
  intro h; cases h

/-- the model's step of `set_ansi_str` is written with the two functions -/
theorem step_uses_diff (x : AStr) (old : PyDict) (nid key : Nat) (seq : CtlSeq) (hk : key < x.len) :
    AStr.setAnsiStep (x, old, nid) key seq =
      (let new := settingsToDict ((pgsStr seq.sequence false).map (fun t => ⟨0, t⟩)) old
       let x1 := if (toRemove old new).isEmpty then x
                 else x.removeFormatting (some (texts (toRemove old new))) (some key) none
       let x2 := if (toApply old new).isEmpty then x1
                 else x1.applyFormatting (freshSettings nid (texts (toApply old new))) (some key) none true
       (x2, new, nid + (toApply old new).length)) := by
  have : ¬ key ≥ x.len := by omega
  simp only [AStr.setAnsiStep, this, if_false]
  rfl

/-- and so with the translated block itself: whatever pair it returns is what the step removes and
    applies -/
theorem step_uses_code (x : AStr) (old : PyDict) (nid key : Nat) (seq : CtlSeq) (hk : key < x.len) :
    ∃ rm ap, Gen.setAnsiDiff (settingsToDict ((pgsStr seq.sequence false).map (fun t => ⟨0, t⟩)) old) old
        = .ok (rm, ap) ∧
      AStr.setAnsiStep (x, old, nid) key seq =
        (let x1 := if rm.isEmpty then x else x.removeFormatting (some (texts rm)) (some key) none
         let x2 := if ap.isEmpty then x1
                   else x1.applyFormatting (freshSettings nid (texts ap)) (some key) none true
         (x2, settingsToDict ((pgsStr seq.sequence false).map (fun t => ⟨0, t⟩)) old, nid + ap.length)) :=
  ⟨_, _, diff_is_code _ _, step_uses_diff x old nid key seq hk⟩

/-! ## Non-vacuity -/

/-- bold (effect 1) and red (effect 5) before; blue (effect 5) and underline (effect 7) after -/
def old0 : PyDict := [(1, ⟨0, "1".toList⟩), (5, ⟨1, "31".toList⟩)]
def new0 : PyDict := [(5, ⟨2, "34".toList⟩), (7, ⟨3, "4".toList⟩)]

/-- the changed effect's old object first, then the effect that is gone; the applied ones in the order of
    the new dictionary -/
example : Gen.setAnsiDiff new0 old0 =
    .ok ([⟨1, "31".toList⟩, ⟨0, "1".toList⟩], [⟨2, "34".toList⟩, ⟨3, "4".toList⟩]) := by decide +kernel

example : (toRemove old0 new0, toApply old0 new0) =
    ([⟨1, "31".toList⟩, ⟨0, "1".toList⟩], [⟨2, "34".toList⟩, ⟨3, "4".toList⟩]) := by decide +kernel

/-- the same texts under other objects: nothing to do -/
example : Gen.setAnsiDiff [(5, ⟨9, "31".toList⟩), (1, ⟨8, "1".toList⟩)] old0 = .ok ([], []) := by decide +kernel

/-- everything gone (after a reset): the old objects in the order of the old dictionary -/
example : Gen.setAnsiDiff [] old0 = .ok ([⟨0, "1".toList⟩, ⟨1, "31".toList⟩], []) := by decide +kernel

/-- a dictionary with a repeated key (never produced by `settings_to_dict`, but allowed by the type): both
    sides look the first pair up -/
example : Gen.setAnsiDiff [(5, ⟨2, "34".toList⟩), (5, ⟨3, "31".toList⟩)] [(5, ⟨1, "31".toList⟩), (5, ⟨0, "34".toList⟩)] =
    .ok ([⟨1, "31".toList⟩], [⟨2, "34".toList⟩]) := by decide +kernel

/-- the hypothesis of `step_uses_diff` is satisfiable -/
example : (1 : Nat) < ({ s := "abc".toList, fmts := [] } : AStr).len := by decide

end C02c

#print axioms C02c.translated
#print axioms C02c.diff_is_code
#print axioms C02c.diff_never_raises
#print axioms C02c.step_uses_diff
#print axioms C02c.step_uses_code
