import AnsiProofs.Lemmas.Match
import AnsiProofs.Props.C14
/-
  Property C16 — `format_matching` / `unformat_matching`.

  "format_matching(spec, *fmt, regex, match_case, count) leaves the object in the same state as
  calling apply_formatting(fmt, m.start(), m.end()) for the first count (all if negative)
  non-overlapping matches of the pattern in base_str as found by Python's re …; unformat_matching
  likewise with remove_formatting, no format or None meaning all settings.  Characters outside all
  matches keep their settings and the text never changes."

  What is proved here, and what is not.  The matches are an *external input*: `spans` is the list
  of `(m.start(), m.end())` pairs that `re.finditer` yields, in that order.  Which spans Python's
  `re` produces for a pattern (escaping of a non-regex spec, IGNORECASE, non-overlap) is decided by
  the differential harness, which runs the real `re`; nothing about `re` is claimed here.
  What is proved about the model holds for all values, arguments, span lists and counts.  The facts
  about one `apply_formatting` / `remove_formatting` call are the theorems of C06 and C07; that
  `'bold'` means the SGR code `1` is a theorem of C14.
-/

namespace C16

open MatchL

/-! ## the method is the fold over the first `count` spans -/

theorem format_matching_eq_fold (x : AStr) (a : SArg) (spans : List (Int × Int)) (count : Int) :
    x.formatMatching a spans count =
      (takeCount count spans).foldlM
        (fun acc se => acc.applyRaw acc.fmts.nextId a (some se.1) (some se.2) true) x := rfl

theorem unformat_matching_eq_fold (x : AStr) (a : Option SArg) (spans : List (Int × Int)) (count : Int) :
    x.unformatMatching a spans count =
      (takeCount count spans).foldlM (fun acc se => acc.removeRaw a (some se.1) (some se.2)) x := rfl

theorem takeCount_neg (count : Int) (h : count < 0) (spans : List (Int × Int)) :
    takeCount count spans = spans := if_pos h

theorem takeCount_nonneg (count : Int) (h : 0 ≤ count) (spans : List (Int × Int)) :
    takeCount count spans = spans.take count.toNat := if_neg (Int.not_lt.mpr h)

example : takeCount (-1) [(1, 2), (3, 4), (5, 6)] = [(1, 2), (3, 4), (5, 6)] ∧
    takeCount (-7) [(1, 2), (3, 4), (5, 6)] = [(1, 2), (3, 4), (5, 6)] ∧
    takeCount 2 [(1, 2), (3, 4), (5, 6)] = [(1, 2), (3, 4)] ∧
    takeCount 0 [(1, 2), (3, 4), (5, 6)] = [] ∧
    takeCount 9 [(1, 2), (3, 4), (5, 6)] = [(1, 2), (3, 4), (5, 6)] := by decide +kernel

/-- `finditer` is exhausted: the loop ends -/
theorem format_matching_nil (x : AStr) (a : SArg) (count : Int) : x.formatMatching a [] count = .ok x := by
  rw [format_matching_eq_fold, takeCount_nil]; rfl

/-- `count == 0`: `break` -/
theorem format_matching_zero (x : AStr) (a : SArg) (spans : List (Int × Int)) :
    x.formatMatching a spans 0 = .ok x := rfl

/-- `count < 0 or count > 0`: format this match, decrement a positive `count`, go on -/
theorem format_matching_cons (x : AStr) (a : SArg) (se : Int × Int) (rest : List (Int × Int)) (count : Int)
    (h : count ≠ 0) :
    x.formatMatching a (se :: rest) count =
      (x.applyRaw x.fmts.nextId a (some se.1) (some se.2) true) >>=
        fun y => y.formatMatching a rest (if count > 0 then count - 1 else count) := by
  rw [format_matching_eq_fold, takeCount_cons h, List.foldlM_cons]
  rfl

theorem unformat_matching_nil (x : AStr) (a : Option SArg) (count : Int) :
    x.unformatMatching a [] count = .ok x := by
  rw [unformat_matching_eq_fold, takeCount_nil]; rfl

theorem unformat_matching_zero (x : AStr) (a : Option SArg) (spans : List (Int × Int)) :
    x.unformatMatching a spans 0 = .ok x := rfl

theorem unformat_matching_cons (x : AStr) (a : Option SArg) (se : Int × Int) (rest : List (Int × Int))
    (count : Int) (h : count ≠ 0) :
    x.unformatMatching a (se :: rest) count =
      (x.removeRaw a (some se.1) (some se.2)) >>=
        fun y => y.unformatMatching a rest (if count > 0 then count - 1 else count) := by
  rw [unformat_matching_eq_fold, takeCount_cons h, List.foldlM_cons]
  rfl

example : (2 : Int) ≠ 0 ∧ (-1 : Int) ≠ 0 := by decide +kernel

/-! ## the identities of the new objects are new -/

theorem nextId_fresh (x : AStr) : FreshFrom x x.fmts.nextId := MatchL.nextId_fresh x

/-! The example value: text `a-b-c` with red (`31`, object 0) on `[0,3)`; the spec `-` matches at
    `[1,2)` and `[3,4)`.  The first match lies inside the red part, the second outside. -/

def exX : AStr :=
  { s := "a-b-c".toList
    fmts := [(0, { add := [⟨0, "31".toList⟩] }), (3, { rem := [⟨0, "31".toList⟩] })] }

def exSpans : List (Int × Int) := [(1, 2), (3, 4)]

theorem exX_wf : WF exX := wf_of_finite (by decide +kernel)

example : exX.fmts.nextId = 1 := by decide +kernel

/-- `format_matching('-', 'bold', count=1)` -/
def exY1 : AStr :=
  { s := "a-b-c".toList
    fmts := [(0, { add := [⟨0, "31".toList⟩] }), (1, { add := [⟨1, "1".toList⟩] }),
             (2, { rem := [⟨1, "1".toList⟩] }), (3, { rem := [⟨0, "31".toList⟩] })] }

/-- `format_matching('-', 'bold')` (`count=-1`): a second, new object for the second match -/
def exYall : AStr :=
  { s := "a-b-c".toList
    fmts := [(0, { add := [⟨0, "31".toList⟩] }), (1, { add := [⟨1, "1".toList⟩] }),
             (2, { rem := [⟨1, "1".toList⟩] }),
             (3, { add := [⟨2, "1".toList⟩], rem := [⟨0, "31".toList⟩] }),
             (4, { rem := [⟨2, "1".toList⟩] })] }

/-- `unformat_matching('-')` (no format: everything), both matches -/
def exU : AStr :=
  { s := "a-b-c".toList
    fmts := [(0, { add := [⟨0, "31".toList⟩] }), (1, { rem := [⟨0, "31".toList⟩] }),
             (2, { add := [⟨0, "31".toList⟩] }), (3, { rem := [⟨0, "31".toList⟩] })] }

/-- `'bold'` is a spelling of the member `BOLD`, whose only setting is `1` -/
theorem scrub_bold : Scrub.scrub (.str "bold".toList) = .ok ["1".toList] :=
  (C14.spelling_equiv_name ScrubL.bold_mem (by decide)).1

theorem ok_of_toOption {r : Except PyErr AStr} {y : AStr} (h : r.toOption = some y) : r = .ok y := by
  cases r with
  | error e => cases h
  | ok z => cases h; rfl

/-- with `'bold'` the calls do what they do with the setting object `1`, on which `decide` runs -/
theorem format_bold (count : Int) :
    exX.formatMatching (.str "bold".toList) exSpans count =
      exX.formatMatching (.obj "1".toList) exSpans count :=
  formatMatching_congr (by decide) (scrub_bold.trans (C14.obj_form _).symm) ..

theorem ex_format_1 : exX.formatMatching (.str "bold".toList) exSpans 1 = .ok exY1 :=
  (format_bold 1).trans (ok_of_toOption (by decide +kernel))

theorem ex_format_all : exX.formatMatching (.str "bold".toList) exSpans (-1) = .ok exYall :=
  (format_bold (-1)).trans (ok_of_toOption (by decide +kernel))

theorem ex_unformat_all : exX.unformatMatching none exSpans (-1) = .ok exU :=
  ok_of_toOption (by decide +kernel)

/-- a tuple of formats (what the Python method really passes on: `format` is the `*format` tuple),
    here `(1,)` — the SGR code of bold — gives the same -/
example : (exX.formatMatching (.list [.int 1]) exSpans (-1)).toOption = some exYall := by
  decide +kernel

/-- one format, `(31,)`, removed from the first match only -/
example : (exX.unformatMatching (some (.list [.int 31])) exSpans 1).toOption = some exU := by
  decide +kernel

/-- `count=0`: nothing -/
example : (exX.formatMatching (.str "bold".toList) exSpans 0).toOption = some exX :=
  congrArg Except.toOption (format_matching_zero ..)

-- what the characters report afterwards
example : (List.range 5).map (act exX) =
    [[⟨0, "31".toList⟩], [⟨0, "31".toList⟩], [⟨0, "31".toList⟩], [], []] := by decide +kernel
example : (List.range 5).map (act exY1) =
    [[⟨0, "31".toList⟩], [⟨0, "31".toList⟩, ⟨1, "1".toList⟩], [⟨0, "31".toList⟩], [], []] := by decide +kernel
example : (List.range 5).map (act exYall) =
    [[⟨0, "31".toList⟩], [⟨0, "31".toList⟩, ⟨1, "1".toList⟩], [⟨0, "31".toList⟩], [⟨2, "1".toList⟩], []] := by
  decide +kernel
example : (List.range 5).map (act exU) = [[⟨0, "31".toList⟩], [], [⟨0, "31".toList⟩], [], []] := by decide +kernel

/-! ## the text never changes -/

theorem matching_text (x y : AStr) (a : SArg) (spans : List (Int × Int)) (count : Int)
    (h : x.formatMatching a spans count = .ok y) : y.s = x.s :=
  (formatMatching_spec h).1

theorem unmatching_text (x y : AStr) (a : Option SArg) (spans : List (Int × Int)) (count : Int)
    (h : x.unformatMatching a spans count = .ok y) : y.s = x.s :=
  (unformatMatching_spec h).1

example : exY1.s = exX.s := matching_text _ _ _ _ _ ex_format_1
example : exU.s = exX.s := unmatching_text _ _ _ _ _ ex_unformat_all

/-! ## the history invariant is kept -/

theorem matching_wf (x y : AStr) (a : SArg) (spans : List (Int × Int)) (count : Int) (hw : WF x)
    (h : x.formatMatching a spans count = .ok y) : WF y :=
  ((formatMatching_spec h).2 hw).1

theorem unmatching_wf (x y : AStr) (a : Option SArg) (spans : List (Int × Int)) (count : Int) (hw : WF x)
    (h : x.unformatMatching a spans count = .ok y) : WF y :=
  ((unformatMatching_spec h).2 hw).1

example : WF exYall := matching_wf _ _ _ _ _ exX_wf ex_format_all
example : WF exU := unmatching_wf _ _ _ _ _ exX_wf ex_unformat_all

/-! ## characters outside all matches keep their settings exactly -/

theorem matching_outside (x y : AStr) (a : SArg) (spans : List (Int × Int)) (count : Int) (hw : WF x)
    (h : x.formatMatching a spans count = .ok y) (i : Nat)
    (hi : ∀ se ∈ takeCount count spans,
      i < sliceIdx x.len (some se.1) 0 ∨ sliceIdx x.len (some se.2) x.len ≤ i) :
    act y i = act x i :=
  ((formatMatching_spec h).2 hw).2 i hi

theorem unmatching_outside (x y : AStr) (a : Option SArg) (spans : List (Int × Int)) (count : Int)
    (hw : WF x) (h : x.unformatMatching a spans count = .ok y) (i : Nat)
    (hi : ∀ se ∈ takeCount count spans,
      i < sliceIdx x.len (some se.1) 0 ∨ sliceIdx x.len (some se.2) x.len ≤ i) :
    act y i = act x i :=
  ((unformatMatching_spec h).2 hw).2 i hi

/-- in particular: outside *all* matches `finditer` yields, whatever `count` is -/
theorem matching_outside_all (x y : AStr) (a : SArg) (spans : List (Int × Int)) (count : Int) (hw : WF x)
    (h : x.formatMatching a spans count = .ok y) (i : Nat)
    (hi : ∀ se ∈ spans, i < sliceIdx x.len (some se.1) 0 ∨ sliceIdx x.len (some se.2) x.len ≤ i) :
    act y i = act x i :=
  matching_outside x y a spans count hw h i (fun se hm => hi se ((takeCount_sublist count spans).subset hm))

theorem unmatching_outside_all (x y : AStr) (a : Option SArg) (spans : List (Int × Int)) (count : Int)
    (hw : WF x) (h : x.unformatMatching a spans count = .ok y) (i : Nat)
    (hi : ∀ se ∈ spans, i < sliceIdx x.len (some se.1) 0 ∨ sliceIdx x.len (some se.2) x.len ≤ i) :
    act y i = act x i :=
  unmatching_outside x y a spans count hw h i (fun se hm => hi se ((takeCount_sublist count spans).subset hm))

-- the hypotheses are satisfiable: character 2 (`b`) is outside both matches, character 3 is
-- outside the matches that `count=1` lets through
example : ∀ se ∈ takeCount (-1) exSpans,
    2 < sliceIdx exX.len (some se.1) 0 ∨ sliceIdx exX.len (some se.2) exX.len ≤ 2 := by decide +kernel
example : ∀ se ∈ takeCount 1 exSpans,
    3 < sliceIdx exX.len (some se.1) 0 ∨ sliceIdx exX.len (some se.2) exX.len ≤ 3 := by decide +kernel
example : act exYall 2 = act exX 2 := matching_outside _ _ _ _ _ exX_wf ex_format_all 2 (by decide +kernel)
example : act exY1 3 = act exX 3 := matching_outside _ _ _ _ _ exX_wf ex_format_1 3 (by decide +kernel)
example : act exU 2 = act exX 2 := unmatching_outside _ _ _ _ _ exX_wf ex_unformat_all 2 (by decide +kernel)
-- and the conclusion is not true of a character inside a match (the theorem is not trivial)
example : act exYall 1 ≠ act exX 1 := by decide +kernel

/-! ## errors, falsy arguments -/

/-- In the model an error result carries no value.  What the *Python object* looks like after an
    exception in the middle of the loop — the matches formatted before the bad one stay formatted —
    is observed by the harness, not claimed here. -/
theorem matching_error_pure (x : AStr) (a : SArg) (spans : List (Int × Int)) (count : Int) (e : PyErr)
    (h : x.formatMatching a spans count = .error e) : ∀ y, x.formatMatching a spans count ≠ .ok y := by
  intro y h'
  rw [h] at h'
  cases h'

theorem unmatching_error_pure (x : AStr) (a : Option SArg) (spans : List (Int × Int)) (count : Int) (e : PyErr)
    (h : x.unformatMatching a spans count = .error e) : ∀ y, x.unformatMatching a spans count ≠ .ok y := by
  intro y h'
  rw [h] at h'
  cases h'

-- an argument of an unsupported type is an error (raised at the first match); with no match at
-- all the same call succeeds: the argument is only looked at by `apply_formatting`
example : (exX.formatMatching (.bad true) exSpans (-1)).toOption = none := by decide +kernel
example : (exX.formatMatching (.bad true) [] (-1)).toOption = some exX := by decide +kernel

/-- `format_matching(spec)` without any format (the empty tuple is falsy): nothing happens -/
theorem matching_nil_settings (x : AStr) (a : SArg) (spans : List (Int × Int)) (count : Int)
    (ha : a.truthy = false) : x.formatMatching a spans count = .ok x :=
  fold_falsy (fun x _ => applyRaw_falsy ha x ..) _ x

/-- the same for `unformat_matching` when a falsy argument other than `None`/no-format reaches
    `remove_formatting` -/
theorem unmatching_falsy_settings (x : AStr) (arg : SArg) (spans : List (Int × Int)) (count : Int)
    (ha : arg.truthy = false) : x.unformatMatching (some arg) spans count = .ok x :=
  fold_falsy (fun x _ => removeRaw_falsy ha x ..) _ x

example : (SArg.list []).truthy = false ∧ (SArg.str []).truthy = false := by decide +kernel
example : (exX.formatMatching (.list []) exSpans (-1)).toOption = some exX := by decide +kernel

end C16

#print axioms C16.format_matching_eq_fold
#print axioms C16.unformat_matching_eq_fold
#print axioms C16.takeCount_neg
#print axioms C16.takeCount_nonneg
#print axioms C16.format_matching_nil
#print axioms C16.format_matching_zero
#print axioms C16.format_matching_cons
#print axioms C16.unformat_matching_nil
#print axioms C16.unformat_matching_zero
#print axioms C16.unformat_matching_cons
#print axioms C16.nextId_fresh
#print axioms C16.matching_text
#print axioms C16.unmatching_text
#print axioms C16.matching_wf
#print axioms C16.unmatching_wf
#print axioms C16.matching_outside
#print axioms C16.unmatching_outside
#print axioms C16.matching_outside_all
#print axioms C16.unmatching_outside_all
#print axioms C16.matching_error_pure
#print axioms C16.unmatching_error_pure
#print axioms C16.matching_nil_settings
#print axioms C16.unmatching_falsy_settings
