import AnsiProofs.Lemmas.Slice
import AnsiProofs.Lemmas.StrLit
/-
  Property C04 — `__getitem__` (integer index and step-1 slice), `clip`, the character iterator.

  "For every reachable value s and every integer index or step-1 slice (negative, omitted and
  out-of-range bounds following Python's slice rules), s[i:j] has base_str == s.base_str[i:j] and
  its k-th character reports the same settings, with the same precedence among conflicting
  settings, as the corresponding character of s; s[i] for any valid integer index, negative
  included, is the one-character slice at that position, clip(a, b) equals s[a:b], and iterating s
  yields s[0], s[1], ... in order. A slice is complete in itself: no style of s stays open past
  the end of the slice, so text appended to it keeps only its own style."

  Notation: `x : AStr`, `st en : Nat` the normalised bounds (`sliceIdx`), `x.getRange st en` the
  slice.  All statements hold for every `x` and every bound (no size restriction).
-/

namespace C04

/-! ### Python's bound normalisation (`_slice_val_to_idx`) -/

theorem sliceIdx_omitted (n d : Nat) : sliceIdx n none d = d := rfl

theorem sliceIdx_negative (n : Nat) (v : Int) (d : Nat) (h : v < 0) :
    sliceIdx n (some v) d = ((n : Int) + v).toNat := sliceIdx_neg n v d h

theorem sliceIdx_nonnegative (n : Nat) (v : Int) (d : Nat) (h : v ≥ 0) :
    sliceIdx n (some v) d = min v.toNat n := sliceIdx_nonneg n v d h

theorem sliceIdx_bound (n : Nat) (v : Option Int) (d : Nat) : sliceIdx n v d ≤ max n d :=
  sliceIdx_le_max n v d

theorem sliceIdx_stop_le (n : Nat) (v : Option Int) : sliceIdx n v n ≤ n := by
  have := sliceIdx_le_max n v n; omega

/-! ### the text of a slice -/

theorem pySlice_spec (s : Str) (st en k : Nat) :
    (pySlice s st en)[k]? = if st + k < en then s[st + k]? else none :=
  pySlice_getElem? s st en k

theorem pySlice_len (s : Str) (st en : Nat) : (pySlice s st en).length = min en s.length - st :=
  pySlice_length s st en

theorem getRange_text (x : AStr) (st en : Nat) : (x.getRange st en).s = pySlice x.s st en :=
  getRange_s x st en

theorem getSlice_text (x : AStr) (a b : Option Int) :
    (x.getSlice a b).s = pySlice x.s (sliceIdx x.len a 0) (sliceIdx x.len b x.len) :=
  getRange_s x _ _

/-! ### the settings of the characters of a slice -/

/-- character `k` of `x[st:en]` reports the same list of settings objects, in the same order
    (so with the same precedence), as character `st + k` of `x` -/
theorem getRange_settings (x : AStr) (h : WF x) {st en k : Nat} (hse : st < en) (hen : en ≤ x.len)
    (hk : k < en - st) : act (x.getRange st en) k = act x (st + k) :=
  getRange_act x h.sorted hse hen hk

/-- the same for `x[a:b]` with optional, possibly negative or out-of-range bounds -/
theorem getSlice_settings (x : AStr) (h : WF x) (a b : Option Int) {k : Nat}
    (hk : k < sliceIdx x.len b x.len - sliceIdx x.len a 0) :
    act (x.getSlice a b) k = act x (sliceIdx x.len a 0 + k) :=
  getRange_act x h.sorted (by omega) (sliceIdx_stop_le x.len b) hk

/-! ### a slice is closed -/

/-- no style stays open at or past the end of the slice -/
theorem getRange_closed (x : AStr) (h : WF x) {st en : Nat} (hse : st < en) (hen : en ≤ x.len) :
    ∀ j, en - st ≤ j → act (x.getRange st en) j = [] :=
  fun _ hj => getRange_act_beyond x h.sorted hse hen (h.nodup _) hj

theorem getRange_empty (x : AStr) {st en : Nat} (h : pySlice x.s st en = []) :
    (x.getRange st en).fmts = [] := by
  rw [getRange_of_empty x h]

/-! ### a slice is again a well-formed value -/

theorem getRange_wf (x : AStr) (h : WF x) (st : Nat) {en : Nat} (hen : en ≤ x.len) :
    WF (x.getRange st en) :=
  getRange_wf_all x h st hen

theorem getSlice_wf (x : AStr) (h : WF x) (a b : Option Int) : WF (x.getSlice a b) :=
  getRange_wf_all x h _ (sliceIdx_stop_le x.len b)

/-! ### integer index, `clip`, iteration -/

/-- `x[i]` for a valid index (negative included) is the one-character slice at that position -/
theorem getIndex_spec (x : AStr) (i : Int) (h1 : -(x.len : Int) ≤ i) (h2 : i < x.len) :
    x.getIndex i =
      .ok (x.getRange (if i ≥ 0 then i else (x.len : Int) + i).toNat
        ((if i ≥ 0 then i else (x.len : Int) + i).toNat + 1)) := by
  unfold AStr.getIndex
  have : ¬ (i < -(x.len : Int) ∨ i ≥ x.len) := by omega
  simp only [this, if_false]

theorem getIndex_error (x : AStr) (i : Int) (h : i < -(x.len : Int) ∨ i ≥ x.len) :
    x.getIndex i = .error .indexError := by
  unfold AStr.getIndex
  simp only [h, if_true]

theorem getIndex_nat (x : AStr) (i : Nat) (h : i < x.len) :
    x.getIndex (i : Int) = .ok (x.getRange i (i + 1)) := by
  rw [getIndex_spec x i (by omega) (by omega)]
  have : ((i : Int) ≥ 0) := by omega
  simp [this]

theorem getIndex_pos (x : AStr) (i : Int) (h1 : -(x.len : Int) ≤ i) (h2 : i < x.len) :
    (if i ≥ 0 then i else (x.len : Int) + i).toNat < x.len := by
  split <;> omega

theorem clip_eq (x : AStr) (a b : Option Int) : x.clip a b = x.getSlice a b := rfl

theorem chars_eq (x : AStr) : x.chars = (List.range x.len).map (fun i => x.getRange i (i + 1)) := rfl

theorem chars_length (x : AStr) : x.chars.length = x.len := by
  simp [AStr.chars]

/-- the `i`-th value the iterator yields is `x[i]` -/
theorem chars_getElem? (x : AStr) (i : Nat) (h : i < x.len) :
    (x.chars[i]?).map Except.ok = some (x.getIndex (i : Int)) := by
  rw [getIndex_nat x i h]
  simp [AStr.chars, h]

/-! ### text appended to a slice keeps only its own style -/

theorem iadd_plain (a : AStr) (t : Str) :
    a.iadd { s := t, fmts := [] } = { s := a.s ++ t, fmts := a.fmts } :=
  iadd_nil_fmts a t

/-- plain text appended to a slice is unstyled: nothing of `x` leaks past the end of the slice -/
theorem slice_append_plain (x : AStr) (h : WF x) {st en : Nat} (hse : st < en) (hen : en ≤ x.len)
    (t : Str) : ∀ j, en - st ≤ j → act ((x.getRange st en).iadd { s := t, fmts := [] }) j = [] := by
  intro j hj
  rw [iadd_plain]
  exact getRange_closed x h hse hen j hj

theorem slice_append_plain_settings (x : AStr) (h : WF x) {st en k : Nat} (hse : st < en)
    (hen : en ≤ x.len) (t : Str) (hk : k < en - st) :
    act ((x.getRange st en).iadd { s := t, fmts := [] }) k = act x (st + k) := by
  rw [iadd_plain]
  exact getRange_settings x h hse hen hk

/-! ### non-vacuity: a concrete value with two overlapping settings

  text `abcdef`; object 1 (`"1"`, bold) on `[0, 4)`, object 2 (`"31"`, red) on `[2, 6)`. -/

def s1 : Setting := ⟨1, "1".toList⟩
def s2 : Setting := ⟨2, "31".toList⟩

def ex : AStr :=
  { s := "abcdef".toList,
    fmts := [(0, { add := [s1] }), (2, { add := [s2] }), (4, { rem := [s1] }), (6, { rem := [s2] })] }

theorem ex_len : ex.len = 6 := by
  simp only [ex, strLitToList]; rfl

theorem le_ex_len {n : Nat} (h : n ≤ 6) : n ≤ ex.len := ex_len ▸ h

theorem ex_wf : WF ex := wf_of_finite (by decide +kernel)

/-- hypotheses of `getRange_settings`, `getRange_closed`, `slice_append_plain` are satisfiable -/
example : WF ex ∧ 1 < 5 ∧ 5 ≤ ex.len ∧ 2 < 5 - 1 := ⟨ex_wf, by decide, le_ex_len (by decide), by decide⟩

/-- the table of the slice `ex[1:5]`: object 2, still open in `ex` at 5, is stopped at the end of the slice -/
theorem ex_range : ex.getRange 1 5 =
    { s := "bcde".toList,
      fmts := [(0, { add := [s1] }), (1, { add := [s2] }), (3, { rem := [s1] }), (4, { rem := [s2] })] } := by
  simp only [ex, s1, s2, strLitToList]; decide +kernel

/-- the slice `ex[1:5]`: both objects overlap on its characters 1 and 2, in the original order -/
example : act (ex.getRange 1 5) 0 = [s1] ∧ act (ex.getRange 1 5) 1 = [s1, s2] ∧
    act (ex.getRange 1 5) 2 = [s1, s2] ∧ act (ex.getRange 1 5) 3 = [s2] := by rw [ex_range]; decide

example : act (ex.getRange 1 5) 2 = act ex (1 + 2) :=
  getRange_settings ex ex_wf (by decide) (le_ex_len (by decide)) (by decide)

example : act (ex.getRange 1 5) 4 = [] :=
  getRange_closed ex ex_wf (by decide) (le_ex_len (by decide)) 4 (by decide)

example : ex.getRange 1 5 =
    { s := "bcde".toList,
      fmts := [(0, { add := [s1] }), (1, { add := [s2] }), (3, { rem := [s1] }), (4, { rem := [s2] })] } :=
  ex_range

example : WF (ex.getRange 1 5) := getRange_wf ex ex_wf 1 (le_ex_len (by decide))

/-- negative and omitted bounds: `ex[-5:]`, `ex[:-1]`, `ex[-100:100]` -/
example : ex.getSlice (some (-5)) none = ex.getRange 1 6 := by
  simp only [AStr.getSlice, ex_len]; rfl
example : (ex.getSlice none (some (-1))).s = "abcde".toList := by
  simp only [ex, strLitToList]; decide +kernel
example : ex.getSlice (some (-100)) (some 100) = ex := by
  simp only [ex, s1, s2, strLitToList]; decide +kernel
example : WF (ex.getSlice (some (-5)) (some (-1))) := getSlice_wf ex ex_wf _ _

example : act (ex.getSlice (some (-5)) (some (-1))) 1 = act ex (1 + 1) :=
  getSlice_settings ex ex_wf (some (-5)) (some (-1)) (by rw [ex_len]; decide)

example : pySlice ex.s 4 2 = [] ∧ (ex.getRange 4 2).fmts = [] :=
  have h : pySlice ex.s 4 2 = [] := by simp only [ex, strLitToList]; decide
  ⟨h, getRange_empty ex h⟩

theorem ex_index : -(ex.len : Int) ≤ -2 ∧ (-2 : Int) < ex.len := by rw [ex_len]; decide
example : -(ex.len : Int) ≤ -2 ∧ (-2 : Int) < ex.len := ex_index
example : ex.getIndex (-2) = .ok (ex.getRange 4 5) :=
  getIndex_spec ex (-2) ex_index.1 ex_index.2
example : ex.getIndex (-2) = .ok { s := "e".toList, fmts := [(0, { add := [s2] }), (1, { rem := [s2] })] } := by
  have e : ex.getRange 4 5 = { s := "e".toList, fmts := [(0, { add := [s2] }), (1, { rem := [s2] })] } := by
    simp only [ex, s1, s2, strLitToList]; decide +kernel
  rw [← e]
  exact getIndex_spec ex (-2) ex_index.1 ex_index.2
example : ex.getIndex 6 = .error .indexError := getIndex_error ex 6 (by rw [ex_len]; decide)
example : ex.getIndex (-7) = .error .indexError := getIndex_error ex (-7) (by rw [ex_len]; decide)
example : (ex.chars[3]?).map Except.ok = some (ex.getIndex 3) := chars_getElem? ex 3 (le_ex_len (by decide))

example : act ((ex.getRange 1 5).iadd { s := "xy".toList, fmts := [] }) 4 = [] ∧
    act ((ex.getRange 1 5).iadd { s := "xy".toList, fmts := [] }) 5 = [] :=
  ⟨slice_append_plain ex ex_wf (by decide) (le_ex_len (by decide)) _ 4 (by decide),
   slice_append_plain ex ex_wf (by decide) (le_ex_len (by decide)) _ 5 (by decide)⟩

example : act ((ex.getRange 1 5).iadd { s := "xy".toList, fmts := [] }) 2 = [s1, s2] := by
  rw [iadd_plain, ex_range]; decide

example : sliceIdx 6 (some (-2)) 0 = 4 ∧ sliceIdx 6 (some (-9)) 0 = 0 ∧ sliceIdx 6 (some 9) 6 = 6 ∧
    sliceIdx 6 none 6 = 6 := by decide

end C04

#print axioms C04.pySlice_spec
#print axioms C04.pySlice_len
#print axioms C04.getRange_text
#print axioms C04.getSlice_text
#print axioms C04.getRange_settings
#print axioms C04.getSlice_settings
#print axioms C04.getRange_closed
#print axioms C04.getRange_empty
#print axioms C04.getRange_wf
#print axioms C04.getSlice_wf
#print axioms C04.getIndex_spec
#print axioms C04.getIndex_error
#print axioms C04.getIndex_nat
#print axioms C04.clip_eq
#print axioms C04.chars_eq
#print axioms C04.chars_getElem?
#print axioms C04.iadd_plain
#print axioms C04.slice_append_plain
#print axioms C04.slice_append_plain_settings
#print axioms C04.sliceIdx_omitted
#print axioms C04.sliceIdx_negative
#print axioms C04.sliceIdx_nonnegative
#print axioms C04.sliceIdx_bound
#print axioms C04.ex_wf
