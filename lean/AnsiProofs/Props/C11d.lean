import AnsiModel.StrLike
import AnsiModel.Obj
import AnsiModel.Generated.Methods.Clip
import AnsiModel.Generated.Methods.Strip
import AnsiModel.Generated.Methods.Removeprefix
import AnsiModel.Generated.Methods.Removesuffix
import AnsiProofs.Lemmas.StrLit
import AnsiProofs.Lemmas.Obj

/-
  Property C11, part d — the *generated* (statement-by-statement translated) bodies of
  `AnsiString.clip`, `AnsiString._strip` (behind `strip`/`lstrip`/`rstrip`), `removeprefix` and
  `removesuffix` compute exactly what the hand-written model says (`AStr.clip`/`AStr.getSlice`,
  `AStr.stripGen`, `AStr.removeprefix`, `AStr.removesuffix`); no exception, nothing outside the model's
  representation (`Py.optGet rcount` in the second loop of `_strip` is never reached with `None`).

  `namespace C11d.L` mentions no `Gen.*`: a counting loop left by `break` (`List.foldlM` over a pair
  (counter, done flag)) counts `(l.takeWhile c).length` (`fold_count`), upwards in an `int` or
  downwards in an `Option Int`, for *any* step function that meets the three-clause spec
  "done: unchanged / hit: count, go on / miss: set the flag".  The theorems over `Gen.*` rewrite with
  it; the spec clauses are side goals.
-/

namespace C11d
namespace L

/-- `for ch in l: if c(ch): <count> else: break`, the state after `k` hits being `e k` (the counter goes up
    in an `int`, or down in an `Option Int`: `r` may hold `None` as far as the translator sees) -/
theorem fold_count {ε σ α : Type} (c : α → Bool) (e : Nat → σ) (f : σ × Bool → α → Except ε (σ × Bool))
    {s0 : σ} (h0 : e 0 = s0) (hd : ∀ s ch, f (s, true) ch = .ok (s, true))
    (hh : ∀ k ch, c ch = true → f (e k, false) ch = .ok (e (k + 1), false))
    (hm : ∀ s ch, c ch = false → f (s, false) ch = .ok (s, true)) (l : List α) :
    List.foldlM f (s0, false) l = .ok (e (l.takeWhile c).length, !l.all c) := by
  subst h0
  induction l generalizing e with
  | nil => rfl
  | cons a l ih =>
    rw [List.foldlM_cons]
    cases h : c a with
    | true =>
      rw [hh _ _ h]
      show List.foldlM f _ l = _
      rw [ih (fun k => e (k + 1)) (fun k => hh (k + 1)), List.takeWhile_cons_of_pos h, List.all_cons, h]
      rfl
    | false =>
      rw [hm _ _ h]
      show List.foldlM f _ l = _
      rw [ObjL.foldlM_fixed (hd _), List.takeWhile_cons_of_neg (by simp [h]), List.all_cons, h]
      rfl

end L

open L ObjL

theorem clip_is_code (x : AStr) (st en : Option Int) (inplace : Bool) :
    Gen.clip x st en inplace = .ok (x.clip st en) := by
  unfold Gen.clip AStr.clip
  cases inplace <;> simp

/-- `if chars is None: chars = WHITESPACE_CHARS` -/
theorem strip_none (x : AStr) (inplace doL doR : Bool) :
    Gen.strip x none inplace doL doR = Gen.strip x (some Gen.whitespaceChars) inplace doL doR := by
  unfold Gen.strip
  first | rfl | simp [bind_ok]

set_option linter.unusedSimpArgs false in
theorem strip_some (x : AStr) (cs : Str) (inplace doL doR : Bool) :
    Gen.strip x (some cs) inplace doL doR = .ok (x.stripGen (some cs) doL doR inplace) := by
  unfold Gen.strip
  simp only [Option.isNone_some, Option.isNone_none, Bool.not_true, Bool.not_false, Bool.false_eq_true,
    if_true, if_false, bind_ok]
  rw [fold_count (fun ch => cs.contains ch) (fun k => some (0 - (k : Int))) _ (s0 := some 0) rfl ?d ?h ?m]
  rw [fold_count (fun ch => cs.contains ch) (fun k => (k : Int)) _ (s0 := 0) rfl ?d2 ?h2 ?m2]
  · simp only [bind_ok, clip_is_code, AStr.stripGen, AStr.clip, AStr.len, Option.getD_some]
    -- only the two counts and the length matter from here on
    generalize (List.takeWhile _ x.s).length = L
    generalize (List.takeWhile _ x.s.reverse).length = R
    generalize x.s.length = n
    -- the code's tests on `int` counters, as the model's tests on naturals
    simp only [Int.zero_add, Int.zero_sub, Bool.and_eq_true, decide_eq_true_eq, Int.ofNat_lt,
      Int.natCast_eq_zero, beq_iff_eq, Option.some.injEq, Int.neg_eq_zero, Bool.and_true, decide_true,
      Option.isNone_some, Bool.and_false, Bool.false_eq_true, if_false, and_false]
    grind
  all_goals (intros; simp_all [Py.optGet, bind_ok])
  -- left: the hit clause of the loop that counts down, `-k - 1 = -(k + 1)`
  omega

theorem strip_is_code (x : AStr) (chars : Option Str) (inplace doL doR : Bool) :
    Gen.strip x chars inplace doL doR = .ok (x.stripGen chars doL doR inplace) := by
  cases chars with
  | some cs => exact strip_some x cs inplace doL doR
  | none => rw [strip_none, strip_some]; rfl

theorem removeprefix_is_code (x : AStr) (p : Str) (inplace : Bool) :
    Gen.removeprefix x p inplace = .ok (x.removeprefix p) := by
  unfold Gen.removeprefix AStr.removeprefix
  cases inplace <;> cases Py.startsWith x.s p <;> simp [clip_is_code, AStr.clip]

theorem removesuffix_is_code (x : AStr) (p : Str) (inplace : Bool) :
    Gen.removesuffix x p inplace = .ok (x.removesuffix p) := by
  unfold Gen.removesuffix AStr.removesuffix
  cases inplace <;> cases Py.endsWith x.s p <;> cases p <;> simp [clip_is_code, AStr.clip]

/-- all four were translated (none fell outside the translator's fragment) -/
theorem translated :
    Gen.clipOk = true ∧ Gen.stripOk = true ∧ Gen.removeprefixOk = true ∧ Gen.removesuffixOk = true := by
  decide

theorem clip_never_outside (x : AStr) (st en : Option Int) (inplace : Bool) (err : Exc) :
    Gen.clip x st en inplace ≠ .error err := by
  rw [clip_is_code]; intro h; cases h

theorem strip_never_outside (x : AStr) (chars : Option Str) (inplace doL doR : Bool) (err : Exc) :
    Gen.strip x chars inplace doL doR ≠ .error err := by
  rw [strip_is_code]; intro h; cases h

theorem removeprefix_never_outside (x : AStr) (p : Str) (inplace : Bool) (err : Exc) :
    Gen.removeprefix x p inplace ≠ .error err := by
  rw [removeprefix_is_code]; intro h; cases h

theorem removesuffix_never_outside (x : AStr) (p : Str) (inplace : Bool) (err : Exc) :
    Gen.removesuffix x p inplace ≠ .error err := by
  rw [removesuffix_is_code]; intro h; cases h

/-! ## Concrete values -/

def x0 : AStr :=
  { s := "  ab c \t".toList,
    fmts := [(0, { add := [⟨0, "31".toList⟩] }), (3, { add := [⟨1, "1".toList⟩] }),
             (5, { rem := [⟨1, "1".toList⟩] }), (8, { rem := [⟨0, "31".toList⟩] })] }

example : Gen.strip x0 none false true true = .ok (x0.stripGen none true true false) :=
  strip_is_code ..
example : Gen.strip x0 (some " a".toList) false true false = .ok (x0.stripGen (some " a".toList) true false false) :=
  strip_is_code ..
example : Gen.removeprefix x0 "  a".toList false = .ok (x0.removeprefix "  a".toList) :=
  removeprefix_is_code ..
example : Gen.removesuffix x0 " \t".toList true = .ok (x0.removesuffix " \t".toList) :=
  removesuffix_is_code ..
example : Gen.removesuffix x0 [] true = .ok (x0.removesuffix []) := removesuffix_is_code ..
example : Gen.clip x0 (some 2) (some (-2)) true = .ok (x0.clip (some 2) (some (-2))) := clip_is_code ..

/-- the value itself: both ends stripped, the table re-based -/
example : Gen.strip x0 none false true true = .ok
    { s := "ab c".toList,
      fmts := [(0, { add := [⟨0, "31".toList⟩] }), (1, { add := [⟨1, "1".toList⟩] }),
               (3, { rem := [⟨1, "1".toList⟩] }), (4, { rem := [⟨0, "31".toList⟩] })] } := by
  unfold x0
  simp -proj only [strLitToList]
  decide +kernel

end C11d

#print axioms C11d.clip_is_code
#print axioms C11d.strip_is_code
#print axioms C11d.removeprefix_is_code
#print axioms C11d.removesuffix_is_code
#print axioms C11d.translated
#print axioms C11d.strip_never_outside
