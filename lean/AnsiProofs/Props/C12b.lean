import AnsiProofs.Lemmas.Pad
import AnsiProofs.Lemmas.Obj
import AnsiModel.Generated.Methods.Rjust
import AnsiModel.Generated.Methods.Center
/-
  Property C12, part b — the *generated* (statement-by-statement translated) methods
  `_shift_settings_idx`, `rjust`, `center` of `AnsiModel/Generated/Methods/` compute exactly the
  hand-written model functions of `AnsiModel/Pad.lean` (`shiftKeys`, `AStr.rjust`, `AStr.center`) on
  values whose table is sorted; the outcomes `Exc.key` / `Exc.outside` never happen there.

  `namespace C12b.L` mentions no `Gen.*`: sorted association lists (`erase_mid`, `set_mid`), the
  primitives of `AnsiModel/Obj.lean` on natural keys beyond those of `Lemmas/Obj.lean`, and the fold
  invariant of the loop of `_shift_settings_idx` (`fold_shift`), stated for an *arbitrary* step
  function that moves one present key (`MovesKey`).  The theorems over `Gen.*` name the pad amount as
  a natural number and rewrite with these; the two `inplace` branches of `center` are the same text in
  the translation and are merged by `ite_self`.
-/

namespace C12b
namespace L
open PadL

/-! ## Sorted association lists: an entry between a lower part `A` and an upper part `D` -/

theorem erase_mid {A : Fmts} {k : Nat} (p : Point) (D : Fmts) (hA : ∀ x ∈ A, x.1 < k) :
    Fmts.erase (A ++ (k, p) :: D) k = A ++ D := by
  induction A with
  | nil => simp [Fmts.erase]
  | cons a A ih =>
    have h := hA a (by simp)
    rw [List.cons_append, Fmts.erase, if_neg (by omega), ih (fun x hx => hA x (List.mem_cons_of_mem _ hx))]
    rfl

theorem set_mid {A D : Fmts} {k : Nat} (p : Point) (hA : ∀ x ∈ A, x.1 < k)
    (hD : ∀ x ∈ D, k < x.1) : Fmts.set (A ++ D) k p = A ++ (k, p) :: D := by
  induction A with
  | nil =>
    cases D with
    | nil => rfl
    | cons d D =>
      have h := hD d (by simp)
      rw [List.nil_append, Fmts.set, if_neg (by omega), if_pos h]
      rfl
  | cons a A ih =>
    have h := hA a (by simp)
    rw [List.cons_append, Fmts.set, if_neg (by omega), if_neg (by omega),
      ih (fun x hx => hA x (List.mem_cons_of_mem _ hx))]
    rfl

/-- the entries above a key `k` are all moved by `shiftKeys`, whatever `keep` says -/
theorem lt_shiftKeys {B : Fmts} {k : Nat} (n : Nat) (keep : Bool) (hB : ∀ x ∈ B, k < x.1) :
    ∀ x ∈ shiftKeys B n keep, k + n < x.1 := by
  intro x hx
  unfold shiftKeys at hx
  obtain ⟨y, hy, rfl⟩ := List.mem_map.mp hx
  have := hB y hy
  split <;> omega

theorem shiftKeys_append (A B : Fmts) (n : Nat) (keep : Bool) :
    shiftKeys (A ++ B) n keep = shiftKeys A n keep ++ shiftKeys B n keep := by
  unfold shiftKeys; exact List.map_append

theorem shiftKeys_cons (k : Nat) (p : Point) (B : Fmts) (n : Nat) (keep : Bool) :
    shiftKeys ((k, p) :: B) n keep =
      (if keep = true ∧ k = 0 then (k, p) else (k + n, p)) :: shiftKeys B n keep := by
  unfold shiftKeys; rfl

/-! ## The primitives of `AnsiModel/Obj.lean` on keys that are natural numbers -/

theorem bind_ok {ε α β : Type} (a : α) (f : α → Except ε β) : (Except.ok a).bind f = f a := rfl

theorem bind_error {ε α β : Type} (e : ε) (f : α → Except ε β) :
    (Except.error e : Except ε α).bind f = .error e := rfl

/-- `d.pop(k)` on a natural key, both outcomes -/
theorem pop_nat_eq (f : Fmts) (k : Nat) :
    Obj.pop f (k : Int) =
      match f.get? k with
      | some p => .ok (p, f.erase k)
      | none => .error .key := by
  unfold Obj.pop
  have : ¬ ((k : Int) < 0) := by omega
  rw [if_neg this, Int.toNat_natCast]
  cases f.get? k <;> rfl

theorem pop_nonneg {f : Fmts} {k : Int} {p : Point} (hk : 0 ≤ k) (h : f.get? k.toNat = some p) :
    Obj.pop f k = .ok (p, f.erase k.toNat) := by
  unfold Obj.pop
  have : ¬ (k < 0) := by omega
  simp only [this, if_false, h]

/-- `d[k] = p` for a key that is (provably, e.g. by `omega`) the natural number `m` -/
theorem set_int (f : Fmts) {k : Int} (p : Point) {m : Nat} (hk : k = (m : Int)) :
    Obj.set f k p = .ok (f.set m p) := hk ▸ ObjL.set_nat f m p

theorem setOpt_nat (f : Fmts) (k : Nat) (p : Point) :
    Obj.setOpt f (k : Int) (some p) = .ok (f.set k p) := ObjL.set_nat f k p

/-- `d.pop(k, None)` on a sorted table: the entry (if any) and the table without the key -/
theorem popD_nat {f : Fmts} (hs : SortedKeys f) (k : Nat) :
    Obj.popD f (k : Int) = (f.get? k, f.erase k) := by
  unfold Obj.popD
  have : ¬ ((k : Int) < 0) := by omega
  simp only [this, if_false, Int.toNat_natCast]
  cases hg : f.get? k with
  | none => simp only; rw [Fmts.erase_of_get?_none hs hg]
  | some p => rfl

theorem has_nat (f : Fmts) (k : Nat) : Obj.has f (k : Int) = (f.get? k).isSome := ObjL.has_nat f k

theorem keysDesc_eq (f : Fmts) : Obj.keysDesc f = f.reverse.map (fun kp => (kp.1 : Int)) := by
  unfold Obj.keysDesc Fmts.keys
  rw [← List.map_reverse, List.map_map]
  rfl

/-! ## The loop of `_shift_settings_idx`

  `MovesKey step n keep`: one round of the loop body on a key that is present — the entry goes from
  `k` to `k + n`, except the entry at 0 when `keep`.  The loop visits the keys from the highest to
  the lowest; when the entries of the upper part `B` have been moved the table is
  `A ++ shiftKeys B n keep`, and the next key is the last one of `A`. -/

def MovesKey (step : AStr → Int → Except Exc AStr) (n : Nat) (keep : Bool) : Prop :=
  ∀ (a : AStr) (k : Nat) (p : Point), a.fmts.get? k = some p →
    step a (k : Int) = .ok { a with fmts :=
      if keep = true ∧ k = 0 then a.fmts else (a.fmts.erase k).set (k + n) p }

theorem fold_shift_aux {step : AStr → Int → Except Exc AStr} {n : Nat} {keep : Bool}
    (hstep : MovesKey step n keep) (s : Str) :
    ∀ (R B : Fmts), SortedKeys (R.reverse ++ B) →
      List.foldlM step ({ s := s, fmts := R.reverse ++ shiftKeys B n keep } : AStr)
          (R.map (fun kp => (kp.1 : Int))) =
        .ok { s := s, fmts := shiftKeys (R.reverse ++ B) n keep } := by
  intro R
  induction R with
  | nil =>
    intro B _
    simp only [List.reverse_nil, List.nil_append, List.map_nil, List.foldlM_nil]
    rfl
  | cons kp R ih =>
    intro B hs
    obtain ⟨k, p⟩ := kp
    have hs' : SortedKeys (R.reverse ++ (k, p) :: B) := by
      simpa [List.reverse_cons, List.append_assoc] using hs
    have hsplit := List.pairwise_append.mp hs'
    have hA : ∀ x ∈ R.reverse, x.1 < k := fun x hx => hsplit.2.2 x hx (k, p) (by simp)
    have hB : ∀ x ∈ B, k < x.1 := fun x hx => (List.pairwise_cons.mp hsplit.2.1).1 x hx
    have hD := lt_shiftKeys n keep hB
    have htab : R.reverse ++ [(k, p)] ++ shiftKeys B n keep =
        R.reverse ++ (k, p) :: shiftKeys B n keep := by simp
    rw [List.map_cons, List.foldlM_cons, List.reverse_cons, htab,
      hstep _ k p (ObjL.get?_mid p _ hA)]
    have hnext : (if keep = true ∧ k = 0 then R.reverse ++ (k, p) :: shiftKeys B n keep
          else Fmts.set (Fmts.erase (R.reverse ++ (k, p) :: shiftKeys B n keep) k) (k + n) p) =
        R.reverse ++ shiftKeys ((k, p) :: B) n keep := by
      rw [shiftKeys_cons]
      split
      · rfl
      · rw [erase_mid p _ hA, set_mid p (fun x hx => by have := hA x hx; omega) hD]
    show (Except.ok _ >>= _) = _
    simp only [Except.bind, bind, hnext]
    rw [show R.reverse ++ [(k, p)] ++ B = R.reverse ++ (k, p) :: B by simp]
    exact ih ((k, p) :: B) hs'

/-- THE LOOP: visiting the keys of a sorted table from the highest to the lowest, moving each by `n`
    (but 0 when `keep`), yields `shiftKeys` -/
theorem fold_shift {step : AStr → Int → Except Exc AStr} {n : Nat} {keep : Bool}
    (hstep : MovesKey step n keep) (a : AStr) (hs : SortedKeys a.fmts) :
    List.foldlM step a (Obj.keysDesc a.fmts) = .ok { a with fmts := shiftKeys a.fmts n keep } := by
  have h := fold_shift_aux hstep a.s a.fmts.reverse [] (by simpa using hs)
  simp only [List.reverse_reverse, List.append_nil, shiftKeys, List.map_nil] at h
  rw [keysDesc_eq]
  exact h

end L

open L
set_option linter.unusedSimpArgs false   -- both forms of a fact are given to `simp` on purpose

/-! ## `_shift_settings_idx` -/

/-- all three were translated (none fell outside the subset) -/
theorem translated : Gen.rjustOk = true ∧ Gen.centerOk = true ∧ Gen.shiftSettingsIdxOk = true := by decide

/-- THE GENERATED `_shift_settings_idx` IS `shiftKeys`: ValueError for a negative shift, otherwise every
    key (but 0 when `keep_origin`) moved up by `num` — never `Exc.key`, never `Exc.outside` -/
theorem shift_is_code (x : AStr) (hs : SortedKeys x.fmts) (num : Int) (keep : Bool) :
    Gen.shiftSettingsIdx x num keep =
      if num < 0 then .error (.py .valueError)
      else .ok { x with fmts := shiftKeys x.fmts num.toNat keep } := by
  unfold Gen.shiftSettingsIdx
  by_cases hn : num < 0
  · simp [hn]
  · -- the loop: `fold_shift` for whatever the loop body is, provided the body moves one key
    rw [fold_shift (n := num.toNat) (keep := keep) _ x hs]
    · simp [hn, bind_ok]
      -- (only if the code returns early for `num = 0`)
      try (intros; simp_all [PadL.shiftKeys_zero])
    · -- the loop body moves one key: `pop`, then `set` at a key that is `k + num`
      intro a k p h
      simp only [ObjL.pop_of_get? h, bind_ok]
      rw [set_int (m := k + num.toNat)]
      · cases keep <;> by_cases hk : k = 0 <;> simp [hk, bind_ok]
      · omega

/-- the form used below: on a value given by its fields, with a shift that is a natural number -/
theorem shift_mk (s : Str) (f : Fmts) (hs : SortedKeys f) (n : Nat) (keep : Bool) :
    Gen.shiftSettingsIdx { s := s, fmts := f } (n : Int) keep = .ok { s := s, fmts := shiftKeys f n keep } := by
  rw [shift_is_code _ hs, if_neg (by omega), Int.toNat_natCast]

/-! ## `rjust`, `center` -/

theorem rjust_is_code (x : AStr) (hs : SortedKeys x.fmts) (w : Int) (c : Char) (inplace ext : Bool) :
    Gen.rjust x w [c] inplace ext = .ok (x.rjust w c ext) := by
  unfold Gen.rjust AStr.rjust
  dsimp only [AStr.len]
  generalize w - (x.s.length : Int) = num
  by_cases hnum : 0 < num
  · obtain ⟨m, rfl⟩ : ∃ m : Nat, num = m := ⟨_, (Int.toNat_of_nonneg (Int.le_of_lt hnum)).symm⟩
    have h1 : 0 < m := by omega
    cases inplace <;> simp [hnum, h1, Py.strMul_single, shift_mk _ _ hs, bind_ok]
  · have h1 : ¬ 0 < num.toNat := by omega
    cases inplace <;> simp [hnum, h1]

theorem center_is_code (x : AStr) (hs : SortedKeys x.fmts) (w : Int) (c : Char) (inplace ext : Bool) :
    Gen.center x w [c] inplace ext = .ok (x.center w c ext) := by
  unfold Gen.center AStr.center
  dsimp only [AStr.len]
  generalize w - (x.s.length : Int) = num
  by_cases hnum : 0 < num
  · obtain ⟨m, rfl⟩ : ∃ m : Nat, num = m := ⟨_, (Int.toNat_of_nonneg (Int.le_of_lt hnum)).symm⟩
    have h1 : 0 < m := by omega
    have hl : (m : Int) / 2 = ((m / 2 : Nat) : Int) := Int.natCast_ediv m 2
    simp only [ite_self, hnum, h1, hl, Int.toNat_natCast, Int.toNat_sub, Py.strMul_single, List.length_singleton,
      Int.natCast_one, ne_eq, not_true_eq_false, decide_true, decide_false, gt_iff_lt, if_true, if_false,
      Bool.false_eq_true]
    cases ext
    · simp only [shift_mk _ _ hs, bind_ok, Option.isSome, Bool.false_eq_true, if_false]
    · cases hg : x.fmts.get? x.s.length <;>
        simp only [popD_nat hs, hg, shift_mk _ _ (Fmts.sorted_erase hs _), bind_ok, setOpt_nat,
          Option.isSome, Bool.false_eq_true, if_true, if_false]
  · have h1 : ¬ 0 < num.toNat := by omega
    cases inplace <;> simp [hnum, h1]

/-- a fill text that is not one character: ValueError, whatever the rest -/
theorem rjust_fill_error (x : AStr) (w : Int) (fill : Str) (inplace ext : Bool)
    (h : fill.length ≠ 1) : Gen.rjust x w fill inplace ext = .error (.py .valueError) := by
  unfold Gen.rjust
  have h' : ¬ ((fill.length : Int) = 1) := by omega
  simp [h, h']

theorem center_fill_error (x : AStr) (w : Int) (fill : Str) (inplace ext : Bool)
    (h : fill.length ≠ 1) : Gen.center x w fill inplace ext = .error (.py .valueError) := by
  unfold Gen.center
  have h' : ¬ ((fill.length : Int) = 1) := by omega
  simp [h, h']

/-! ## Non-vacuity on a concrete value: `"ab"` with a setting from 0 to 2 -/

def x0 : AStr :=
  { s := "ab".toList,
    fmts := [(0, { add := [⟨0, "1".toList⟩] }), (2, { rem := [⟨0, "1".toList⟩] })] }

example : SortedKeys x0.fmts := by simp [SortedKeys, x0]

example : Gen.shiftSettingsIdx x0 3 true =
    .ok { x0 with fmts := [(0, { add := [⟨0, "1".toList⟩] }), (5, { rem := [⟨0, "1".toList⟩] })] } := by
  decide +kernel

example : Gen.shiftSettingsIdx x0 3 false =
    .ok { x0 with fmts := [(3, { add := [⟨0, "1".toList⟩] }), (5, { rem := [⟨0, "1".toList⟩] })] } := by
  decide +kernel

example : Gen.shiftSettingsIdx x0 (-1) false = .error (.py .valueError) := by decide +kernel

/-- the hypothesis `SortedKeys` is needed: on a table out of order the loop meets `Exc.key` -/
example : Gen.shiftSettingsIdx { s := [], fmts := [(2, {}), (0, {})] } 1 false = .error .key := by
  decide +kernel

example : Gen.rjust x0 5 ['.'] false true =
    .ok { s := "...ab".toList,
          fmts := [(0, { add := [⟨0, "1".toList⟩] }), (5, { rem := [⟨0, "1".toList⟩] })] } := by
  decide +kernel

example : Gen.rjust x0 5 ['.'] false false =
    .ok { s := "...ab".toList,
          fmts := [(3, { add := [⟨0, "1".toList⟩] }), (5, { rem := [⟨0, "1".toList⟩] })] } := by
  decide +kernel

example : Gen.center x0 5 ['.'] false true =
    .ok { s := ".ab..".toList,
          fmts := [(0, { add := [⟨0, "1".toList⟩] }), (5, { rem := [⟨0, "1".toList⟩] })] } := by
  decide +kernel

example : Gen.center x0 5 ['.'] true false =
    .ok { s := ".ab..".toList,
          fmts := [(1, { add := [⟨0, "1".toList⟩] }), (3, { rem := [⟨0, "1".toList⟩] })] } := by
  decide +kernel

example : Gen.center x0 5 ['.'] false true = .ok (x0.center 5 '.' true) := by decide +kernel
example : Gen.rjust x0 5 ['.'] true true = .ok (x0.rjust 5 '.' true) := by decide +kernel
example : Gen.center x0 2 ['.'] false true = .ok x0 := by decide +kernel
example : Gen.center x0 5 "..".toList false true = .error (.py .valueError) := by decide +kernel
example : Gen.rjust x0 5 [] false true = .error (.py .valueError) := by decide +kernel

end C12b

#print axioms C12b.shift_is_code
#print axioms C12b.rjust_is_code
#print axioms C12b.center_is_code
#print axioms C12b.rjust_fill_error
#print axioms C12b.center_fill_error
