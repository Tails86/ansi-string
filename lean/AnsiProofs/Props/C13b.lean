import AnsiModel.Generated.Wrappers
import AnsiProofs.Lemmas.StrLit
/-
  Property C13, part b — the wrapper layer itself, from the source.

  `Gen.ansiStr` / `Gen.ansiString` are generated from the AST of `class AnsiStr` and
  `class AnsiString` (harness/wrappers.py).  C13.lean proves what follows from the *shape*
  "copy, call the method of the same name, wrap again"; this file proves that the methods of the
  code's `AnsiStr` *have* that shape and pass their arguments on unchanged:

  * `conforms_sem` — what a conforming table entry does, for any semantics of the wrapped class
    (`Wrap.Sem`, fully abstract); `lift_sem`, `fwd_sem`, `wrap_sem`, `wrapEach_sem` state the
    result for each kind of delegation.
  * `table_conforms` — every method in the `AnsiStr` table conforms, except the enumerated `exempt`
    ones, whose bodies are fixed by `exempt_bodies` (delegations of other kinds) or are
    hand-modelled in C13.lean and decided by twin execution (`__new__`, `__iter__`, `__eq__`,
    `join`, `encode`).
  * `covered` — every public method of `AnsiString` has an `AnsiStr` method of the same name,
    except the ones that only make sense in place.

  A change to an `AnsiStr` method that makes it stop being a plain delegation (a fast path, a
  forgotten copy, a dropped or reordered argument, a different default) changes the generated
  table, and `table_conforms` fails to check.
-/
namespace C13b
open Wrap

variable {S V R E A : Type}

/-! ## Conformity means: same method, same arguments -/

theorem evalE_expected (sem : Sem S V R E) (ρ : String → V) (ps : List Param) (tp : Param) (e : WExpr)
    (h : okOne ps tp e = true) : evalE sem ρ e = expectedOne sem ρ ps tp := by
  unfold okOne at h
  unfold expectedOne
  -- in every branch `okOne` says which expression `e` is
  split at h
  · rw [if_pos ‹_›, eq_of_beq h]; rfl
  · rw [if_neg ‹_›]
    split at h
    · rename_i hf
      rw [Bool.and_eq_true] at h
      rw [hf, if_pos Option.isSome_some]
      split at h
      · rw [eq_of_beq h.2]; rfl
      · rw [eq_of_beq h.2]; rfl
    · rename_i hf
      rw [hf, Option.isSome_none, if_neg Bool.false_ne_true]
      split at h
      · rw [if_pos ‹_›, eq_of_beq h]; rfl
      · rw [if_neg ‹_›]
        split at h
        · rename_i hd
          rw [eq_of_beq h, hd]; rfl
        · cases h

theorem bindArgs_expected (sem : Sem S V R E) (ρ : String → V) (ps : List Param) :
    ∀ (tps : List Param) (f : List (String × WExpr)), okFwd ps tps f = true →
      bindArgs sem ρ f = expectedArgs sem ρ ps tps
  | [], [], _ => rfl
  | [], _ :: _, h => by cases h
  | _ :: _, [], h => by cases h
  | tp :: tps, pe :: f, h => by
    simp only [okFwd, Bool.and_eq_true] at h
    have ih := bindArgs_expected sem ρ ps tps f h.2
    simp only [bindArgs, expectedArgs, List.map_cons] at ih ⊢
    rw [ih, eq_of_beq h.1.1, evalE_expected sem ρ ps tp pe.2 h.1.2]

theorem conforms_spec (inner : List WMethod) (m : WMethod) (h : conforms inner m = true) :
    ∃ tm f, lookup inner m.name = some tm ∧ m.body.target? = some (m.name, f) ∧
      okFwd m.params tm.params f = true ∧
      (m.params.all fun p => tm.params.any (·.name == p.name)) = true := by
  unfold conforms at h
  split at h
  · rename_i t f ht
    rw [Bool.and_eq_true] at h
    cases eq_of_beq h.1
    split at h
    · rename_i tm hl
      rw [Bool.and_eq_true] at h
      exact ⟨tm, f, hl, ht, h.2⟩
    · cases h.2
  · cases h

/-- A conforming method delegates to the wrapped class's method of its own name, and the arguments
    that method is called with are exactly `expectedArgs`: each parameter gets the caller's value for
    the parameter of the same name, `inplace` gets `True`, and a parameter the `AnsiStr` signature
    does not offer keeps the method's own default. -/
theorem conforms_sem (inner : List WMethod) (m : WMethod) (h : conforms inner m = true)
    (sem : Sem S V R E) (ρ : String → V) :
    ∃ tm f, lookup inner m.name = some tm ∧ m.body.target? = some (m.name, f) ∧
      bindArgs sem ρ f = expectedArgs sem ρ m.params tm.params := by
  obtain ⟨tm, f, hl, ht, hok, _⟩ := conforms_spec inner m h
  exact ⟨tm, f, hl, ht, bindArgs_expected sem ρ m.params tm.params f hok⟩

theorem conforms_params (inner : List WMethod) (m : WMethod) (h : conforms inner m = true) :
    ∃ tm, lookup inner m.name = some tm ∧ ∀ p ∈ m.params, ∃ tp ∈ tm.params, tp.name = p.name := by
  obtain ⟨tm, _, hl, _, _, hall⟩ := conforms_spec inner m h
  refine ⟨tm, hl, fun p hp => ?_⟩
  obtain ⟨tp, htp, he⟩ := List.any_eq_true.mp (List.all_eq_true.mp hall p hp)
  exact ⟨tp, htp, eq_of_beq he⟩

/-- a caller's argument reaches the called method under the same name -/
theorem expected_passes (sem : Sem S V R E) (ρ : String → V) (ps : List Param) (tp : Param)
    (hne : tp.name ≠ "inplace") (p : Param) (hp : p ∈ ps) (hn : p.name = tp.name) :
    expectedOne sem ρ ps tp = ρ tp.name := by
  unfold expectedOne
  have h2 : (ps.find? (·.name == tp.name)).isSome = true := by
    rw [List.find?_isSome]; exact ⟨p, hp, beq_iff_eq.mpr hn⟩
  rw [if_neg (by simpa using hne), if_pos h2]

/-- `cpy = self._s.copy(); cpy.m(…); return AnsiStr(cpy)` -/
theorem lift_sem (tbl inner : List WMethod) (m : WMethod) (h : conforms inner m = true)
    (t : String) (f : List (String × WExpr)) (hb : m.body = .lift t f)
    (sem : Sem S V R E) (mk : S → A) (un : A → S) (ρ : String → V) (a : A) :
    ∃ tm, lookup inner m.name = some tm ∧
      interp tbl sem mk un ρ a m.body =
        some ((sem.call m.name (un a) (expectedArgs sem ρ m.params tm.params)).map fun r => .str (mk r.1)) := by
  obtain ⟨tm, f', hl, ht, hbind⟩ := conforms_sem inner m h sem ρ
  rw [hb] at ht ⊢
  cases ht
  exact ⟨tm, hl, by rw [← hbind]; rfl⟩

/-- `return self._s.m(…)` -/
theorem fwd_sem (tbl inner : List WMethod) (m : WMethod) (h : conforms inner m = true)
    (t : String) (f : List (String × WExpr)) (hb : m.body = .fwd t f)
    (sem : Sem S V R E) (mk : S → A) (un : A → S) (ρ : String → V) (a : A) :
    ∃ tm, lookup inner m.name = some tm ∧
      interp tbl sem mk un ρ a m.body =
        some ((sem.call m.name (un a) (expectedArgs sem ρ m.params tm.params)).map fun r => .raw r.2) := by
  obtain ⟨tm, f', hl, ht, hbind⟩ := conforms_sem inner m h sem ρ
  rw [hb] at ht ⊢
  cases ht
  exact ⟨tm, hl, by rw [← hbind]; rfl⟩

/-- `return AnsiStr(self._s.m(…))` -/
theorem wrap_sem (tbl inner : List WMethod) (m : WMethod) (h : conforms inner m = true)
    (t : String) (f : List (String × WExpr)) (hb : m.body = .wrap t f)
    (sem : Sem S V R E) (mk : S → A) (un : A → S) (ρ : String → V) (a : A) :
    ∃ tm, lookup inner m.name = some tm ∧
      interp tbl sem mk un ρ a m.body =
        some ((sem.call m.name (un a) (expectedArgs sem ρ m.params tm.params)).map fun r => wrapRet mk r.2) := by
  obtain ⟨tm, f', hl, ht, hbind⟩ := conforms_sem inner m h sem ρ
  rw [hb] at ht ⊢
  cases ht
  exact ⟨tm, hl, by rw [← hbind]; rfl⟩

/-- `return [AnsiStr(x) for x in self._s.m(…)]` -/
theorem wrapEach_sem (tbl inner : List WMethod) (m : WMethod) (h : conforms inner m = true)
    (t : String) (f : List (String × WExpr)) (hb : m.body = .wrapEach t f)
    (sem : Sem S V R E) (mk : S → A) (un : A → S) (ρ : String → V) (a : A) :
    ∃ tm, lookup inner m.name = some tm ∧
      interp tbl sem mk un ρ a m.body =
        some ((sem.call m.name (un a) (expectedArgs sem ρ m.params tm.params)).map fun r => wrapEachRet mk r.2) := by
  obtain ⟨tm, f', hl, ht, hbind⟩ := conforms_sem inner m h sem ρ
  rw [hb] at ht ⊢
  cases ht
  exact ⟨tm, hl, by rw [← hbind]; rfl⟩

/-! ## The generated table -/

/-- methods of `AnsiStr` that are not a direct delegation to the `AnsiString` method of their name -/
def exempt : List String :=
  ["__new__", "__iter__", "__eq__", "join", "encode",          -- hand-modelled (C13.lean) / twin execution
   "__add__", "__iadd__", "__format__", "expandtabs", "base_str",   -- other delegations: `exempt_bodies`
   "__getnewargs__"]                                              -- the copy protocol: C13c.lean

/-- `AnsiString` methods with no `AnsiStr` counterpart: they only make sense on a mutable object -/
def inPlaceOnly : List String := ["__init__", "assign_str", "set_ansi_str", "copy", "__str__", "__repr__"]

/-- the characters of a name as the digits of one number (no digit is 0, so the number determines
    the characters) -/
def code : List Char → Nat
  | [] => 0
  | c :: cs => code cs * 2 ^ 33 + (c.toNat + 1)

theorem code_inj : ∀ a b : List Char, code a = code b → a = b
  | [], [], _ => rfl
  | [], _ :: _, h => (Nat.succ_ne_zero _ h.symm).elim
  | _ :: _, [], h => (Nat.succ_ne_zero _ h).elim
  | c :: cs, d :: ds, h => by
    have hc : c.toNat < 2 ^ 32 := c.val.toNat_lt
    have hd : d.toNat < 2 ^ 32 := d.val.toNat_lt
    have e : c.toNat = d.toNat ∧ code cs = code ds := by
      unfold code at h
      omega
    rw [Char.toNat_inj.mp e.1, code_inj cs ds e.2]

def key (s : String) : Nat := code s.toList

theorem key_inj {s t : String} (h : key s = key t) : s = t :=
  String.toList_injective (code_inj _ _ h)

/-- what the checks below read of an entry: its name and the name of the method it calls, as numbers -/
def row (m : WMethod) : Nat × Option Nat × WMethod := (key m.name, m.body.target?.map (key ·.1), m)

def distinct : List Nat → Bool
  | [] => true
  | a :: l => l.all (fun b => !Nat.beq a b) && distinct l

theorem nodup_of_distinct : ∀ l : List Nat, distinct l = true → l.Nodup
  | [], _ => List.nodup_nil
  | a :: l, h => by
    simp only [distinct, Bool.and_eq_true, List.all_eq_true, Bool.not_eq_true'] at h
    exact List.nodup_cons.mpr ⟨fun ha => Nat.ne_of_beq_eq_false (h.1 a ha) rfl, nodup_of_distinct l h.2⟩

/-- the part of `conforms` that is not about names: the arguments of a delegation of `m` to `tm` -/
def argsOk (tm m : WMethod) : Bool :=
  match m.body.target? with
  | some (_, f) => okFwd m.params tm.params f && m.params.all fun p => tm.params.any (·.name == p.name)
  | none => false

/-- The three facts about the tables as wholes.  Comparing two names as strings makes the kernel
    decode both, and `lookup` does that for every entry it passes.  Here every name is first turned
    into a number (`strLitToList` reads the characters of a literal without evaluation), names are
    compared as numbers, and a name is read as a string only where a method of `AnsiString` has no
    counterpart. -/
theorem tables_checked :
    (distinct (Gen.ansiStr.map (key ·.name)) = true ∧ distinct (Gen.ansiString.map (key ·.name)) = true) ∧
    ((Gen.ansiStr.map row).all fun r =>
      (r.2.1 == some r.1 && (Gen.ansiString.map row).any fun r' => Nat.beq r'.1 r.1 && argsOk r'.2.2 r.2.2) ||
        (exempt.map key).any (Nat.beq r.1)) = true ∧
    ((Gen.ansiString.map row).all fun r => (Gen.ansiStr.map row).any (fun r' => Nat.beq r'.1 r.1) ||
      (r.2.2.name.startsWith "_" && !r.2.2.name.startsWith "__") || inPlaceOnly.contains r.2.2.name) = true := by
  unfold Gen.ansiStr Gen.ansiString
  dsimp only [List.map, row, key, exempt, WBody.target?, Option.map]
  simp only [strLitToList]
  decide +kernel

theorem names_nodup : (Gen.ansiStr.map (·.name)).Nodup ∧ (Gen.ansiString.map (·.name)).Nodup := by
  have h : ∀ l : List WMethod, distinct (l.map (key ·.name)) = true → (l.map (·.name)).Nodup := fun l hl =>
    List.Pairwise.of_map key (fun _ _ hne e => hne (congrArg key e))
      (show ((l.map (·.name)).map key).Nodup by rw [List.map_map]; exact nodup_of_distinct _ hl)
  exact ⟨h _ tables_checked.1.1, h _ tables_checked.1.2⟩

theorem lookup_of_mem {tbl : List WMethod} (hn : (tbl.map (·.name)).Nodup) {m : WMethod} (hm : m ∈ tbl) :
    lookup tbl m.name = some m := by
  induction tbl with
  | nil => cases hm
  | cons e tbl ih =>
    rw [List.map_cons, List.nodup_cons] at hn
    unfold lookup
    rw [List.find?_cons]
    rcases List.mem_cons.mp hm with rfl | hm
    · rw [beq_self_eq_true]
    · have hne : (e.name == m.name) = false :=
        beq_eq_false_iff_ne.mpr fun he => hn.1 (he ▸ List.mem_map_of_mem hm)
      rw [hne]
      exact ih hn.2 hm

/-- every method of the source's `AnsiStr` is a conforming delegation (or one of the eleven exempt ones) -/
theorem table_conforms : ∀ m ∈ Gen.ansiStr, m.name ∈ exempt ∨ conforms Gen.ansiString m = true := by
  intro m hm
  have h := List.all_eq_true.mp tables_checked.2.1 _ (List.mem_map_of_mem hm)
  simp only [row, Bool.or_eq_true, Bool.and_eq_true, beq_iff_eq, List.any_eq_true, List.mem_map] at h
  rcases h with ⟨ht, _, ⟨tm, htm, rfl⟩, hk, hargs⟩ | ⟨_, ⟨n, hn, rfl⟩, hk⟩
  · refine Or.inr ?_
    have hl := lookup_of_mem names_nodup.2 htm
    rw [key_inj (Nat.eq_of_beq_eq_true hk)] at hl
    unfold argsOk at hargs
    unfold conforms
    split at hargs
    · rename_i t f hb
      rw [hb] at ht ⊢
      cases key_inj (Option.some.inj ht)
      simp only [hl, hargs, beq_self_eq_true, Bool.and_self]
    · cases hargs
  · exact Or.inl (key_inj (Nat.eq_of_beq_eq_true hk) ▸ hn)

/-- every public method (and operator) of `AnsiString` exists in `AnsiStr` under the same name -/
theorem covered : ∀ m ∈ Gen.ansiString,
    (m.name.startsWith "_" && !m.name.startsWith "__") = true ∨ m.name ∈ inPlaceOnly ∨
      (lookup Gen.ansiStr m.name).isSome = true := by
  intro m hm
  have h := List.all_eq_true.mp tables_checked.2.2 _ (List.mem_map_of_mem hm)
  simp only [row, Bool.or_eq_true, List.any_eq_true, List.contains_iff_mem, List.mem_map] at h
  rcases h with (⟨_, ⟨m', hm', rfl⟩, hk⟩ | h) | h
  · exact Or.inr (Or.inr (List.find?_isSome.mpr ⟨m', hm', beq_iff_eq.mpr (key_inj (Nat.eq_of_beq_eq_true hk))⟩))
  · exact Or.inl h
  · exact Or.inr (Or.inl h)

/-- What the tables say of a single method is read off its entry: the place of the entry in the
    table is found by `repeat constructor` (down the list until an entry unifies — two different
    string literals never do), and `names_nodup` makes that entry the one `lookup` finds.  Evaluating
    `lookup` on these tables compares strings and is slow to check. -/
theorem lookup_map {β : Type} {tbl : List WMethod} (hn : (tbl.map (·.name)).Nodup) {f : WMethod → β}
    {n d : String} {p : List Param} {b : WBody} (hm : ⟨n, d, p, b⟩ ∈ tbl) :
    (lookup tbl n).map f = some (f ⟨n, d, p, b⟩) := by
  rw [lookup_of_mem hn hm]; rfl

/-- the exempt methods that are delegations of another kind, exactly:
    `a + v` copies, `+=`s on the copy and re-wraps; `a += v` is `a + v`; `format(a, spec)` is
    `a.to_str(spec)`; `expandtabs` is `replace('\t', ' ' * tabsize)` in both classes; `base_str`
    is the wrapped object's. -/
theorem exempt_bodies :
    (lookup Gen.ansiStr "__add__").map (·.body) = some (.liftIAdd (.param "value")) ∧
    (lookup Gen.ansiStr "__iadd__").map (·.body) = some (.selfAdd (.param "value")) ∧
    (lookup Gen.ansiStr "__format__").map (·.body) =
      some (.viaSelf "to_str" [("format_spec", .param "__format_spec"), ("optimize", .dflt "True"),
        ("reset_start", .dflt "False"), ("reset_end", .dflt "True")]) ∧
    (lookup Gen.ansiString "__format__").map (·.body) =
      some (.viaSelf "to_str" [("format_spec", .param "__format_spec"), ("optimize", .dflt "True"),
        ("reset_start", .dflt "False"), ("reset_end", .dflt "True")]) ∧
    (lookup Gen.ansiStr "expandtabs").map (·.body) =
      some (.viaSelf "replace" [("old", .const "'\\t'"), ("new", .other "' ' * tabsize"), ("count", .dflt "-1")]) ∧
    (lookup Gen.ansiString "expandtabs").map (·.body) =
      some (.viaSelf "replace" [("old", .const "'\\t'"), ("new", .other "' ' * tabsize"), ("count", .dflt "-1"),
        ("inplace", .param "inplace")]) ∧
    (lookup Gen.ansiStr "base_str").map (fun m => (m.deco, m.body)) = some ("property", .attr "base_str") ∧
    (lookup Gen.ansiString "base_str").map (·.deco) = some "property" :=
  ⟨lookup_map names_nodup.1 (by repeat constructor),
   lookup_map names_nodup.1 (by repeat constructor),
   lookup_map names_nodup.1 (by repeat constructor),
   lookup_map names_nodup.2 (by repeat constructor),
   lookup_map names_nodup.1 (by repeat constructor),
   lookup_map names_nodup.2 (by repeat constructor),
   lookup_map names_nodup.1 (by repeat constructor),
   lookup_map names_nodup.2 (by repeat constructor)⟩

/-! ## The indirect ones, through `interp` -/

/-- `a += v` means `a + v`: copy, `+=` on the copy, wrap -/
theorem iadd_sem (sem : Sem S V R E) (mk : S → A) (un : A → S) (ρ : String → V) (a : A) :
    interp Gen.ansiStr sem mk un ρ a (.selfAdd (.param "value")) =
      some ((sem.iadd (un a) (ρ "value")).map fun v => .str (mk v)) := by
  have h := lookup_of_mem names_nodup.1 (m := ⟨"__add__", _, _, _⟩) (by repeat constructor)
  simp [interp, h, interpDirect, evalE]

/-- `format(a, spec)` = `a.to_str(spec)` = the wrapped object's `to_str(spec)` with the defaults -/
theorem format_sem (sem : Sem S V R E) (mk : S → A) (un : A → S) (ρ : String → V) (a : A) :
    interp Gen.ansiStr sem mk un ρ a (.viaSelf "to_str" [("format_spec", .param "__format_spec"),
        ("optimize", .dflt "True"), ("reset_start", .dflt "False"), ("reset_end", .dflt "True")]) =
      some ((sem.call "to_str" (un a) [("format_spec", ρ "__format_spec"), ("optimize", sem.ev "True" ρ),
        ("reset_start", sem.ev "False" ρ), ("reset_end", sem.ev "True" ρ)]).map fun r => .raw r.2) := by
  have h := lookup_of_mem names_nodup.1 (m := ⟨"to_str", _, _, _⟩) (by repeat constructor)
  simp [interp, h, interpDirect, bindArgs, evalE, List.lookup]

/-! ## Non-vacuity: a conforming entry of each kind, and what the theorem says about one of them -/

theorem conforms_of_mem {m : WMethod} (hm : m ∈ Gen.ansiStr) (hx : m.name ∉ exempt) :
    (lookup Gen.ansiStr m.name).map (conforms Gen.ansiString) = some true :=
  (lookup_map names_nodup.1 hm).trans (congrArg some ((table_conforms m hm).resolve_left hx))

example : (lookup Gen.ansiStr "replace").map (conforms Gen.ansiString) = some true :=
  conforms_of_mem (m := ⟨"replace", _, _, _⟩) (by repeat constructor) (by decide +kernel)
example : (lookup Gen.ansiStr "find").map (conforms Gen.ansiString) = some true :=
  conforms_of_mem (m := ⟨"find", _, _, _⟩) (by repeat constructor) (by decide +kernel)
example : (lookup Gen.ansiStr "__getitem__").map (conforms Gen.ansiString) = some true :=
  conforms_of_mem (m := ⟨"__getitem__", _, _, _⟩) (by repeat constructor) (by decide +kernel)
example : (lookup Gen.ansiStr "split").map (conforms Gen.ansiString) = some true :=
  conforms_of_mem (m := ⟨"split", _, _, _⟩) (by repeat constructor) (by decide +kernel)

theorem not_conforms {inner : List WMethod} {m tm : WMethod} {f : List (String × WExpr)}
    (hl : lookup inner m.name = some tm) (ht : m.body.target? = some (m.name, f))
    (hno : okFwd m.params tm.params f = false) : conforms inner m = false := by
  unfold conforms
  rw [ht]
  simp only [hl, hno, Bool.false_and, Bool.and_false]

/-- a method that forgets `inplace=True` does not conform -/
example : conforms Gen.ansiString
    { name := "lower", deco := "", params := [], body := .lift "lower" [("inplace", .dflt "False")] } = false := by
  have hl := lookup_of_mem names_nodup.2 (m := ⟨"lower", _, _, _⟩) (by repeat constructor)
  exact not_conforms hl rfl (by decide +kernel)
/-- a method that calls another method does not conform -/
example : conforms Gen.ansiString
    { name := "lower", deco := "", params := [], body := .lift "upper" [("inplace", .const "True")] } = false := by
  decide +kernel
/-- a method that swaps two arguments does not conform -/
example : conforms Gen.ansiString
    { name := "clip", deco := "", params := [⟨"start", 0, some "None"⟩, ⟨"end", 0, some "None"⟩],
      body := .lift "clip" [("start", .param "end"), ("end", .param "start"), ("inplace", .const "True")] } = false := by
  have hl := lookup_of_mem names_nodup.2 (m := ⟨"clip", _, _, _⟩) (by repeat constructor)
  exact not_conforms hl rfl (by decide +kernel)
/-- a method with a different default does not conform -/
example : conforms Gen.ansiString
    { name := "replace", deco := "", params := [⟨"old", 0, none⟩, ⟨"new", 0, none⟩, ⟨"count", 0, some "1"⟩],
      body := .lift "replace" [("old", .param "old"), ("new", .param "new"), ("count", .param "count"), ("inplace", .const "True")] } = false := by
  have hl := lookup_of_mem names_nodup.2 (m := ⟨"replace", _, _, _⟩) (by repeat constructor)
  exact not_conforms hl rfl (by decide +kernel)

end C13b
