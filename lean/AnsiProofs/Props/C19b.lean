import AnsiProofs.Props.C19
/-
  C19 (continued) — the cursor/erase/scroll helpers.  Kept in a file of its own: these theorems are
  about the AST-translated `Gen.helperTable`, which changes when a helper changes; nothing else
  should depend on them.
-/

/-- hand-written specification table: documented final byte of each helper -/
def C19Spec.finalByte : List (String × Char) :=
  [("cursor_up_str", 'A'), ("cursor_down_str", 'B'), ("cursor_forward_str", 'C'),
   ("cursor_backward_str", 'D'), ("cursor_next_line_str", 'E'), ("cursor_previous_line_str", 'F'),
   ("cursor_horizontal_absolute_str", 'G'), ("cursor_position_str", 'H'),
   ("erase_in_display_str", 'J'), ("erase_in_line_str", 'K'), ("scroll_up_str", 'S'),
   ("scroll_down_str", 'T')]

/-- what `Main.lean`'s `helper` op computes from a table entry -/
def renderHelper (pieces : List Gen.HelperPiece) (args : List Int) : Str :=
  (pieces.map (fun p => match p with
    | .csi => Gen.csi
    | .lit l => l
    | .arg i => Py.intStr (args.getD i 0))).flatten

theorem zip_partner {α β κ : Type} {f : α → κ} {g : β → κ} {R : α → β → Prop} :
    ∀ {l₁ : List α} {l₂ : List β}, l₁.map f = l₂.map g → (∀ ab ∈ l₁.zip l₂, R ab.1 ab.2) →
      ∀ a ∈ l₁, ∃ b ∈ l₂, g b = f a ∧ R a b
  | [], _, _, _ => fun _ h => nomatch h
  | _ :: _, [], h, _ => nomatch h
  | a :: l₁, b :: l₂, h, hR => by
    rw [List.map_cons, List.map_cons, List.cons.injEq] at h
    intro a' ha'
    rcases List.mem_cons.mp ha' with rfl | ha'
    · exact ⟨b, List.mem_cons_self, h.1.symm, hR (a', b) List.mem_cons_self⟩
    · obtain ⟨b', hb', e⟩ :=
        zip_partner h.2 (fun ab hab => hR ab (List.mem_cons_of_mem _ hab)) a' ha'
      exact ⟨b', List.mem_cons_of_mem _ hb', e⟩

/-- the generated table lists the documented helpers in the documented order -/
theorem helperTable_names : Gen.helperTable.map (·.1) = C19Spec.finalByte.map (·.1) := rfl

/-- an entry of the generated table against its line of `finalByte`: the final byte is a terminator and
    the entry has one of the two shapes `CSI str(a) fb`, `CSI str(a) ; str(b) fb` -/
def C19Spec.entryOk (e : String × Nat × Option (List Gen.HelperPiece)) (p : String × Char) : Prop :=
  isTerm p.2 = true ∧
    ((e.2.1 = 1 ∧ e.2.2 = some [.csi, .arg 0, .lit [p.2]]) ∨
     (e.2.1 = 2 ∧ e.2.2 = some [.csi, .arg 0, .lit [';'], .arg 1, .lit [p.2]]))

theorem helperTable_entries : ∀ ep ∈ Gen.helperTable.zip C19Spec.finalByte, C19Spec.entryOk ep.1 ep.2 := by
  unfold C19Spec.entryOk
  decide +kernel

/-- Facts about the generated table (re-checked by evaluation whenever it is regenerated): every
    entry was translated, has the documented final byte (a terminator), and has one of the two
    shapes `CSI str(a) fb` (one parameter) or `CSI str(a) ; str(b) fb` (two parameters). -/
theorem helperTable_shape : ∀ e ∈ Gen.helperTable, ∃ p ∈ C19Spec.finalByte,
    p.1 = e.1 ∧ isTerm p.2 = true ∧
    ((e.2.1 = 1 ∧ e.2.2 = some [.csi, .arg 0, .lit [p.2]]) ∨
     (e.2.1 = 2 ∧ e.2.2 = some [.csi, .arg 0, .lit [';'], .arg 1, .lit [p.2]])) :=
  zip_partner helperTable_names helperTable_entries

/-- every documented helper is present in the generated table (and vice versa by the above) -/
theorem helperTable_complete :
    ∀ p ∈ C19Spec.finalByte, ∃ e ∈ Gen.helperTable, e.1 = p.1 ∧ e.2.2.isSome = true := by
  intro p hp
  have hmem : p.1 ∈ Gen.helperTable.map (·.1) := by
    rw [helperTable_names]
    exact List.mem_map_of_mem hp
  obtain ⟨e, he, hname⟩ := List.mem_map.mp hmem
  obtain ⟨_, -, -, -, hshape⟩ := helperTable_shape e he
  refine ⟨e, he, hname, ?_⟩
  rcases hshape with ⟨-, h⟩ | ⟨-, h⟩
  · rw [h]
    rfl
  · rw [h]
    rfl

/-- any number of integer arguments: `CSI str(a₁);…;str(aₙ) fb` alone is parsed to that one sequence -/
theorem tokenize_csi_ints (args : List Int) (fb : Char) (hfb : isTerm fb = true) :
    tokenize (Gen.csi ++ joinSep [';'] (args.map Py.intStr) ++ [fb]) =
      { text := [], seqs := [(0, [⟨joinSep [';'] (args.map Py.intStr), [fb]⟩])] } :=
  tokenize_single true none _ fb (joinSep_intStr_not_term args) hfb rfl

theorem renderHelper_one (fb : Char) (a : Int) :
    renderHelper [.csi, .arg 0, .lit [fb]] [a] = Gen.csi ++ joinSep [';'] ([a].map Py.intStr) ++ [fb] := by
  show Gen.csi ++ (Py.intStr a ++ ([fb] ++ [])) = Gen.csi ++ Py.intStr a ++ [fb]
  rw [List.append_nil, List.append_assoc]

theorem renderHelper_two (fb : Char) (a b : Int) :
    renderHelper [.csi, .arg 0, .lit [';'], .arg 1, .lit [fb]] [a, b] =
      Gen.csi ++ joinSep [';'] ([a, b].map Py.intStr) ++ [fb] := by
  show Gen.csi ++ (Py.intStr a ++ ([';'] ++ (Py.intStr b ++ ([fb] ++ [])))) =
    Gen.csi ++ (Py.intStr a ++ [';'] ++ Py.intStr b) ++ [fb]
  simp only [List.append_nil, List.append_assoc]

/-- a helper called with as many integers as it has parameters returns `CSI`, the arguments in decimal
    joined by `;`, and its documented final byte; the parser reads this as one sequence and empty text -/
theorem helper_one_sequence (name : String) (nargs : Nat) (pieces : List Gen.HelperPiece)
    (hmem : (name, nargs, some pieces) ∈ Gen.helperTable)
    (args : List Int) (hargs : args.length = nargs) :
    ∃ fb, (name, fb) ∈ C19Spec.finalByte ∧
      renderHelper pieces args = Gen.csi ++ joinSep [';'] (args.map Py.intStr) ++ [fb] ∧
      tokenize (renderHelper pieces args) =
        { text := [], seqs := [(0, [⟨joinSep [';'] (args.map Py.intStr), [fb]⟩])] } := by
  obtain ⟨⟨n', fb⟩, hp, hname, hterm, hshape⟩ := helperTable_shape _ hmem
  simp only at hname hterm hshape
  subst hname
  refine ⟨fb, hp, ?_⟩
  rcases hshape with ⟨h1, h2⟩ | ⟨h1, h2⟩
  · subst h1
    cases h2
    match args, hargs with
    | [a], _ =>
      rw [renderHelper_one]
      exact ⟨rfl, tokenize_csi_ints _ fb hterm⟩
  · subst h1
    cases h2
    match args, hargs with
    | [a, b], _ =>
      rw [renderHelper_two]
      exact ⟨rfl, tokenize_csi_ints _ fb hterm⟩

/-- `cursor_position_str(3, -4)` is `ESC [ 3 ; - 4 H` -/
example : ("cursor_position_str", 2,
    some [Gen.HelperPiece.csi, .arg 0, .lit [';'], .arg 1, .lit ['H']]) ∈ Gen.helperTable :=
  List.mem_of_getElem? (i := 7) rfl

example : renderHelper [.csi, .arg 0, .lit [';'], .arg 1, .lit ['H']] [3, -4] = "\x1b[3;-4H".toList := by
  simp only [strLitToList]
  decide +kernel

example : tokenize (renderHelper [.csi, .arg 0, .lit ['A']] [12]) =
    { text := [], seqs := [(0, [⟨"12".toList, "A".toList⟩])] } := by
  simp only [strLitToList]
  decide +kernel


#print axioms helperTable_shape
#print axioms helperTable_complete
#print axioms helper_one_sequence
