import AnsiProofs.Lemmas.Display
/-
  Property C05 (consequence) — `s[:k] + s[k:]`.

  "Consequently s[:k] + s[k:] reports the same per-character settings and renders
  display-identically to s for every k."

  `x.getRange 0 k` is `s[:k]`, `x.getRange k x.len` is `s[k:]` (the bounds after Python's slice
  normalisation, `k ≤ x.len`); `texts (act y i)` the setting texts character `i` of `y` reports, in
  precedence order; `den`, `Term.run` as in `C01.lean`.

  The corner cases `k = 0` and `k = x.len` (one of the slices is the empty value) are covered.
  All statements hold for every `x` and every `k ≤ x.len`.
-/
open Term DisplayL ConcatL

namespace C05b

theorem getRange_settings_sub (x : AStr) (st en : Nat) :
    ∀ s ∈ (x.getRange st en).fmts.settings, s ∈ x.fmts.settings :=
  _root_.getRange_settings_sub x st en

/-- objects shared between two slices of one value carry the same text: the hypothesis of
    `C05.iadd_wf` holds for any two slices -/
theorem slices_coherent (x : AStr) (h : WF x) (a b c d : Nat) :
    CoherentPair (x.getRange a b) (x.getRange c d) :=
  fun s hs t ht e =>
    h.coherent s (getRange_settings_sub x a b s hs) t (getRange_settings_sub x c d t ht) e

theorem iadd_settings_sub (a b : AStr) (ha : WF a) (hb : WF b) :
    ∀ s ∈ (a.iadd b).fmts.settings, s ∈ a.fmts.settings ∨ s ∈ b.fmts.settings :=
  fun _ hs => mem_iadd_settings ha hb hs

/-! ### `s[:k] + s[k:]` -/

theorem split_concat_text (x : AStr) (k : Nat) :
    ((x.getRange 0 k).iadd (x.getRange k x.len)).s = x.s := by
  rw [C05.iadd_text, C04.getRange_text, C04.getRange_text]
  unfold pySlice AStr.len
  simp

theorem split_concat_wf (x : AStr) (h : WF x) {k : Nat} (hk : k ≤ x.len) :
    WF ((x.getRange 0 k).iadd (x.getRange k x.len)) :=
  C05.iadd_wf _ _ (C04.getRange_wf x h 0 hk) (C04.getRange_wf x h k (Nat.le_refl _))
    (slices_coherent x h _ _ _ _)

/-- characters of the left part even keep their setting objects -/
theorem split_concat_left (x : AStr) (h : WF x) {k : Nat} (hk : k ≤ x.len) :
    ∀ i, i < k → act ((x.getRange 0 k).iadd (x.getRange k x.len)) i = act x i := by
  intro i hi
  have hla : (x.getRange 0 k).len = k := getRange_len x hk
  rw [C05.iadd_left _ _ (C04.getRange_wf x h 0 hk) (C04.getRange_wf x h k (Nat.le_refl _))
      (Nat.lt_of_lt_of_eq hi hla.symm),
    C04.getRange_settings x h (Nat.zero_lt_of_lt hi) hk hi, Nat.zero_add]

/-- every character reports the same setting texts, in the same (precedence) order, as in `s` -/
theorem split_concat_settings (x : AStr) (h : WF x) {k : Nat} (hk : k ≤ x.len) :
    ∀ i, i < x.len →
      texts (act ((x.getRange 0 k).iadd (x.getRange k x.len)) i) = texts (act x i) := by
  intro i hi
  by_cases hik : i < k
  · rw [split_concat_left x h hk i hik]
  · obtain ⟨j, rfl⟩ := Nat.exists_eq_add_of_le (Nat.le_of_not_lt hik)
    have hr := C05.iadd_right_all _ _ (C04.getRange_wf x h 0 hk) (C04.getRange_wf x h k (Nat.le_refl _)) j
    rw [show (x.getRange 0 k).len = k from getRange_len x hk] at hr
    rw [hr, C04.getRange_settings x h (Nat.lt_of_le_of_lt (Nat.le_add_right k j) hi) (Nat.le_refl _)
      (Nat.lt_sub_of_add_lt (Nat.add_comm k j ▸ hi))]

theorem split_concat_group (x : AStr) (h : WF x) (hg : GroupSettings x) {k : Nat} (hk : k ≤ x.len) :
    GroupSettings ((x.getRange 0 k).iadd (x.getRange k x.len)) := by
  intro s hs
  rcases iadd_settings_sub _ _ (C04.getRange_wf x h 0 hk) (C04.getRange_wf x h k (Nat.le_refl _)) s hs
    with h1 | h1
  · exact hg s (getRange_settings_sub x _ _ s h1)
  · exact hg s (getRange_settings_sub x _ _ s h1)

/-- same denotation: the same characters, each under the same displayed style
    (`GroupSettings x` and `NoEsc x.s` are not needed for this step) -/
theorem split_concat_display (x : AStr) (h : WF x) {k : Nat} (hk : k ≤ x.len) :
    den ((x.getRange 0 k).iadd (x.getRange k x.len)) = den x := by
  unfold den
  rw [split_concat_text]
  apply zipIdx_map_congr
  intro c i hi
  simp only
  rw [eff_congr_texts (split_concat_settings x h hk i hi)]

/-- **renders display-identically**: a conforming terminal shows the same for `str(s[:k] + s[k:])`
    and `str(s)` -/
theorem split_concat_render (x : AStr) (h : WF x) (hg : GroupSettings x) (hne : NoEsc x.s)
    {k : Nat} (hk : k ≤ x.len) :
    (Term.run Term.default ((x.getRange 0 k).iadd (x.getRange k x.len)).str).1 =
      (Term.run Term.default x.str).1 := by
  rw [C01.str_display _ (split_concat_wf x h hk) (split_concat_group x h hg hk)
      (by rw [split_concat_text]; exact hne),
    C01.str_display x h hg hne, split_concat_display x h hk]

/-- the same for `to_str` under every combination of flags (the two sides may even use different
    flags) and every prior state allowed by C01 -/
theorem split_concat_render_flags (x : AStr) (h : WF x) (hg : GroupSettings x) (hne : NoEsc x.s)
    {k : Nat} (hk : k ≤ x.len) (o rs re o' rs' re' : Bool) (t0 t0' : Term.TState)
    (h0 : rs = true ∨ t0 = Term.default) (h0' : rs' = true ∨ t0' = Term.default) :
    (Term.run t0 (Render.render ((x.getRange 0 k).iadd (x.getRange k x.len)) o rs re)).1 =
      (Term.run t0' (Render.render x o' rs' re')).1 := by
  rw [C01.render_display _ o rs re t0 (split_concat_wf x h hk) (split_concat_group x h hg hk)
      (by rw [split_concat_text]; exact hne) h0,
    C01.render_display x o' rs' re' t0' h hg hne h0']
  exact split_concat_display x h hk

/-! ### non-vacuity

  `abcd`, red (`31`, object 0) on `[0,4)`, blue (`34`, object 1) on `[1,4)`; `k = 2` cuts through
  both runs. -/

def red : Setting := ⟨0, "31".toList⟩
def blue : Setting := ⟨1, "34".toList⟩

def ex : AStr :=
  { s := "abcd".toList
    fmts := [(0, { add := [red] }), (1, { add := [blue] }), (4, { rem := [red, blue] })] }

theorem ex_wf : WF ex := wf_of_finite (by decide +kernel)

theorem ex_group : GroupSettings ex := by unfold GroupSettings; decide +kernel
theorem ex_noEsc : NoEsc ex.s := by unfold NoEsc; decide +kernel

example : WF ex ∧ GroupSettings ex ∧ NoEsc ex.s ∧ 2 ≤ ex.len := ⟨ex_wf, ex_group, ex_noEsc, by decide +kernel⟩

/-- the two slices and their concatenation for `k = 2`: here the table is even the same -/
example : ex.getRange 0 2 =
    { s := "ab".toList, fmts := [(0, { add := [red] }), (1, { add := [blue] }), (2, { rem := [red, blue] })] } ∧
    ex.getRange 2 4 =
    { s := "cd".toList, fmts := [(0, { add := [red, blue] }), (2, { rem := [red, blue] })] } ∧
    (ex.getRange 0 2).iadd (ex.getRange 2 4) = ex := by decide +kernel

example : texts (act ((ex.getRange 0 2).iadd (ex.getRange 2 ex.len)) 2) = ["31".toList, "34".toList] :=
  (split_concat_settings ex ex_wf (k := 2) (by decide +kernel) 2 (by decide +kernel)).trans (by decide +kernel)

example : (Term.run Term.default ((ex.getRange 0 2).iadd (ex.getRange 2 ex.len)).str).1 =
    (Term.run Term.default ex.str).1 :=
  split_concat_render ex ex_wf ex_group ex_noEsc (by decide +kernel)

example : (Term.run Term.default ((ex.getRange 0 2).iadd (ex.getRange 2 ex.len)).str).1.map
      (fun ct => (ct.1, ct.2.toList)) =
    [('a', [(.fg, [31])]), ('b', [(.fg, [34])]), ('c', [(.fg, [34])]), ('d', [(.fg, [34])])] := by
  decide +kernel

/-- the corner cases: `k = 0` and `k = len` -/
example : ex.getRange 0 0 = { s := [], fmts := [] } ∧ ex.getRange 4 4 = { s := [], fmts := [] } ∧
    (ex.getRange 0 0).iadd (ex.getRange 0 ex.len) = ex ∧
    (ex.getRange 0 4).iadd (ex.getRange 4 ex.len) = ex := by decide +kernel
example : den ((ex.getRange 0 0).iadd (ex.getRange 0 ex.len)) = den ex :=
  split_concat_display ex ex_wf (Nat.zero_le _)
example : den ((ex.getRange 0 4).iadd (ex.getRange 4 ex.len)) = den ex :=
  split_concat_display ex ex_wf (by decide +kernel)

/-- any two slices of the example are coherent, overlapping or not, bounds in range or not -/
example : CoherentPair (ex.getRange 1 3) (ex.getRange 0 9) := slices_coherent ex ex_wf 1 3 0 9

end C05b

#print axioms C05b.getRange_settings_sub
#print axioms C05b.slices_coherent
#print axioms C05b.iadd_settings_sub
#print axioms C05b.split_concat_text
#print axioms C05b.split_concat_wf
#print axioms C05b.split_concat_settings
#print axioms C05b.split_concat_left
#print axioms C05b.split_concat_group
#print axioms C05b.split_concat_display
#print axioms C05b.split_concat_render
#print axioms C05b.split_concat_render_flags
