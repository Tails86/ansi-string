import AnsiModel.Format
import AnsiModel.Generated.Wrappers
/-
  Property C04, part b.  `Gen.sliceValToIdx` is `AnsiString._slice_val_to_idx` translated
  statement by statement (harness/pyint.py); the model's `sliceIdx` — what every range operation
  of the model (slicing, apply, remove, find) starts from — is hand-written.  The proofs go by
  `grind` so that a harmless rewrite of the Python function (`max(0, …)`, a conditional
  expression, reordered branches), which yields a different generated definition, still goes
  through; a change of behaviour does not.
-/
namespace C04b

/-- `_slice_val_to_idx`, as translated, returns the model's `sliceIdx` -/
theorem sliceIdx_is_code (n : Nat) (v : Option Int) (d : Nat) :
    Gen.sliceValToIdxOk = true ∧ Gen.sliceValToIdx (n : Int) v (d : Int) = (sliceIdx n v d : Int) := by
  refine ⟨rfl, ?_⟩
  cases v with
  | none => simp [Gen.sliceValToIdx, sliceIdx]
  | some v => simp only [Gen.sliceValToIdx, sliceIdx]; grind

/-- the same for a `start` bound, whose default is the literal `0` in the code -/
theorem start_is_code (n : Nat) (s : Option Int) :
    Gen.sliceValToIdx (n : Int) s 0 = (sliceIdx n s 0 : Int) := by
  simpa using (sliceIdx_is_code n s 0).2

theorem sliceValToIdx_range (n : Nat) (v : Option Int) (d : Nat) (hd : d ≤ n) :
    0 ≤ Gen.sliceValToIdx (n : Int) v (d : Int) ∧ Gen.sliceValToIdx (n : Int) v (d : Int) ≤ n := by
  cases v with
  | none => simp [Gen.sliceValToIdx]; omega
  | some v => simp only [Gen.sliceValToIdx]; grind

/-- reading the outcome of a translated guard (`1` = the method has returned, `0` = it goes on) -/
theorem guard_one {c : Prop} [Decidable c] (h : (if c then (1 : Int) else 0) = 1) : c :=
  Decidable.byContradiction fun hc => by rw [if_neg hc] at h; exact absurd h (by decide)

theorem guard_zero {c : Prop} [Decidable c] (h : (if c then (1 : Int) else 0) = 0) : ¬ c :=
  fun hc => by rw [if_pos hc] at h; exact absurd h (by decide)

end C04b
