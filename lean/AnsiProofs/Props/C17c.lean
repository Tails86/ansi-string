import AnsiProofs.Props.C09c
import AnsiModel.Generated.Methods.AnsiSettingsAtCode
import AnsiProofs.Lemmas.StrLit
/-
  Property C17, part c — the *generated* (statement-by-statement translated) `AnsiString.ansi_settings_at`
  (`Gen.ansiSettingsAtCode` of `AnsiModel/Generated/Methods/AnsiSettingsAtCode.lean`) computes exactly
  what the hand-written model says (`AStr.ansiSettingsAt`, `AnsiModel/Replay.lean`, i.e. `active` /
  `activeFrom`) on values whose table is sorted; the outcome `Exc.key` (the fetch `self._fmts[idx]` of
  the iterator) never happens there.  The loop is rewritten by `ObjL.foldlM_keysAsc` into a fold of
  `L.round`, a pure function on the loop state, which `L.round_active` identifies with `activeFrom`.
-/

namespace C17c
namespace L
open ObjL

/-- the state of the translated loop: `(previous_settings, current_settings, done)`; `done` is Python's
    `break`, after which nothing changes -/
abbrev S := List Setting × List Setting × Bool

def round (i : Nat) (s : S) (kp : Nat × Point) : S :=
  if s.2.2 then s
  else if kp.1 > i then (s.1, stepPoint s.2.1 kp.2, true)
  else (stepPoint s.2.1 kp.2, stepPoint s.2.1 kp.2, false)

/-- as long as the loop runs `previous_settings` is `current_settings`; the `break` keeps the one
    before the first key beyond `i` -/
theorem round_active (i : Nat) (B : Fmts) (cur : List Setting) :
    (B.foldl (round i) (cur, cur, false)).1 = activeFrom cur B i := by
  induction B generalizing cur with
  | nil => rfl
  | cons kp B ih =>
    obtain ⟨k, p⟩ := kp
    have hr : round i (cur, cur, false) (k, p) =
        if k > i then (cur, stepPoint cur p, true) else (stepPoint cur p, stepPoint cur p, false) := rfl
    rw [List.foldl_cons, hr, activeFrom]
    by_cases h : k ≤ i
    · rw [if_pos h, if_neg (Nat.not_lt.mpr h)]
      exact ih _
    · rw [if_neg h, if_pos (Nat.not_le.mp h), foldl_fixed (fun _ => rfl)]

end L

open L ObjL

/-- the method was translated (it did not fall outside the translator's fragment) -/
theorem translated : Gen.ansiSettingsAtCodeOk = true := by decide

theorem ansiSettingsAt_is_code (x : AStr) (hs : SortedKeys x.fmts) (idx : Int) :
    Gen.ansiSettingsAtCode x idx = .ok (x.ansiSettingsAt idx) := by
  unfold Gen.ansiSettingsAtCode AStr.ansiSettingsAt AStr.len
  have hc : (decide (idx ≥ 0) && decide (idx < (x.s.length : Int))) = true ↔ 0 ≤ idx ∧ idx < (x.s.length : Int) := by
    rw [Bool.and_eq_true, decide_eq_true_eq, decide_eq_true_eq]
  by_cases hin : 0 ≤ idx ∧ idx < (x.s.length : Int)
  · obtain ⟨i, rfl⟩ : ∃ i : Nat, idx = (i : Int) := ⟨idx.toNat, by omega⟩
    rw [if_pos hin, if_pos (hc.mpr hin)]
    simp only []
    rw [foldlM_keysAsc hs (round := round i) ?spec, bind_ok, Int.toNat_natCast, active, ← round_active]
    intro s k p hg
    obtain ⟨prev, cur, d⟩ := s
    simp only [get_of_get? hg, bind_ok, C09c.iter_step_is_code]
    unfold round
    cases d
    · by_cases h : k > i
      · simp [h]
      · simp [h]
    · rfl
  · rw [if_neg hin, if_neg (mt hc.mp hin)]

theorem ansiSettingsAt_never_outside (x : AStr) (hs : SortedKeys x.fmts) (idx : Int) (err : Exc) :
    Gen.ansiSettingsAtCode x idx ≠ .error err := by
  rw [ansiSettingsAt_is_code x hs idx]
  intro h; cases h

/-! ## A concrete value -/

/-- "abcdef", object 0 (`31`) from 0 to 6, object 1 (`1`) from 2 to 4 -/
def x0 : AStr :=
  { s := "abcdef".toList,
    fmts := [(0, { add := [⟨0, "31".toList⟩] }), (2, { add := [⟨1, "1".toList⟩] }),
             (4, { rem := [⟨1, "1".toList⟩] }), (6, { rem := [⟨0, "31".toList⟩] })] }

theorem x0_sorted : SortedKeys x0.fmts := by
  unfold SortedKeys
  decide

example : SortedKeys x0.fmts := x0_sorted

example : Gen.ansiSettingsAtCode x0 3 = .ok (x0.ansiSettingsAt 3) := ansiSettingsAt_is_code x0 x0_sorted 3
example : Gen.ansiSettingsAtCode x0 (-1) = .ok (x0.ansiSettingsAt (-1)) := ansiSettingsAt_is_code x0 x0_sorted (-1)
example : Gen.ansiSettingsAtCode x0 6 = .ok (x0.ansiSettingsAt 6) := ansiSettingsAt_is_code x0 x0_sorted 6

example : Gen.ansiSettingsAtCode x0 3 = .ok [⟨0, "31".toList⟩, ⟨1, "1".toList⟩] := by
  simp only [x0, strLitToList]
  decide +kernel
example : Gen.ansiSettingsAtCode x0 4 = .ok [⟨0, "31".toList⟩] := by
  simp only [x0, strLitToList]
  decide +kernel
example : Gen.ansiSettingsAtCode x0 (-1) = .ok [] := by
  simp only [x0, strLitToList]
  decide +kernel
example : Gen.ansiSettingsAtCode x0 6 = .ok [] := by
  simp only [x0, strLitToList]
  decide +kernel

/-- the hypothesis `SortedKeys` is needed: on a table out of order the fetch of the point meets `Exc.key` -/
example : Gen.ansiSettingsAtCode { s := "abc".toList, fmts := [(2, {}), (0, {})] } 2 = .error .key := by
  decide +kernel

end C17c

#print axioms C17c.translated
#print axioms C17c.ansiSettingsAt_is_code
#print axioms C17c.ansiSettingsAt_never_outside
