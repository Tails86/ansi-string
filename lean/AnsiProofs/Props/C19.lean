import AnsiProofs.Lemmas.Tokenize
import AnsiProofs.Lemmas.StrLit
/-
  Property C19 — `ParsedAnsiControlSequenceString(s)` is lossless for every string `s`;
  each cursor_*/erase_*/scroll_* helper returns exactly one recognised sequence.

  The specification of the unformatted text (`C19Spec.recognised`, `C19Spec.removeRecognised`)
  lives in `AnsiProofs/Lemmas/Tokenize.lean` (namespace `C19Spec`) because the helper lemmas
  mention it; it is written independently of the tokenizer's mode machine (scan for `ESC [`,
  `takeWhile`/`dropWhile` of the parameter characters, acceptance rule as stated by the property).
-/

/-! ## Re-inserting the recorded sequences reproduces `s` exactly -/

/-- `formatted_str` / `str()` / `repr()` of the parse of `s` is `s`, for every string -/
theorem tokenize_lossless (s : Str) (allowEmpty : Bool) (acc : Option Str) :
    (tokenize s allowEmpty acc).formatted = s :=
  tokLoop_formatted allowEmpty acc s {} Parsed.keysLe_empty

/-! ## `unformatted_str` is `s` with the recognised control sequences removed -/

theorem tokenize_unformatted (s : Str) (allowEmpty : Bool) (acc : Option Str) :
    (tokenize s allowEmpty acc).text = C19Spec.removeRecognised allowEmpty acc s :=
  tokLoop_text allowEmpty acc s {}

/-! ## The recorded sequences are well formed, keys strictly ascending -/

theorem tokenize_wellformed (s : Str) (allowEmpty : Bool) (acc : Option Str) :
    (∀ kl ∈ (tokenize s allowEmpty acc).seqs,
      kl.1 ≤ (tokenize s allowEmpty acc).text.length ∧ kl.2 ≠ [] ∧
      ∀ c ∈ kl.2,
        (∀ ch ∈ c.sequence, isTerm ch = false) ∧
        (c.terminator = [] ∨ ∃ ch, c.terminator = [ch] ∧ isTerm ch = true) ∧
        (c.terminator = [] → allowEmpty = true) ∧
        (∀ a, acc = some a → ∀ ch, c.terminator = [ch] → ch ∈ a)) ∧
    ((tokenize s allowEmpty acc).seqs.map (·.1)).Pairwise (· < ·) := by
  have g := tokLoop_good allowEmpty acc s {} (good_empty _ _)
  refine ⟨fun kl hkl => ⟨g.keysLe kl hkl, (g.blocks kl hkl).1, (g.blocks kl hkl).2⟩, g.asc⟩

/-! ## An unterminated sequence can only be the last element of the last block -/

/-- positional form: wherever a sequence with empty terminator occurs (block `kv` at position
    `init.length`, element at position `l1.length`), nothing follows it -/
theorem tokenize_empty_terminator_last (s : Str) (allowEmpty : Bool) (acc : Option Str)
    (init rest : List (Nat × List CtlSeq)) (kv : Nat × List CtlSeq)
    (hs : (tokenize s allowEmpty acc).seqs = init ++ kv :: rest)
    (l1 l2 : List CtlSeq) (c : CtlSeq) (hkv : kv.2 = l1 ++ c :: l2) (hc : c.terminator = []) :
    rest = [] ∧ l2 = [] :=
  tokLoop_lastOnly allowEmpty acc s {} noEmpty_empty init kv rest hs l1 c l2 hkv hc

/-- value form -/
theorem tokenize_empty_terminator_getLast (s : Str) (allowEmpty : Bool) (acc : Option Str) :
    ∀ kv ∈ (tokenize s allowEmpty acc).seqs, ∀ c ∈ kv.2, c.terminator = [] →
      (tokenize s allowEmpty acc).seqs.getLast? = some kv ∧ kv.2.getLast? = some c := by
  intro kv hkv c hc hce
  obtain ⟨init, rest, hs⟩ := List.append_of_mem hkv
  obtain ⟨l1, l2, hl⟩ := List.append_of_mem hc
  obtain ⟨hr, hl2⟩ := tokenize_empty_terminator_last s allowEmpty acc init rest kv hs l1 l2 c hl hce
  subst hr hl2
  rw [hs, hl]
  simp

/-! ## Examples -/

/-- two sequences at one position, text around them, an unterminated sequence at the end -/
example : tokenize "ab\x1b[1;31m\x1b[2Jcd\x1b[3".toList true none =
    { text := "abcd".toList,
      seqs := [(2, [⟨"1;31".toList, "m".toList⟩, ⟨"2".toList, "J".toList⟩]),
               (4, [⟨"3".toList, []⟩])] } := by
  simp only [strLitToList]
  decide +kernel

/-- restricted terminators: `J` is not acceptable, so that sequence stays in the text -/
example : tokenize "a\x1b[1mb\x1b[2Jc".toList true (some "m".toList) =
    { text := "ab\x1b[2Jc".toList, seqs := [(1, [⟨"1".toList, "m".toList⟩])] } := by
  simp only [strLitToList]
  decide +kernel

/-- unterminated sequences not allowed: it stays in the text -/
example : tokenize "a\x1b[1".toList false none = { text := "a\x1b[1".toList, seqs := [] } := by
  simp only [strLitToList]
  decide +kernel

/-- the specification evaluated on its own (no tokenizer involved) -/
example : C19Spec.removeRecognised true none "ab\x1b[1;31m\x1b[2Jcd\x1b[3".toList = "abcd".toList := by
  simp only [strLitToList]
  decide +kernel

/-- the specification with a restricted terminator set / unterminated sequences disallowed -/
example : C19Spec.removeRecognised false (some "m".toList) "a\x1b[1mb\x1b[2Jc\x1b[3".toList =
    "ab\x1b[2Jc\x1b[3".toList := by
  simp only [strLitToList]
  decide +kernel

/-- the hypotheses of `tokenize_empty_terminator_last` are satisfiable: the unterminated `ESC [ 3` is last of the last block -/
example : ∃ init kv l1 c,
    (tokenize "ab\x1b[1m\x1b[2Jcd\x1b[5n\x1b[3".toList true none).seqs = init ++ kv :: [] ∧
    kv.2 = l1 ++ c :: [] ∧ c.terminator = [] ∧ init ≠ [] ∧ l1 ≠ [] :=
  ⟨[(2, [⟨"1".toList, "m".toList⟩, ⟨"2".toList, "J".toList⟩])],
   (4, [⟨"5".toList, "n".toList⟩, ⟨"3".toList, []⟩]), [⟨"5".toList, "n".toList⟩],
   ⟨"3".toList, []⟩, by
    simp only [strLitToList]
    decide +kernel⟩

#print axioms tokenize_lossless
#print axioms tokenize_unformatted
#print axioms tokenize_wellformed
#print axioms tokenize_empty_terminator_last
#print axioms tokenize_empty_terminator_getLast

