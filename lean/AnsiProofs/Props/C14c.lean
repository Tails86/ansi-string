import AnsiModel.Scrub
import AnsiModel.Generated.Regexes
import AnsiProofs.Lemmas.RegexEquiv
import AnsiProofs.Lemmas.StrLit
/-
  Property C14, part c — the three regular expressions of `_parse_rgb_string` are the source's.

  `Gen.regex_parse_rgb_string_1 … _3` are the patterns of the three `re.search` calls of
  `_AnsiSettingPoint._parse_rgb_string`, parsed with Python's own `re._parser` and translated into the
  model's `Re` (harness/pyre.py; `Gen.regexSources` keeps the texts).  The model's hand-written
  `Scrub.reRgb3`, `Scrub.reRgb1`, `Scrub.reColor` return, on every string, the same `Re.matchStart` (the
  same match/no match and the same captured groups 1–7), so `C14.reject_stray_close_bracket` and the
  other C14 theorems about `Scrub.parseRgbString` are about the patterns the source contains: a stray
  `)` inside `[\[\(]` changes `Gen.regex_parse_rgb_string_*` and the theorems below stop building.

  (`\s` is the model's ASCII `Py.isSpace`; Unicode white space is unmodelled, DESIGN §4.)
-/
namespace C14c

open RegexEquivL

/-- every pattern of the three functions was inside the translated fragment -/
theorem translated : Gen.regexesOk = true := by decide

/-- the call sites found in `_parse_rgb_string`, in source order (a fourth one would show here) -/
theorem sites : (Gen.regexSources.map (·.1)).filter (·.startsWith "regex_parse_rgb_string") =
    ["regex_parse_rgb_string_1", "regex_parse_rgb_string_2", "regex_parse_rgb_string_3"] := by decide +kernel

/-- `^((?:fg_)?|(?:bg_)|(?:ul_)|(?:dul_))rgb\([\[\(]?\s*(0x)?([0-9a-fA-F]+)\s*,\s*(0x)?([0-9a-fA-F]+)\s*,\s*(0x)?([0-9a-fA-F]+)\s*[\)\]]?\)$`
    is the model's `reRgb3` -/
theorem rgb3_is_code : ∀ s, Re.matchStart Gen.regex_parse_rgb_string_1 s = Re.matchStart Scrub.reRgb3 s := by
  intro s
  apply matchStart_of_norm
  -- the source's classes become the model's predicates; the model's `"…".toList` are evaluated here,
  -- since `rfl` is slow on them
  simp only [Gen.regex_parse_rgb_string_1, cls_ch, cls_ch2, cls_space, cls_hex,
    Scrub.reRgb3, Scrub.rePrefix, Scrub.reNum, strLitToList]
  rfl

/-- `^((?:fg_)?|(?:bg_)|(?:ul_)|(?:dul_))rgb\([\[\(]?\s*(0x)?([0-9a-fA-F]+)\s*[\)\]]?\)$` is the model's `reRgb1` -/
theorem rgb1_is_code : ∀ s, Re.matchStart Gen.regex_parse_rgb_string_2 s = Re.matchStart Scrub.reRgb1 s := by
  intro s
  apply matchStart_of_norm
  simp only [Gen.regex_parse_rgb_string_2, cls_ch, cls_ch2, cls_space, cls_hex,
    Scrub.reRgb1, Scrub.rePrefix, Scrub.reNum, strLitToList]
  rfl

/-- `^((?:fg_)?|(?:bg_)|(?:ul_)|(?:dul_))colou?r256\([\[\(]?\s*(0x)?([0-9a-fA-F]+)\s*[\)\]]?\)$` is the model's `reColor` -/
theorem color256_is_code : ∀ s, Re.matchStart Gen.regex_parse_rgb_string_3 s = Re.matchStart Scrub.reColor s := by
  intro s
  apply matchStart_of_norm
  simp only [Gen.regex_parse_rgb_string_3, cls_ch, cls_ch2, cls_space, cls_hex,
    Scrub.reColor, Scrub.rePrefix, Scrub.reNum, strLitToList]
  rfl

/-- hence the model's `_parse_rgb_string` may be read with the source's patterns -/
theorem parseRgbString_with_code (s : Str) :
    Scrub.parseRgbString s =
      (match Re.matchStart Gen.regex_parse_rgb_string_1 s with
       | some caps =>
         let g := Re.group caps
         match Scrub.numVal ((g 3).getD []) (g 2).isSome, Scrub.numVal ((g 5).getD []) (g 4).isSome,
               Scrub.numVal ((g 7).getD []) (g 6).isSome with
         | some r, some gr, some b =>
           some (.ok (Scrub.colorSettings (Scrub.component (g 1)) true [min 255 r, min 255 gr, min 255 b]))
         | _, _, _ => some (.error .valueError)
       | none =>
       match Re.matchStart Gen.regex_parse_rgb_string_2 s with
       | some caps =>
         let g := Re.group caps
         match Scrub.numVal ((g 3).getD []) (g 2).isSome with
         | some v =>
           some (.ok (Scrub.colorSettings (Scrub.component (g 1)) true [(v / 65536) % 256, (v / 256) % 256, v % 256]))
         | none => some (.error .valueError)
       | none =>
       match Re.matchStart Gen.regex_parse_rgb_string_3 s with
       | some caps =>
         let g := Re.group caps
         match Scrub.numVal ((g 3).getD []) (g 2).isSome with
         | some v => some (.ok (Scrub.colorSettings (Scrub.component (g 1)) false [v]))
         | none => some (.error .valueError)
       | none => none) := by
  rw [rgb3_is_code, rgb1_is_code, color256_is_code]
  rfl

/-! the source's patterns, run: the stray `)` of defect D35 is rejected, the bracketed forms are accepted -/
example : Re.matchStart Gen.regex_parse_rgb_string_1 "rgb()1,2,3)".toList = none := by
  simp only [strLitToList]
  decide +kernel
example : Re.matchStart Gen.regex_parse_rgb_string_2 "rgb()1)".toList = none := by
  simp only [strLitToList]
  decide +kernel
example : Re.matchStart Gen.regex_parse_rgb_string_3 "ul_color256()17)".toList = none := by
  simp only [strLitToList]
  decide +kernel
example : (Re.matchStart Gen.regex_parse_rgb_string_1 "rgb(1,2,3)".toList).isSome = true := by
  simp only [strLitToList]
  decide +kernel
example : (Re.matchStart Gen.regex_parse_rgb_string_1 "bg_rgb([0x10, 2, 3])".toList).isSome = true := by
  simp only [strLitToList]
  decide +kernel
example : (Re.matchStart Gen.regex_parse_rgb_string_1 "bg_rgb([0x10, 2, 3])".toList).map
      (fun c => (Re.group c 1, Re.group c 2, Re.group c 3)) =
    some (some "bg_".toList, some "0x".toList, some "10".toList) := by
  simp only [strLitToList]
  decide +kernel
example : (Re.matchStart Gen.regex_parse_rgb_string_1 "bg_rgb([0x10, 2, 3])".toList).map
      (fun c => (Re.group c 4, Re.group c 5, Re.group c 7)) =
    some (none, some "2".toList, some "3".toList) := by
  simp only [strLitToList]
  decide +kernel
example : (Re.matchStart Gen.regex_parse_rgb_string_1 "rgb((1,2,3))".toList).isSome = true := by
  simp only [strLitToList]
  decide +kernel
example : (Re.matchStart Gen.regex_parse_rgb_string_2 "dul_rgb(0xff00ff)".toList).map (fun c => Re.group c 1) =
    some (some "dul_".toList) := by
  simp only [strLitToList]
  decide +kernel
example : (Re.matchStart Gen.regex_parse_rgb_string_3 "fg_colour256( 17 )".toList).isSome = true := by
  simp only [strLitToList]
  decide +kernel
example : Re.matchStart Gen.regex_parse_rgb_string_3 "color256(17".toList = none := by
  simp only [strLitToList]
  decide +kernel

end C14c

#print axioms C14c.translated
#print axioms C14c.sites
#print axioms C14c.rgb3_is_code
#print axioms C14c.rgb1_is_code
#print axioms C14c.color256_is_code
#print axioms C14c.parseRgbString_with_code
