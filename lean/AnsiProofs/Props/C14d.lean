import AnsiProofs.Props.C14c
import AnsiProofs.Props.C15
import AnsiProofs.Props.C15d
import AnsiProofs.Lemmas.Scrub
import AnsiProofs.Lemmas.StrLit
import AnsiProofs.Lemmas.PyParse
import AnsiModel.Generated.Methods.ParsePrims
import AnsiModel.Generated.Methods.ScrubFormatInt
import AnsiModel.Generated.Methods.ParseRgbString
import AnsiModel.Generated.Methods.ScrubSettingsObjs
import AnsiModel.Generated.Methods.ScrubFormatString

/-
  Property C14, part d — the static methods of `_AnsiSettingPoint` (ansi_string.py), translated statement by
  statement (`harness/pyparse.py`),
      `_scrub_ansi_format_int`, `_parse_rgb_string`, `_scrub_ansi_format_string`,
      and `_scrub_ansi_settings` for the one call the latter makes (a list of AnsiSettings)
  compute what the hand-written model says (`Scrub.parseRgbString`, `Scrub.scrubString` / `scrubDirective`
  of `AnsiModel/Scrub.lean`), *with the error class*: the same value, or the same Python exception
  (ValueError), for every input; nothing else is raised (`int(None, …)` TypeError, `None.ansi_settings`,
  IndexError, digits or colour values outside the modelled domain of the primitives, running out of fuel).

  NOT translated: `_scrub_ansi_settings` on its general argument (str / int / AnsiSetting / AnsiFormat member /
  list / tuple, nested).  It calls itself through a `for` loop on a dynamically typed, possibly cyclic value and
  detects cycles by `id()`; the model represents that by the constructor `SArg.selfRef`, not by identities, so
  there is no faithful statement-by-statement image of `id(setting) in parsed_ids`.  What is translated of it is
  the instance for `settings : List[AnsiSetting]` (`Gen.scrubSettingsObjsCode`): with that static type the
  `isinstance` chain is decided while translating, `id(settings)` is kept as an opaque value that is stored and
  never inspected, and the second half (the `while` that combines runs of ints) is translated in full.

  The three `re.search(<literal>, s)` are `Re.matchStart Gen.regex_parse_rgb_string_k s` (harness/pyre.py,
  C14c: equal to the model's `reRgb3/reRgb1/reColor`); `match.group(n)` is `Re.group caps n`.  What Python needs
  from the groups — groups 3, 5, 7 present, non-empty, hexadecimal digits only (so that `int(group, base)` is
  inside the modelled domain); groups 2, 4, 6 absent or non-empty (so that `16 if match.group(2) else 10` is
  the model's `.isSome`) — is proved from the matcher by Hoare triples over `Re.m` (`C14d.L.Trip`), for every
  string; `Eats r W` says what a piece without groups consumes.
-/

-- some simp arguments are there for other shapes the source may take
set_option linter.unusedSimpArgs false

namespace C14d
namespace L
open Re ScrubL

/-! ### what a successful match says about the groups: Hoare triples for the matcher -/

/-- from captures with `P`, every call of the continuation gets captures with `Q` -/
def Trip (P : Caps → Prop) (r : Re) (Q : Caps → Prop) : Prop :=
  ∀ {α : Type} (s : Str) (caps : Caps) (k : Str → Caps → Option α) (a : α), P caps → m r s caps k = some a →
    ∃ rest caps', Q caps' ∧ k rest caps' = some a

theorem bindOk {α β : Type} (a : α) (f : α → Except Exc β) : (Except.ok a : Except Exc α).bind f = f a := rfl

theorem or_some {α : Type} {x y : Option α} {a : α} (h : x.or y = some a) : x = some a ∨ y = some a := by
  cases x with
  | none => right; simpa using h
  | some b => left; simpa using h

theorem trip_seq {P R Q : Caps → Prop} {a b : Re} (ha : Trip P a R) (hb : Trip R b Q) : Trip P (seq a b) Q := by
  intro α s caps k x hP h
  rw [m_seq] at h
  obtain ⟨mid, capsm, hR, h2⟩ := ha s caps _ x hP h
  exact hb mid capsm k x hR h2

theorem trip_opt {P Q : Caps → Prop} {r : Re} (hr : Trip P r Q) (hpq : ∀ c, P c → Q c) : Trip P (opt r) Q := by
  intro α s caps k x hP h
  rw [m_opt] at h
  rcases or_some h with h | h
  · exact hr s caps k x hP h
  · exact ⟨s, caps, hpq caps hP, h⟩

theorem trip_alt {P Q : Caps → Prop} {a b : Re} (ha : Trip P a Q) (hb : Trip P b Q) : Trip P (alt a b) Q := by
  intro α s caps k x hP h
  rw [m_alt] at h
  rcases or_some h with h | h
  · exact ha s caps k x hP h
  · exact hb s caps k x hP h

theorem trip_conseq {P P' Q Q' : Caps → Prop} {r : Re} (h : Trip P r Q) (hp : ∀ c, P' c → P c) (hq : ∀ c, Q c → Q' c) :
    Trip P' r Q' := by
  intro α s caps k x hP hm
  obtain ⟨rest, caps', hQ, hk⟩ := h s caps k x (hp caps hP) hm
  exact ⟨rest, caps', hq caps' hQ, hk⟩

theorem go_some {α : Type} (s : Str) (caps : Caps) (k : Str → Caps → Option α) (a : α) :
    ∀ n, m.go s caps k n = some a → ∃ j, j ≤ n ∧ k (s.drop j) caps = some a
  | 0, h => by rw [go_zero] at h; exact ⟨0, Nat.le_refl _, by simpa using h⟩
  | n + 1, h => by
    rw [go_succ] at h
    rcases or_some h with h | h
    · exact ⟨n + 1, Nat.le_refl _, h⟩
    · obtain ⟨j, hj, hk⟩ := go_some s caps k a n h
      exact ⟨j, Nat.le_succ_of_le hj, hk⟩

/-- a piece without groups: a successful match has consumed a word with `W` and called the continuation with
    the captures it was given -/
def Eats (r : Re) (W : Str → Prop) : Prop :=
  ∀ {α : Type} (s : Str) (caps : Caps) (k : Str → Caps → Option α) (a : α), m r s caps k = some a →
    ∃ w rest, s = w ++ rest ∧ W w ∧ k rest caps = some a

theorem eats_mono {r : Re} {W W' : Str → Prop} (h : Eats r W) (hw : ∀ w, W w → W' w) : Eats r W' := by
  intro α s caps k a hm
  obtain ⟨w, rest, hs, hW, hk⟩ := h s caps k a hm
  exact ⟨w, rest, hs, hw w hW, hk⟩

theorem eats_cls (p : Char → Bool) : Eats (cls p) (fun w => ∃ c, w = [c] ∧ p c = true) := by
  intro α s caps k a h
  cases s with
  | nil => rw [m_cls_nil] at h; cases h
  | cons c rest =>
    rw [m_cls_cons] at h
    by_cases hp : p c = true
    · rw [if_pos hp] at h; exact ⟨[c], rest, rfl, ⟨c, rfl, hp⟩, h⟩
    · rw [if_neg hp] at h; cases h

theorem eats_star (p : Char → Bool) : Eats (star p) (fun w => w.all p = true) := by
  intro α s caps k a h
  rw [m_star] at h
  obtain ⟨j, hj, hk⟩ := go_some s caps k a _ h
  have hpre : s.take j = (s.takeWhile p).take j := by
    conv => lhs; rw [← List.takeWhile_append_dropWhile (p := p) (l := s)]
    rw [List.take_append_of_le_length hj]
  refine ⟨s.take j, s.drop j, (List.take_append_drop j s).symm, ?_, hk⟩
  show (s.take j).all p = true
  rw [hpre, List.all_eq_true]
  exact fun c hc => List.all_eq_true.1 List.all_takeWhile c (List.mem_of_mem_take hc)

theorem eats_seq {x y : Re} {A B : Str → Prop} (hx : Eats x A) (hy : Eats y B) :
    Eats (seq x y) (fun w => ∃ u v, w = u ++ v ∧ A u ∧ B v) := by
  intro α s caps k a h
  rw [m_seq] at h
  obtain ⟨u, mid, rfl, hA, h2⟩ := hx s caps _ a h
  obtain ⟨v, rest, rfl, hB, hk⟩ := hy mid caps k a h2
  exact ⟨u ++ v, rest, (List.append_assoc u v rest).symm, ⟨u, v, rfl, hA, hB⟩, hk⟩

theorem eats_plus (p : Char → Bool) : Eats (plus p) (fun w => w ≠ [] ∧ w.all p = true) := by
  refine eats_mono (eats_seq (eats_cls p) (eats_star p)) ?_
  rintro w ⟨u, v, rfl, ⟨c, rfl, hc⟩, hv⟩
  exact ⟨List.cons_ne_nil _ _, by simp [hc, hv]⟩

theorem eats_lit : ∀ p : Str, Eats (lit p) (· = p)
  | [] => fun s caps k a h => ⟨[], s, rfl, rfl, by rwa [lit, m_eps] at h⟩
  | c :: p => by
    refine eats_mono (eats_seq (eats_cls _) (eats_lit p)) ?_
    rintro w ⟨u, v, rfl, ⟨d, rfl, hd⟩, rfl⟩
    rw [beq_iff_eq.1 hd]
    rfl

def capFree : Re → Bool
  | .cls _ => true
  | .star _ => true
  | .opt r => capFree r
  | .cap _ _ => false
  | .seq a b => capFree a && capFree b
  | .alt a b => capFree a && capFree b
  | .eps => true
  | .eos => true

theorem capFree_lit : ∀ p : Str, capFree (lit p) = true
  | [] => rfl
  | _ :: p => capFree_lit p

theorem eats_free : ∀ {r : Re}, capFree r = true → Eats r (fun _ => True)
  | .cls p, _ => eats_mono (eats_cls p) fun _ _ => trivial
  | .star p, _ => eats_mono (eats_star p) fun _ _ => trivial
  | .opt r, hf => by
    intro s caps k a h
    rw [m_opt] at h
    rcases or_some h with h | h
    · exact eats_free (r := r) hf s caps k a h
    · exact ⟨[], s, rfl, trivial, h⟩
  | .cap _ _, hf => by cases hf
  | .seq x y, hf => by
    rw [capFree, Bool.and_eq_true] at hf
    exact eats_mono (eats_seq (eats_free hf.1) (eats_free hf.2)) fun _ _ => trivial
  | .alt x y, hf => by
    rw [capFree, Bool.and_eq_true] at hf
    intro s caps k a h
    rw [m_alt] at h
    rcases or_some h with h | h
    · exact eats_free hf.1 s caps k a h
    · exact eats_free hf.2 s caps k a h
  | .eps, _ => fun s caps k a h => ⟨[], s, rfl, trivial, by rwa [m_eps] at h⟩
  | .eos, _ => by
    intro s caps k a h
    rw [m_eos] at h
    split at h
    · exact ⟨[], s, rfl, trivial, h⟩
    · cases h

theorem trip_free {P : Caps → Prop} {r : Re} (hf : capFree r = true) : Trip P r P := by
  intro α s caps k a hP h
  obtain ⟨_, rest, _, _, hk⟩ := eats_free hf s caps k a h
  exact ⟨rest, caps, hP, hk⟩

theorem trip_skip {P Q : Caps → Prop} {a b : Re} (hf : capFree a = true) (hb : Trip P b Q) : Trip P (seq a b) Q :=
  trip_seq (trip_free hf) hb

/-- a group over a piece without groups holds the word the piece has consumed -/
theorem trip_cap {P Q : Caps → Prop} {n : Nat} {r : Re} {W : Str → Prop} (hr : Eats r W)
    (hq : ∀ c w, P c → W w → Q ((n, w) :: c.filter (·.1 != n))) : Trip P (cap n r) Q := by
  intro α s caps k a hP h
  rw [m_cap] at h
  obtain ⟨w, rest, rfl, hW, hk⟩ := hr s caps _ a h
  rw [show (w ++ rest).take ((w ++ rest).length - rest.length) = w by simp] at hk
  exact ⟨rest, _, hq caps w hP hW, hk⟩

theorem trip_matchStart {P Q : Caps → Prop} {r : Re} (h : Trip P r Q) (h0 : P []) {s : Str} {caps : Caps}
    (hm : matchStart r s = some caps) : Q caps := by
  obtain ⟨_, caps', hQ, hk⟩ := h s [] (fun _ caps => some caps) caps h0 hm
  simp only [Option.some.injEq] at hk
  exact hk ▸ hQ

/-! ### the groups of the three patterns of `_parse_rgb_string` -/

/-- what the patterns say of group `n` when it holds `w`: groups 2, 4, 6 (`(0x)?`) are not empty; groups 3, 5, 7
    (`([0-9a-fA-F]+)`) are non-empty strings of hexadecimal digits -/
def GroupOk (n : Nat) (w : Str) : Prop :=
  (n ∈ [2, 4, 6] → w ≠ []) ∧ (n ∈ [3, 5, 7] → w ≠ [] ∧ w.all Scrub.isHex = true)

/-- every group that took part is as the patterns say; the groups in `need` took part -/
def Good (need : List Nat) (caps : Caps) : Prop :=
  (∀ n w, group caps n = some w → GroupOk n w) ∧ ∀ n ∈ need, (group caps n).isSome = true

theorem find_filter_ne (mm n : Nat) (h : n ≠ mm) (caps : Caps) :
    (caps.filter (·.1 != mm)).find? (·.1 == n) = caps.find? (·.1 == n) := by
  rw [List.find?_filter]
  congr 1
  funext a
  by_cases e : a.1 = n <;> simp [e, h]

theorem group_cons (mm : Nat) (w : Str) (caps : Caps) (n : Nat) :
    group ((mm, w) :: caps.filter (·.1 != mm)) n = if n = mm then some w else group caps n := by
  unfold group
  by_cases h : n = mm
  · subst h; simp
  · have h2 : ((mm, w).1 == n) = false := by simp; exact fun e => h e.symm
    rw [List.find?_cons_of_neg (by simp [h2]), if_neg h, find_filter_ne mm n h]

theorem good_nil : Good [] [] := ⟨fun _ _ h => (nomatch h), fun _ h => (nomatch h)⟩

theorem good_cons {need : List Nat} {c : Caps} (mm : Nat) {w : Str} (h : Good need c) (hw : GroupOk mm w) :
    Good (mm :: need) ((mm, w) :: c.filter (·.1 != mm)) := by
  constructor
  · intro n v hv
    rw [group_cons] at hv
    by_cases e : n = mm
    · rw [if_pos e] at hv; cases hv; exact e ▸ hw
    · rw [if_neg e] at hv; exact h.1 n v hv
  · intro n hn
    rw [group_cons]
    by_cases e : n = mm
    · rw [if_pos e]; rfl
    · rw [if_neg e]
      exact h.2 n ((List.mem_cons.mp hn).resolve_left e)

/-- the same without the claim that the group took part -/
theorem good_cons' {need : List Nat} {c : Caps} (mm : Nat) {w : Str} (h : Good need c) (hw : GroupOk mm w) :
    Good need ((mm, w) :: c.filter (·.1 != mm)) :=
  ⟨(good_cons mm h hw).1, fun n hn => (good_cons mm h hw).2 n (List.mem_cons_of_mem _ hn)⟩

theorem trip_prefix (need : List Nat) : Trip (Good need) Scrub.rePrefix (Good need) :=
  trip_cap (r := .alt _ _) (eats_free (by simp only [capFree, capFree_lit]; rfl))
    (fun _ _ h _ => good_cons' 1 h ⟨fun h' => by simp at h', fun h' => by simp at h'⟩)

/-- `(0x)?([0-9a-fA-F]+)` as groups `a`, `b` -/
theorem trip_num (need : List Nat) (a b : Nat) (hab : a ∉ [3, 5, 7]) :
    Trip (Good need) (Scrub.reNum a b) (Good (b :: need)) :=
  trip_seq
    (trip_opt (trip_cap (eats_lit _) fun _ _ h e => good_cons' a h ⟨fun _ => e ▸ by decide, fun h' => absurd h' hab⟩)
      fun _ h => h)
    (trip_cap (eats_plus _) fun _ _ h hw => good_cons b h ⟨fun _ => hw.1, fun _ => hw⟩)

/-- `\s*(0x)?([0-9a-fA-F]+)\s*` in front of the rest -/
theorem trip_arg {need : List Nat} {Q : Caps → Prop} {rest : Re} (a b : Nat) (hab : a ∉ [3, 5, 7])
    (h : Trip (Good (b :: need)) rest Q) :
    Trip (Good need) (.seq Scrub.reWs (.seq (Scrub.reNum a b) (.seq Scrub.reWs rest))) Q :=
  trip_skip rfl (trip_seq (trip_num need a b hab) (trip_skip rfl h))

/-- `[\)\]]?\)$` -/
theorem trip_close (P : Caps → Prop) : Trip P (.seq Scrub.reClose (.seq (lit ")".toList) .eos)) P :=
  trip_skip rfl (trip_skip (capFree_lit _) (trip_free rfl))

theorem trip_rgb3 : Trip (Good []) Scrub.reRgb3 (Good [7, 5, 3]) :=
  trip_seq (trip_prefix _) <| trip_skip (capFree_lit _) <| trip_skip rfl <|
    trip_arg 2 3 (by decide) <| trip_skip rfl <|
    trip_arg 4 5 (by decide) <| trip_skip rfl <|
    trip_arg 6 7 (by decide) (trip_close _)

theorem trip_rgb1 : Trip (Good []) Scrub.reRgb1 (Good [3]) :=
  trip_seq (trip_prefix _) <| trip_skip (capFree_lit _) <| trip_skip rfl <| trip_arg 2 3 (by decide) (trip_close _)

theorem trip_color : Trip (Good []) Scrub.reColor (Good [3]) :=
  trip_seq (trip_prefix _) <| trip_skip (capFree_lit _) <| trip_skip rfl <| trip_skip (capFree_lit _) <|
    trip_skip rfl <| trip_arg 2 3 (by decide) (trip_close _)

/-! ### the primitives on such groups -/

/-- `int(match.group(b), 16 if match.group(a) else 10)` for a number `(0x)?([0-9a-fA-F]+)` with groups `a`, `b`
    is the model's `numVal`; never `int(None, …)`, never outside the modelled domain -/
theorem num_code {need : List Nat} {caps : Caps} (h : Good need caps) (a b : Nat) (ha : a ∈ [2, 4, 6] := by decide)
    (hb : b ∈ [3, 5, 7] := by decide) (hp : b ∈ need := by decide) :
    PyParse.intBase (group caps b) (if PyParse.truthyOptStr (group caps a) then (16 : Int) else (10 : Int)) =
      .ok ((Scrub.numVal ((group caps b).getD []) (group caps a).isSome).map (fun (v : Nat) => (v : Int))) := by
  have hx : PyParse.truthyOptStr (group caps a) = (group caps a).isSome := by
    cases hg : group caps a with
    | none => rfl
    | some w =>
      cases w with
      | nil => exact absurd rfl ((h.1 a [] hg).1 ha)
      | cons c t => rfl
  rw [hx]
  have hs := h.2 b hp
  cases hg : group caps b with
  | none => rw [hg] at hs; cases hs
  | some w =>
    obtain ⟨hne, hall⟩ := (h.1 b w hg).2 hb
    have hemp : w.isEmpty = false := by cases w with | nil => exact absurd rfl hne | cons _ _ => rfl
    unfold PyParse.intBase Scrub.numVal
    cases (group caps a).isSome <;> simp [hemp, hall]

theorem dictGetD_cons (a : Str) (v : Nat) (d : List (Str × Nat)) (p : Str) (dflt : Nat) :
    PyParse.dictGetD ((a, v) :: d) (some p) dflt = if a == p then v else PyParse.dictGetD d (some p) dflt := by
  simp only [PyParse.dictGetD, List.find?_cons]
  cases a == p <;> rfl

/-- a dictionary with distinct keys may be asked in any order -/
theorem dict_generic (a b c d p : Str) (hab : a ≠ b) (hac : a ≠ c) (hbc : b ≠ c) :
    PyParse.dictGetD [(a, 3), (b, 2), (c, 1), (d, 0)] (some p) 0 =
      (if p == c then 1 else if p == b then 2 else if p == a then 3 else 0) := by
  simp only [dictGetD_cons, beq_iff_eq]
  by_cases h1 : a = p
  · subst h1
    simp [hab, hac]
  · by_cases h2 : b = p
    · subst h2
      simp [h1, hbc]
    · simp [h1, h2, PyParse.dictGetD, eq_comm (a := p)]

/-- `component_dict.get(match.group(1), ColorComponentType.FOREGROUND)` is the model's `component` -/
theorem component_dict (k : Option Str) :
    PyParse.dictGetD [("dul_".toList, 3), ("ul_".toList, 2), ("bg_".toList, 1), ("fg_".toList, 0)] k 0 = Scrub.component k := by
  cases k with
  | none => rfl
  | some p =>
    rw [dict_generic _ _ _ _ p (by decide) (by decide) (by decide)]
    rfl

theorem ite_notb {α : Type} (b : Bool) (x y : α) : (if (!b) = true then x else y) = if b = true then y else x := by
  cases b <;> rfl

theorem clamp (r : Nat) : (min (255 : Int) (max 0 (r : Int))).toNat = min 255 r := by
  rw [Int.max_eq_right (Int.natCast_nonneg r)]
  rcases Nat.le_total 255 r with h | h
  · have h' : (255 : Int) ≤ r := Int.ofNat_le.2 h
    rw [Nat.min_eq_left h, Int.min_eq_left h']
    rfl
  · have h' : (r : Int) ≤ 255 := Int.ofNat_le.2 h
    rw [Nat.min_eq_right h, Int.min_eq_right h', Int.toNat_natCast]

theorem formatRgb3_nat (r g b comp : Nat) :
    PyParse.formatRgb3 r g b comp = Scrub.colorSettings comp true [min 255 r, min 255 g, min 255 b] := by
  simp only [PyParse.formatRgb3, clamp]

theorem formatRgb1_nat (v comp : Nat) :
    PyParse.formatRgb1 v comp = .ok (Scrub.colorSettings comp true [(v / 65536) % 256, (v / 256) % 256, v % 256]) := by
  simp only [PyParse.formatRgb1, ObjL.natCast_not_neg, if_false, Int.toNat_natCast]

theorem formatColor256_nat (v comp : Nat) :
    PyParse.formatColor256 v comp = .ok (Scrub.colorSettings comp false [v]) := by
  simp only [PyParse.formatColor256, ObjL.natCast_not_neg, if_false, Int.toNat_natCast]

/-! ### `_scrub_ansi_settings` on a list of AnsiSettings: the loops -/

/-- the `while` over `settings_out` when it holds no int: state `(idx, current_ints, settings_out)`, every
    round only advances `idx`, and the loop stops at the length -/
def WalkSpec (out : List Str) (cond : Int × List Code × List Str → Except Exc Bool)
    (body : Int × List Code × List Str → Except Exc (Int × List Code × List Str)) : Prop :=
  cond ((out.length : Int), [], out) = .ok false ∧
  ∀ i : Nat, i < out.length →
    cond ((i : Int), [], out) = .ok true ∧ body ((i : Int), [], out) = .ok (((i + 1 : Nat) : Int), [], out)

theorem walk_loop {out : List Str} {cond : Int × List Code × List Str → Except Exc Bool}
    {body : Int × List Code × List Str → Except Exc (Int × List Code × List Str)} (h : WalkSpec out cond body) :
    ∀ (n i fuel : Nat), i + n = out.length → n ≤ fuel →
      PyParse.whileM fuel cond body ((i : Int), [], out) = .ok ((out.length : Int), [], out)
  | 0, i, fuel, hi, _ => by
    rw [show i = out.length from hi]
    exact PyParseL.while_done h.1 fuel
  | n + 1, i, f + 1, hi, hf => by
    obtain ⟨hc, hb⟩ := h.2 i (by omega)
    rw [PyParseL.while_step hc hb]
    exact walk_loop h n (i + 1) f (by omega) (by omega)

/-! ### `_scrub_ansi_format_string` -/

/-- the model's errors as outcomes of the generated functions -/
def liftErr {α : Type} : Except PyErr α → Except Exc α
  | .ok a => .ok a
  | .error e => .error (.py e)

/-- one `format` of the string: what a round of the loop has to do -/
def DirSpec (step : List SOut → Str → Except Exc (List SOut)) : Prop :=
  ∀ acc fmt, step acc fmt = liftErr ((Scrub.scrubDirective fmt).map (fun r => acc ++ r))

theorem fold_dirs {step : List SOut → Str → Except Exc (List SOut)} (h : DirSpec step) :
    ∀ (fmts : List Str) (acc : List SOut),
      List.foldlM step acc fmts =
        liftErr (fmts.foldlM (fun acc fmt => do
            let r ← Scrub.scrubDirective fmt
            pure (acc ++ r)) acc)
  | [], acc => rfl
  | fmt :: fmts, acc => by
    rw [List.foldlM_cons, List.foldlM_cons, h]
    cases hd : Scrub.scrubDirective fmt with
    | error e => rfl
    | ok r =>
      show List.foldlM step (acc ++ r) fmts = _
      rw [fold_dirs h fmts]
      rfl

theorem normName_code (f : Str) :
    PyParse.replaceChar (PyParse.replaceChar (PyParse.upper f) ' ' '_') '-' '_' = Scrub.normName f := by
  unfold PyParse.replaceChar PyParse.upper Scrub.normName
  rw [List.map_map, List.map_map]
  apply List.map_congr_left
  intro c _
  simp only [Function.comp]
  by_cases h1 : Scrub.upperAscii c = ' '
  · simp [h1]
  · by_cases h2 : Scrub.upperAscii c = '-'
    · simp [h1, h2]
    · simp [h1, h2]

/-- another way of writing `not s` -/
theorem len_beq_zero {α : Type} (l : List α) : ((l.length : Int) == 0) = l.isEmpty :=
  C15d.L.len_beq_zero l

theorem lookup_member (name : Str) : Scrub.lookupFormat name = (PyParse.formatMember name).map (·.2) := rfl

theorem colorSettings_ne_nil (comp : Nat) (b : Bool) (args : List Nat) : Scrub.colorSettings comp b args ≠ [] := by
  unfold Scrub.colorSettings
  cases comp == 2 <;> cases comp == 3 <;> exact List.cons_ne_nil _ _

/-- what `_parse_rgb_string` returns is never an empty list (`if not rgb_format_list` then means `None`) -/
theorem parseRgb_ne_nil {s : Str} {ts : List Str} (h : Scrub.parseRgbString s = some (.ok ts)) : ts ≠ [] := by
  simp only [Scrub.parseRgbString] at h
  -- every outcome is `none`, an error or some `colorSettings …`
  repeat' split at h
  all_goals cases h
  all_goals exact colorSettings_ne_nil _ _ _

/-- every member has at most two settings (only the spines of the lists are evaluated, no text) -/
theorem table_len : Gen.formatTable.all (fun r => decide (r.2.length ≤ 2)) = true := by decide +kernel

/-- … and none with an empty text: they are parsable (C15) -/
theorem member_ok {name : Str} {r : Str × List Str} (h : PyParse.formatMember name = some r) :
    r.2.length ≤ 2 ∧ ∀ t ∈ r.2, t ≠ [] := by
  have hm : r ∈ Gen.formatTable := List.mem_of_find?_eq_some h
  refine ⟨of_decide_eq_true (List.all_eq_true.1 table_len r hm), fun t ht e => ?_⟩
  have hp := (C15.members_parsable r hm t ht).2
  rw [e] at hp
  exact absurd hp (by decide)

end L
open L

/-- the model's outcomes of `_parse_rgb_string` as outcomes of the generated function: `None`, a list of
    settings, ValueError -/
def rgbOutcome : Option (Except PyErr (List Str)) → Except Exc (Option (List Str))
  | none => .ok none
  | some (.ok ts) => .ok (some ts)
  | some (.error e) => .error (.py e)

theorem translated : (Gen.scrubFormatIntCodeOk && Gen.parseRgbStringCodeOk) = true := by decide

/-- `_scrub_ansi_format_int`: ValueError on a negative value, else the value -/
theorem format_int_is_code (i : Int) :
    Gen.scrubFormatIntCode i = if i < 0 then .error (.py .valueError) else .ok i := by
  unfold Gen.scrubFormatIntCode
  by_cases h : i < 0 <;> simp [h]

/-- `_parse_rgb_string`: for every string the same `None` / list of settings / ValueError as the model's
    `parseRgbString`; `int(None, …)` (TypeError), digits outside the modelled domain of `int(…, base)` and
    negative colour values never occur -/
theorem parse_rgb_is_code (s : Str) : Gen.parseRgbStringCode s = rgbOutcome (Scrub.parseRgbString s) := by
  unfold Gen.parseRgbStringCode Scrub.parseRgbString
  simp only [C14c.rgb3_is_code, C14c.rgb1_is_code, C14c.color256_is_code]
  cases h3 : Re.matchStart Scrub.reRgb3 s with
  | some caps =>
    have hg := trip_matchStart trip_rgb3 good_nil h3
    simp only [ite_notb, num_code hg 2 3, num_code hg 4 5,
      num_code hg 6 7, bindOk, component_dict]
    cases Scrub.numVal ((Re.group caps 3).getD []) (Re.group caps 2).isSome with
    | none => rfl
    | some r =>
      cases Scrub.numVal ((Re.group caps 5).getD []) (Re.group caps 4).isSome with
      | none => rfl
      | some g =>
        cases Scrub.numVal ((Re.group caps 7).getD []) (Re.group caps 6).isSome with
        | none => rfl
        | some b => simp only [Option.map_some, formatRgb3_nat, rgbOutcome]
  | none =>
    simp only []
    cases h1 : Re.matchStart Scrub.reRgb1 s with
    | some caps =>
      have hg := trip_matchStart trip_rgb1 good_nil h1
      simp only [ite_notb, num_code hg 2 3, bindOk, component_dict]
      cases Scrub.numVal ((Re.group caps 3).getD []) (Re.group caps 2).isSome with
      | none => rfl
      | some v => simp only [Option.map_some, formatRgb1_nat, bindOk, rgbOutcome]
    | none =>
      simp only []
      cases hc : Re.matchStart Scrub.reColor s with
      | some caps =>
        have hg := trip_matchStart trip_color good_nil hc
        simp only [ite_notb, num_code hg 2 3, bindOk, component_dict]
        cases Scrub.numVal ((Re.group caps 3).getD []) (Re.group caps 2).isSome with
        | none => rfl
        | some v => simp only [Option.map_some, formatColor256_nat, bindOk, rgbOutcome]
      | none => rfl

/-- `_scrub_ansi_settings(<list of AnsiSettings>, make_unique)` returns the settings: with `make_unique` they are
    copied (`AnsiSetting(setting)`: ValueError on an empty text, which no AnsiSetting holds), no int is among
    them, so the `while` only walks over the list (one round per setting: `fuel ≥ len`) -/
theorem scrub_objs_is_code (fuel : Nat) (ts : List Str) (mu : Bool) (hf : ts.length ≤ fuel)
    (hne : mu = true → ∀ t ∈ ts, t ≠ []) : Gen.scrubSettingsObjsCode fuel ts mu = .ok ts := by
  unfold Gen.scrubSettingsObjsCode
  simp only []
  rw [ObjL.foldlM_append (R := fun t => [t]) ?cspec, List.flatMap_singleton']
  case cspec =>
    intro out t ht
    cases mu with
    | false => simp
    | true =>
      have := hne rfl t ht
      cases t with
      | nil => exact absurd rfl this
      | cons c r => simp [PyParse.settingOfStr, PyParse.mkSetting, bindOk]
  simp only [bindOk, List.nil_append]
  rw [show ((0 : Int), ([] : List Code), ts) = (((0 : Nat) : Int), ([] : List Code), ts) from rfl,
    walk_loop (out := ts) ?wspec ts.length 0 fuel (by omega) hf]
  case wspec =>
    refine ⟨by simp, fun i hlt => ⟨by simp [hlt], ?_⟩⟩
    simp [ObjL.getIdx_nat (List.getElem?_eq_getElem hlt), bindOk]
  simp [bindOk]

theorem translated_format_string : (Gen.scrubSettingsObjsCodeOk && Gen.scrubFormatStringCodeOk) = true := by decide

/-- `_scrub_ansi_format_string` is the model's `scrubString`, with the error class, for both values of
    `make_unique`, given fuel for the two settings a member has at most -/
theorem format_string_is_code (fuel : Nat) (s : Str) (mu : Bool) (hf : 2 ≤ fuel) :
    Gen.scrubFormatStringCode fuel s mu = liftErr (Scrub.scrubString s) := by
  unfold Gen.scrubFormatStringCode Scrub.scrubString
  try simp only [len_beq_zero]
  cases s with
  | nil => rfl
  | cons c0 r =>
    by_cases hb : c0 = '['
    · subst hb
      have hsl : Py.listSlice ('[' :: r) (some (1 : Int)) none = r := ObjL.listSlice_from _ 1
      cases r with
      | nil => simp [hsl, Py.startsWith, PyParse.settingOfStr, PyParse.mkSetting, liftErr]; rfl
      | cons c1 r1 => simp [hsl, Py.startsWith, PyParse.settingOfStr, PyParse.mkSetting, liftErr, bindOk]
    · have hst : Py.startsWith (c0 :: r) "[".toList = false := by simp [Py.startsWith, hb]
      simp only [List.isEmpty_cons, Bool.not_false, Bool.not_true, Bool.false_eq_true, ↓reduceIte, hst,
        PyParseL.split_sep, bindOk]
      rw [fold_dirs ?dspec]
      case dspec =>
        intro acc fmt
        simp only [normName_code]
        unfold Scrub.scrubDirective
        rw [lookup_member]
        cases hm : PyParse.formatMember (Scrub.normName fmt) with
        | some r =>
          obtain ⟨hlen, hne⟩ := member_ok hm
          simp only [Option.map_some, PyParse.getAttr, bindOk]
          rw [scrub_objs_is_code fuel r.2 mu (by omega) (fun _ => hne)]
          rfl
        | none =>
          simp only [Option.map_none, parse_rgb_is_code]
          cases hp : Scrub.parseRgbString fmt with
          | none =>
            simp only [rgbOutcome, bindOk, Py.truthyOptList, format_int_is_code]
            cases fmt with
            | nil => simp [liftErr, Except.map]
            | cons f0 fr =>
              cases Py.int (f0 :: fr) with
              | none => rfl
              | some i =>
                by_cases hi : i < 0
                · simp [hi, liftErr, Except.map, bindOk]; rfl
                · simp [hi, liftErr, Except.map, bindOk]
          | some res =>
            cases res with
            | error e => rfl
            | ok ts =>
              have hts := parseRgb_ne_nil hp
              cases ts with
              | nil => exact absurd rfl hts
              | cons t0 tr => simp [rgbOutcome, bindOk, Py.truthyOptList, Py.optGet, liftErr, Except.map]
      rw [ObjL.bind_pure]
      congr 1
      split
      · rename_i heq; cases heq
      · rename_i heq; injection heq with h1 _; exact absurd h1 hb
      · rfl

/-! ## Only the model's exceptions -/

theorem format_int_only_valueError (i : Int) (err : Exc) (h : Gen.scrubFormatIntCode i = .error err) :
    err = .py .valueError := by
  rw [format_int_is_code] at h
  split at h <;> cases h; rfl

theorem parse_rgb_only_py (s : Str) (err : Exc) (h : Gen.parseRgbStringCode s = .error err) : ∃ e, err = .py e := by
  rw [parse_rgb_is_code] at h
  cases hp : Scrub.parseRgbString s with
  | none => rw [hp] at h; cases h
  | some r => rw [hp] at h; cases r with
    | ok _ => cases h
    | error e => cases h; exact ⟨e, rfl⟩

theorem format_string_only_py (fuel : Nat) (s : Str) (mu : Bool) (hf : 2 ≤ fuel) (err : Exc)
    (h : Gen.scrubFormatStringCode fuel s mu = .error err) : ∃ e, err = .py e := by
  rw [format_string_is_code fuel s mu hf] at h
  cases hs : Scrub.scrubString s with
  | ok _ => rw [hs] at h; cases h
  | error e => rw [hs] at h; cases h; exact ⟨e, rfl⟩

theorem scrub_objs_never_raises (fuel : Nat) (ts : List Str) (mu : Bool) (hf : ts.length ≤ fuel)
    (hne : mu = true → ∀ t ∈ ts, t ≠ []) (err : Exc) : Gen.scrubSettingsObjsCode fuel ts mu ≠ .error err := by
  rw [scrub_objs_is_code fuel ts mu hf hne]; intro e; cases e

/-! ## Concrete values -/

private def rgb (s : String) := Gen.parseRgbStringCode s.toList
private def fs (s : String) (mu : Bool := false) := Gen.scrubFormatStringCode 2 s.toList mu

example : rgb "rgb(1,2,3)" = .ok (some ["38;2;1;2;3".toList]) := by
  simp only [rgb, strLitToList]
  decide +kernel
example : rgb "bg_rgb(0x10, 0xff, 300)" = .ok (some ["48;2;16;255;255".toList]) := by
  simp only [rgb, strLitToList]
  decide +kernel
example : rgb "dul_rgb(123456)" = .ok (some ["21".toList, "58;2;1;226;64".toList]) := by
  simp only [rgb, strLitToList]
  decide +kernel
example : rgb "fg_colour256(0x1f)" = .ok (some ["38;5;31".toList]) := by
  simp only [rgb, strLitToList]
  decide +kernel
/-- hexadecimal digits without `0x`: ValueError; no pattern: None -/
example : rgb "ul_rgb(ff,1,2)" = .error (.py .valueError) := by
  simp only [rgb, strLitToList]
  decide +kernel
example : rgb "rgb(1,2" = .ok none := by
  simp only [rgb, strLitToList]
  decide +kernel
example : rgb "red" = .ok none := by
  simp only [rgb, strLitToList]
  decide +kernel

example : fs "" = .ok [] := by
  simp only [fs, strLitToList]
  decide +kernel
example : fs "[1;2" = .ok [.setting "1;2".toList] := by
  simp only [fs, strLitToList]
  decide +kernel
example : fs "[" = .error (.py .valueError) := by
  simp only [fs, strLitToList]
  decide +kernel
/- directives that go through `AnsiFormat[...]` (a scan of the 800 names of `Gen.formatTable`, each a string literal
   the kernel has to decode) are left to the theorem: `fs s = liftErr (Scrub.scrubString s)`, and to the examples
   of C14 on the model's side -/

/-- the outcomes the theorems exclude are real ones of the primitives -/
example : PyParse.intBase none 10 = .error (.py .typeError) := by decide
example : PyParse.intBase (some "+1".toList) 10 = .error .outside := by decide
example : PyParse.formatColor256 (-1) 0 = .error .outside := by decide
example : PyParse.getAttr (none : Option (Str × List Str)) = .error .outside := by decide
example : Gen.scrubSettingsObjsCode 1 ["1".toList, "31".toList] false = .error .outside := by
  simp only [strLitToList]
  decide +kernel
example : Gen.scrubSettingsObjsCode 2 ["1".toList, []] true = .error (.py .valueError) := by
  simp only [strLitToList]
  decide +kernel

end C14d

#print axioms C14d.translated
#print axioms C14d.translated_format_string
#print axioms C14d.format_int_is_code
#print axioms C14d.parse_rgb_is_code
#print axioms C14d.scrub_objs_is_code
#print axioms C14d.format_string_is_code
#print axioms C14d.format_string_only_py
#print axioms C14d.parse_rgb_only_py
