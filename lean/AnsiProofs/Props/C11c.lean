import AnsiModel.Slice
import AnsiProofs.Lemmas.Obj
import AnsiModel.Generated.Methods.AssignStr
/-
  Property C11, part c — `assign_str`, from the source.

  `Gen.assignStr` is `AnsiString.assign_str` translated statement by statement on every run
  (harness/pyobj.py).  The theorem ties it to the hand-written `AStr.assignStr` the theorems
  `C12.assignStr_text/keep/extend/wf_longer` are about, for every value and every new text: a longer text
  moves the markers at the old end to the new end, a shorter one clips, the same length keeps the table.
-/
namespace C11c

theorem translated : Gen.assignStrOk = true := by decide

theorem assign_is_code (x : AStr) (t : Str) : Gen.assignStr x t = .ok (x.assignStr t) := by
  unfold Gen.assignStr AStr.assignStr
  dsimp only [AStr.len]
  simp only [gt_iff_lt, Int.ofNat_lt, decide_eq_true_eq, ObjL.has_nat, Fmts.contains]
  split
  · -- a longer text: the end point goes from the old end to the new end
    cases hg : x.fmts.get? x.s.length with
    | none => rfl
    | some p => simp only [ObjL.pop_of_get? hg, ObjL.set_nat, ObjL.bind_ok, Option.isSome, if_true]
  · split <;> rfl

/-- it never raises, and the outcomes the model cannot hold do not occur -/
theorem assign_total (x : AStr) (t : Str) : ∃ y, Gen.assignStr x t = .ok y := ⟨_, assign_is_code x t⟩

def exV : AStr :=
  { s := "ab".toList, fmts := [(0, { add := [⟨0, "1".toList⟩] }), (2, { rem := [⟨0, "1".toList⟩] })] }

example : Gen.assignStr exV "wxyz".toList =
    .ok { s := "wxyz".toList, fmts := [(0, { add := [⟨0, "1".toList⟩] }), (4, { rem := [⟨0, "1".toList⟩] })] } := by
  decide +kernel
example : Gen.assignStr exV "w".toList =
    .ok { s := "w".toList, fmts := [(0, { add := [⟨0, "1".toList⟩] }), (1, { rem := [⟨0, "1".toList⟩] })] } := by
  decide +kernel

end C11c

#print axioms C11c.assign_is_code
