import AnsiProofs.Lemmas.Find
import AnsiProofs.Lemmas.StrLit
/-
  Property C17 — `ansi_settings_at`, `settings_at`, `find_settings`.

  In the comments `n = x.len` and `[st, en) = [sliceIdx n start 0, sliceIdx n end_ n)` is the
  normalised range; `AStr.allIn want (act x i)` says that every wanted text occurs among the
  settings character `i` reports.  The only part of `WF x` that is used is
  `WF.sorted : SortedKeys x.fmts`.
-/

/-- the running example: "abcdef", bold ("1") on [1,4), red ("31") on [3,6) -/
def C17.ex : AStr :=
  { s := "abcdef".toList,
    fmts := [(1, { add := [⟨0, "1".toList⟩] }), (3, { add := [⟨1, "31".toList⟩] }),
             (4, { rem := [⟨0, "1".toList⟩] }), (6, { rem := [⟨1, "31".toList⟩] })] }

example : SortedKeys C17.ex.fmts := by
  unfold SortedKeys
  decide
example : C17.ex.len = 6 := by decide +kernel

/-! ### `ansi_settings_at` / `settings_at` -/

/-- outside `0..len-1` nothing is reported -/
theorem settings_at_oob (x : AStr) (i : Int) (h : i < 0 ∨ i ≥ x.len) : x.ansiSettingsAt i = [] := by
  unfold AStr.ansiSettingsAt
  have : ¬ (0 ≤ i ∧ i < (x.len : Int)) := by omega
  simp only [this, if_false]

example : C17.ex.ansiSettingsAt 6 = [] ∧ C17.ex.ansiSettingsAt (-1) = [] := by
  simp only [C17.ex, strLitToList]
  decide +kernel

/-- inside, exactly the settings the character reports -/
theorem settings_at_in (x : AStr) (i : Int) (h0 : 0 ≤ i) (h1 : i < x.len) :
    x.ansiSettingsAt i = act x i.toNat := by
  unfold AStr.ansiSettingsAt act
  simp only [h0, h1, and_self, if_true]

example : C17.ex.ansiSettingsAt 3 = [⟨0, "1".toList⟩, ⟨1, "31".toList⟩] := by
  simp only [C17.ex, strLitToList]
  decide +kernel

theorem settings_at_join (x : AStr) (i : Int) :
    x.settingsAt i = joinSep semi (texts (x.ansiSettingsAt i)) := rfl

example : C17.ex.settingsAt 3 = "1;31".toList := by
  simp only [C17.ex, strLitToList]
  decide +kernel

/-! ### degenerate calls of `find_settings` -/

/-- `end < start` after normalisation: `(None, None)` -/
theorem find_inverted (x : AStr) (want : List Str) (start end_ : Option Int) (rev : Bool)
    (h : sliceIdx x.len end_ x.len < sliceIdx x.len start 0) :
    x.findSettings want start end_ rev = (none, none) := by
  rw [findSettings_eq, if_pos h]

example : sliceIdx C17.ex.len (some 2) C17.ex.len < sliceIdx C17.ex.len (some 4) 0 := by decide +kernel
example : C17.ex.findSettings ["1".toList] (some 4) (some 2) false = (none, none) := by
  simp only [C17.ex, strLitToList]
  decide +kernel

/-- no settings: the normalised range itself -/
theorem find_empty (x : AStr) (want : List Str) (start end_ : Option Int) (rev : Bool)
    (h : sliceIdx x.len start 0 ≤ sliceIdx x.len end_ x.len) (hw : want = []) :
    x.findSettings want start end_ rev = (some (sliceIdx x.len start 0), some (sliceIdx x.len end_ x.len)) := by
  subst hw
  rw [findSettings_eq, if_neg (Nat.not_lt.mpr h), if_pos List.isEmpty_nil]

example : C17.ex.findSettings [] (some (-4)) (some 10) true = (some 2, some 6) := by
  simp only [C17.ex, strLitToList]
  decide +kernel

/-- so `en ≤ n` need not be assumed below -/
theorem find_range_le (x : AStr) (start end_ : Option Int) :
    sliceIdx x.len start 0 ≤ x.len ∧ sliceIdx x.len end_ x.len ≤ x.len :=
  ⟨sliceIdx_le _ _ _ (Nat.zero_le _), sliceIdx_le _ _ _ (Nat.le_refl _)⟩

/-! ### the search proper (`want ≠ []`, `st ≤ en`) -/

/-- `found_start is None` exactly when no position of the range has all the settings -/
theorem find_none_iff (x : AStr) (hs : SortedKeys x.fmts) (want : List Str) (hw : want ≠ [])
    (start end_ : Option Int) (rev : Bool)
    (hse : sliceIdx x.len start 0 ≤ sliceIdx x.len end_ x.len) :
    (x.findSettings want start end_ rev).1 = none ↔
      ∀ i, sliceIdx x.len start 0 ≤ i → i < sliceIdx x.len end_ x.len →
        AStr.allIn want (act x i) = false := by
  have hen := (find_range_le x start end_).2
  rw [findSettings_fst x want start end_ rev hse hw]
  constructor
  · exact findFs_none hs hse hen
  · intro h
    cases hfs : findFs x want (sliceIdx x.len start 0) (sliceIdx x.len end_ x.len) rev with
    | none => rfl
    | some i =>
      obtain ⟨h1, h2, h3⟩ := findFs_in_range hs hse hen hfs
      have := h i h1 h2
      unfold act at this
      rw [h3] at this
      cases this

/-- `found_start is None → found_end is None` (holds for every call) -/
theorem find_none_end (x : AStr) (want : List Str) (start end_ : Option Int) (rev : Bool)
    (h : (x.findSettings want start end_ rev).1 = none) :
    (x.findSettings want start end_ rev).2 = none :=
  findSettings_snd_none x want start end_ rev h

example : C17.ex.findSettings ["4".toList] none none false = (none, none) := by
  simp only [C17.ex, strLitToList]
  decide +kernel
example : C17.ex.findSettings ["1".toList, "31".toList] (some 4) none true = (none, none) := by
  simp only [C17.ex, strLitToList]
  decide +kernel

/-- `found_start` lies in the range and has all the settings (either search direction) -/
theorem find_in_range (x : AStr) (hs : SortedKeys x.fmts) (want : List Str) (hw : want ≠ [])
    (start end_ : Option Int) (rev : Bool)
    (hse : sliceIdx x.len start 0 ≤ sliceIdx x.len end_ x.len) (i : Nat)
    (h : (x.findSettings want start end_ rev).1 = some i) :
    sliceIdx x.len start 0 ≤ i ∧ i < sliceIdx x.len end_ x.len ∧ AStr.allIn want (act x i) = true := by
  rw [findSettings_fst x want start end_ rev hse hw] at h
  exact findFs_in_range hs hse (find_range_le x start end_).2 h

/-- forward search: `found_start` is the first position of the range having all the settings -/
theorem find_first (x : AStr) (hs : SortedKeys x.fmts) (want : List Str) (hw : want ≠ [])
    (start end_ : Option Int)
    (hse : sliceIdx x.len start 0 ≤ sliceIdx x.len end_ x.len) (i : Nat)
    (h : (x.findSettings want start end_ false).1 = some i) :
    ∀ j, sliceIdx x.len start 0 ≤ j → j < i → AStr.allIn want (act x j) = false := by
  rw [findSettings_fst x want start end_ false hse hw] at h
  exact findFs_first hs hse (find_range_le x start end_).2 h

/-- every position from `found_start` up to `found_end` (the range end when `None`) has all of them -/
theorem find_run (x : AStr) (hs : SortedKeys x.fmts) (want : List Str) (hw : want ≠ [])
    (start end_ : Option Int) (rev : Bool)
    (hse : sliceIdx x.len start 0 ≤ sliceIdx x.len end_ x.len) (i : Nat)
    (h : (x.findSettings want start end_ rev).1 = some i) :
    ∀ j, i ≤ j → j < sliceIdx x.len end_ x.len →
      (∀ p, (x.findSettings want start end_ rev).2 = some p → j < p) →
      AStr.allIn want (act x j) = true := by
  obtain ⟨h1, _, h3⟩ := find_in_range x hs want hw start end_ rev hse i h
  rw [findSettings_snd x want start end_ rev hse hw h]
  exact findFe_run hs h1 h3

/-- `found_end` is a later position, at most the range end, where a wanted setting is missing;
    by `find_run` it is the first such.  (The implementation can report `p = en`, the position just
    past the range, hence `p ≤ en` and `active` instead of `act` restricted to the range.) -/
theorem find_end (x : AStr) (hs : SortedKeys x.fmts) (want : List Str) (hw : want ≠ [])
    (start end_ : Option Int) (rev : Bool)
    (hse : sliceIdx x.len start 0 ≤ sliceIdx x.len end_ x.len) (i p : Nat)
    (h : (x.findSettings want start end_ rev).1 = some i)
    (hp : (x.findSettings want start end_ rev).2 = some p) :
    i < p ∧ p ≤ sliceIdx x.len end_ x.len ∧ AStr.allIn want (active x.fmts p) = false := by
  rw [findSettings_snd x want start end_ rev hse hw h] at hp
  obtain ⟨h1, h2, h3, _⟩ := findFe_some hs hp
  exact ⟨h1, h2, h3⟩

/-- `found_end` is the *first* later position lacking a setting -/
theorem find_end_first (x : AStr) (hs : SortedKeys x.fmts) (want : List Str) (hw : want ≠ [])
    (start end_ : Option Int) (rev : Bool)
    (hse : sliceIdx x.len start 0 ≤ sliceIdx x.len end_ x.len) (i p : Nat)
    (h : (x.findSettings want start end_ rev).1 = some i)
    (hp : (x.findSettings want start end_ rev).2 = some p) :
    ∀ j, i ≤ j → j < p → AStr.allIn want (act x j) = true := by
  intro j h1 h2
  have hpe := (find_end x hs want hw start end_ rev hse i p h hp).2.1
  refine find_run x hs want hw start end_ rev hse i h j h1 (by omega) ?_
  intro p' hp'
  rw [hp] at hp'
  cases hp'
  exact h2

/-- `found_end is None`: the settings last to the end of the range -/
theorem find_end_none (x : AStr) (hs : SortedKeys x.fmts) (want : List Str) (hw : want ≠ [])
    (start end_ : Option Int) (rev : Bool)
    (hse : sliceIdx x.len start 0 ≤ sliceIdx x.len end_ x.len) (i : Nat)
    (h : (x.findSettings want start end_ rev).1 = some i)
    (hp : (x.findSettings want start end_ rev).2 = none) :
    ∀ j, i ≤ j → j < sliceIdx x.len end_ x.len → AStr.allIn want (act x j) = true := by
  intro j h1 h2
  refine find_run x hs want hw start end_ rev hse i h j h1 h2 ?_
  intro p hp'
  rw [hp] at hp'
  cases hp'

/-! ### reverse search -/

/-- reverse search landing on a change point: no later change point of the range has all of them -/
theorem find_reverse_last (x : AStr) (hs : SortedKeys x.fmts) (want : List Str) (hw : want ≠ [])
    (start end_ : Option Int)
    (hse : sliceIdx x.len start 0 ≤ sliceIdx x.len end_ x.len) (i : Nat)
    (h : (x.findSettings want start end_ true).1 = some i) (hi : i ∈ x.fmts.keys) :
    ∀ k ∈ x.fmts.keys, i < k → k < sliceIdx x.len end_ x.len → AStr.allIn want (act x k) = false := by
  rw [findSettings_fst x want start end_ true hse hw] at h
  exact findFs_rev_last hs hse (find_range_le x start end_).2 h hi

/-! ### non-vacuity on the running example -/

-- both wanted, forward and backward: first at 3 (a key), ends at 4
example : C17.ex.findSettings ["1".toList, "31".toList] none none false = (some 3, some 4) := by
  simp only [C17.ex, strLitToList]
  decide +kernel
example : C17.ex.findSettings ["31".toList, "1".toList] none none true = (some 3, some 4) := by
  simp only [C17.ex, strLitToList]
  decide +kernel
-- start between keys: position `st = 2` itself is found
example : C17.ex.findSettings ["1".toList] (some 2) none false = (some 2, some 4) := by
  simp only [C17.ex, strLitToList]
  decide +kernel
-- reverse with `st` between keys still reports `st` (the `start` check comes first)
example : C17.ex.findSettings ["1".toList] (some 2) none true = (some 2, some 4) := by
  simp only [C17.ex, strLitToList]
  decide +kernel
-- `found_end = en` (just past the range): red stops exactly at 6 = en
example : C17.ex.findSettings ["31".toList] none none false = (some 3, some 6) := by
  simp only [C17.ex, strLitToList]
  decide +kernel
-- `found_end = None`: red lasts to the end of the range [0,5)
example : C17.ex.findSettings ["31".toList] none (some 5) false = (some 3, none) := by
  simp only [C17.ex, strLitToList]
  decide +kernel
-- reverse search lands on a change point (3 ∈ keys), hypotheses of `find_reverse_last`
example : C17.ex.findSettings ["1".toList] none none true = (some 3, some 4) ∧ 3 ∈ C17.ex.fmts.keys := by
  simp only [C17.ex, strLitToList]
  decide +kernel
-- reverse search really differs from forward search: red is first complete at 3, last change point with it is 4
example : C17.ex.findSettings ["31".toList] none none true = (some 4, some 6) := by
  simp only [C17.ex, strLitToList]
  decide +kernel
example : sliceIdx C17.ex.len none 0 ≤ sliceIdx C17.ex.len none C17.ex.len := by decide +kernel
example : (["1".toList, "31".toList] : List Str) ≠ [] := by decide +kernel

#print axioms settings_at_oob
#print axioms settings_at_in
#print axioms settings_at_join
#print axioms find_inverted
#print axioms find_empty
#print axioms find_range_le
#print axioms find_none_iff
#print axioms find_none_end
#print axioms find_in_range
#print axioms find_first
#print axioms find_run
#print axioms find_end
#print axioms find_end_first
#print axioms find_end_none
#print axioms find_reverse_last
