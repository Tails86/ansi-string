import AnsiProofs.Props.C05c
import AnsiProofs.Lemmas.Apply
import AnsiProofs.Lemmas.Obj
import AnsiModel.Generated.Methods.ApplyCore
/-
  Property C06, part d — the statements of `AnsiString.apply_formatting` after the call of
  `_scrub_ansi_settings` (`Gen.applyCore`) and `_AnsiSettingPoint.insert_settings`
  (`Gen.insertSettings`), translated statement by statement (`AnsiModel/Generated/Methods/`), compute
  what the hand-written model (`AStr.applyFormatting`, `AnsiModel/Format.lean`) says; the outcomes
  `Exc.key` / `Exc.outside` never happen.

  `namespace L` holds what does not mention `Gen.*`; the theorems over `Gen.*` are `unfold`, `cases` on
  `N.isEmpty` and `topmost`, and one `simp only` with those lemmas and the ones of `Lemmas/Obj.lean`.
  Some of them serve spellings the source does not use (`len(l) == 0` for `not l`,
  `if c: pass else: …`, `if find(...) >= 0: continue`), so that an equivalent rewrite still checks.
-/

namespace C06d
namespace L
open ObjL

/-- `foldlM_filter` written with `continue`: `if c: continue` before the append -/
theorem foldlM_filter_not {ε α : Type} (c : α → Bool) (l : List α) (acc : List α) :
    List.foldlM (m := Except ε) (fun acc a => if c a = true then .ok acc else .ok (acc ++ [a])) acc l =
      .ok (acc ++ l.filter (fun a => !c a)) := by
  rw [← foldlM_filter]
  congr 1
  funext acc a
  cases c a <;> rfl

/-! ## Truth value of a list written with `len` -/

theorem length_eq_zero_dec {α : Type} (l : List α) : decide ((l.length : Int) = 0) = l.isEmpty := by
  cases l <;> simp <;> omega

theorem length_ne_zero_dec {α : Type} (l : List α) : decide ((l.length : Int) ≠ 0) = !l.isEmpty := by
  cases l <;> simp <;> omega

theorem length_pos_dec {α : Type} (l : List α) : decide ((l.length : Int) > 0) = !l.isEmpty := by
  cases l <;> simp <;> omega

/-- `if k not in d: d[k] = Point()` -/
theorem ensure_eq (f : Fmts) (k : Nat) :
    (if f.contains k = true then f else f.set k {}) = f.ensure k := rfl

theorem ansiSettingsAt_nat (s : Str) (f : Fmts) (k : Nat) (h : k < s.length) :
    AStr.ansiSettingsAt { s := s, fmts := f } (k : Int) = active f k :=
  _root_.ansiSettingsAt_nat ⟨s, f⟩ k h

theorem find_lt_zero (s : Setting) (l : List Setting) :
    decide (Gen.findSettingReference s l < 0) = !hasId l s.id := by
  rw [← C05c.find_reference_is_code]
  by_cases h : Gen.findSettingReference s l < 0
  · have : ¬ Gen.findSettingReference s l ≥ 0 := by omega
    simp [h, this]
  · have : Gen.findSettingReference s l ≥ 0 := by omega
    simp [h, this]

theorem find_ge_zero (s : Setting) (l : List Setting) :
    decide (Gen.findSettingReference s l ≥ 0) = hasId l s.id := C05c.find_reference_is_code s l

end L

open L ObjL

/-- `_AnsiSettingPoint.insert_settings`, as translated, is what the model of `apply_formatting` inlines -/
theorem insert_is_code (p : Point) (apply : Bool) (L : List Setting) (top : Bool) :
    Gen.insertSettings p apply L top =
      if apply then { p with add := if top then p.add ++ L else L ++ p.add }
      else { p with rem := if top then p.rem ++ L else L ++ p.rem } := by
  unfold Gen.insertSettings
  cases apply <;> cases top <;> rfl

/-- none fell outside the translator's fragment -/
theorem translated : Gen.insertSettingsOk = true ∧ Gen.applyCoreOk = true := by decide

theorem applyCore_empty (x : AStr) (st en : Int) (top : Bool) : Gen.applyCore x [] st en top = .ok x := by
  unfold Gen.applyCore
  simp

set_option linter.unusedSimpArgs false in
/-- `hgo`: the guard at the top of `apply_formatting` (C06c) lets the statements run.  No hypothesis on
    the table: `get?` after `ensure`/`set` at the same key follows the path `set` took, and `modify`
    does not change which keys `get?` sees. -/
theorem applyCore_eq (x : AStr) (N : List Setting) (s e : Option Int) (top : Bool)
    (hgo : ¬ (sliceIdx x.len s 0 ≥ x.len ∨ sliceIdx x.len e x.len ≤ sliceIdx x.len s 0)) :
    Gen.applyCore x N (sliceIdx x.len s 0 : Nat) (sliceIdx x.len e x.len : Nat) top =
      .ok (x.applyFormatting N s e top) := by
  by_cases hN : N = []
  · rw [hN, applyCore_empty, applyFormatting_nil]
  replace hN : N.isEmpty = false := by rwa [← Bool.not_eq_true, List.isEmpty_iff]
  unfold AStr.applyFormatting
  simp only [hgo, if_false]
  generalize sliceIdx x.len s 0 = st at *
  generalize sliceIdx x.len e x.len = en at *
  have hlt : st < x.s.length := by unfold AStr.len at hgo; omega
  obtain ⟨xs, xf⟩ := x
  simp only at hlt
  unfold Gen.applyCore
  simp (maxDischargeDepth := 4) only [↓reduceIte, insert_is_code, has_nat, set_nat, get_nat, modifyAt_nat,
    L.ansiSettingsAt_nat, find_lt_zero, find_ge_zero, foldlM_filter, foldlM_filter_not, Fmts.modify_modify,
    sliceAssign_nat, ensure_eq, bind_ok, ite_ok (α := AStr), ite_bnot (α := AStr), ite_bnot (α := Fmts), ite_astr,
    Fmts.contains_ensure_self, Fmts.contains_modify, hlt, hN,
    length_eq_zero_dec, length_ne_zero_dec, length_pos_dec,
    List.nil_append, Bool.not_true, Bool.not_false, Bool.false_eq_true, if_false, if_true]

/-- `applyCore_eq` stated for the tables the library builds; `_hs` is not needed -/
theorem applyCore_is_code (x : AStr) (_hs : SortedKeys x.fmts) (N : List Setting) (s e : Option Int)
    (top : Bool)
    (hgo : ¬ (sliceIdx x.len s 0 ≥ x.len ∨ sliceIdx x.len e x.len ≤ sliceIdx x.len s 0)) :
    Gen.applyCore x N (sliceIdx x.len s 0 : Nat) (sliceIdx x.len e x.len : Nat) top =
      .ok (x.applyFormatting N s e top) :=
  applyCore_eq x N s e top hgo

/-- no `KeyError`, nothing outside the model's representation, no Python exception -/
theorem applyCore_never_outside (x : AStr) (hs : SortedKeys x.fmts) (N : List Setting) (s e : Option Int)
    (top : Bool)
    (hgo : ¬ (sliceIdx x.len s 0 ≥ x.len ∨ sliceIdx x.len e x.len ≤ sliceIdx x.len s 0)) (err : Exc) :
    Gen.applyCore x N (sliceIdx x.len s 0 : Nat) (sliceIdx x.len e x.len : Nat) top ≠ .error err := by
  rw [applyCore_is_code x hs N s e top hgo]
  intro h; cases h

/-! ## Non-vacuity -/

def x0 : AStr :=
  { s := "abcd".toList, fmts := [(0, { add := [⟨0, "31".toList⟩] }), (4, { rem := [⟨0, "31".toList⟩] })] }

def N0 : List Setting := [⟨7, "1".toList⟩]

example : SortedKeys x0.fmts ∧
    ¬ (sliceIdx x0.len (some 1) 0 ≥ x0.len ∨ sliceIdx x0.len (some 3) x0.len ≤ sliceIdx x0.len (some 1) 0) := by
  unfold SortedKeys
  decide +kernel

example : Gen.applyCore x0 N0 1 3 true = .ok (x0.applyFormatting N0 (some 1) (some 3) true) :=
  applyCore_eq x0 N0 (some 1) (some 3) true (by decide)

example : Gen.applyCore x0 N0 1 3 false = .ok (x0.applyFormatting N0 (some 1) (some 3) false) :=
  applyCore_eq x0 N0 (some 1) (some 3) false (by decide)

/-- the value itself: below the top the active setting is stopped and restarted behind the new one -/
example : Gen.applyCore x0 N0 1 3 false = .ok
    { s := "abcd".toList,
      fmts := [(0, { add := [⟨0, "31".toList⟩] }),
               (1, { add := [⟨7, "1".toList⟩, ⟨0, "31".toList⟩], rem := [⟨0, "31".toList⟩] }),
               (3, { rem := [⟨7, "1".toList⟩] }),
               (4, { rem := [⟨0, "31".toList⟩] })] } := by
  decide +kernel

example : Gen.applyCore x0 N0 1 3 true = .ok
    { s := "abcd".toList,
      fmts := [(0, { add := [⟨0, "31".toList⟩] }),
               (1, { add := [⟨7, "1".toList⟩] }),
               (3, { rem := [⟨7, "1".toList⟩] }),
               (4, { rem := [⟨0, "31".toList⟩] })] } := by
  decide +kernel

/-- negative slice bounds, end at the very end (key 4 exists already) -/
example : Gen.applyCore x0 N0 (sliceIdx x0.len (some (-3)) 0 : Nat) (sliceIdx x0.len none x0.len : Nat) false =
    .ok (x0.applyFormatting N0 (some (-3)) none false) :=
  applyCore_eq x0 N0 (some (-3)) none false (by decide)

end C06d

#print axioms C06d.insert_is_code
#print axioms C06d.applyCore_eq
#print axioms C06d.applyCore_is_code
#print axioms C06d.applyCore_never_outside
#print axioms C06d.applyCore_empty
