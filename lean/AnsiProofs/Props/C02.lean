import AnsiProofs.Lemmas.ParseText
/-
  Property C02, TEXT half — "Constructing an AnsiString/AnsiStr from text containing SGR escape
  sequences yields base_str equal to the input with exactly those sequences removed (every other
  character, including non-SGR control sequences, kept verbatim) …  Text without escape sequences
  is kept unchanged and unformatted."   (The style half — "each character reports the effective
  style a conforming terminal would give it" — is `C02b.lean`; `sgr_positions`, `run_eq_sgrs` and
  `setAnsi_eq_fold_sgrs` below are the interface it needs.)

  The specification is `Term.stripSgr` of `AnsiSpec/Terminal.lean` (what an independent SGR terminal
  displays): the input with every `ESC [ p* m` removed (`p` = any character outside 0x40..0x7E),
  everything else kept — `ESC [ p* <other final byte>`, an unterminated `ESC [ p*` at the end, a
  lone `ESC`.  Everything is proved for ALL input strings, no length bound.

  Terminal-side definitions used in the statements (`ParseTextL.C02Spec` in `Lemmas/ParseText.lean`;
  they recurse over the input only, mirroring `Term.runAux`, and never mention the tokenizer):
    `sgrs r`       — the SGR sequences of `r` in input order, each as
                     (number of characters displayed before it, its parameter string)
    `feedSeqs t l` — terminal state after feeding the parameter strings `l` to state `t`
-/

namespace C02
open ParseTextL ParseTextL.C02Spec

/-! ## 1 — the base text is what a terminal displays -/

/-- `set_ansi_str(r)`: the base text is `r` with exactly the SGR sequences removed -/
theorem parse_text (r : Str) (nid : Nat) : (AStr.setAnsi r nid).1.s = Term.stripSgr r := by
  rw [setAnsi_eq_loop]
  simp only
  rw [loop_s, tokenize_text_stripSgr]

/-- the running example of the property: SGR removed, `ESC[2J` and the unterminated `ESC[3` kept -/
example : Term.stripSgr "a\x1b[1mb\x1b[2Jc\x1b[3".toList = "ab\x1b[2Jc\x1b[3".toList := by
  simp only [strLitToList]
  decide +kernel
example : (AStr.setAnsi "a\x1b[1mb\x1b[2Jc\x1b[3".toList 0).1.s = "ab\x1b[2Jc\x1b[3".toList := by
  simp only [strLitToList]
  decide +kernel
/-- several sequences at one place, a reset, parameters that are not numbers, a lone ESC -/
example : Term.stripSgr "\x1b[1;31m\x1b[mx\x1b[?;!m\x1by\x1b[0m".toList = "x\x1by".toList := by
  simp only [strLitToList]
  decide +kernel

/-! ## 2 — text without ESC is kept unchanged and unformatted -/

theorem parse_plain (r : Str) (nid : Nat) (h : '\x1b' ∉ r) :
    AStr.setAnsi r nid = ({ s := r, fmts := [] }, nid) := by
  rw [setAnsi_eq_loop, tokenize_noEsc false _ r h]
  rfl

example : '\x1b' ∉ "plain [1m text".toList := by
  simp only [strLitToList]
  decide +kernel

theorem stripSgr_plain (r : Str) (h : '\x1b' ∉ r) : Term.stripSgr r = r := by
  have := parse_text r 0
  rw [parse_plain r 0 h] at this
  exact this.symm

/-! ## 3 — the constructor with settings -/

/-- `AnsiString(r, *settings)`: the settings are applied afterwards and do not touch the text -/
theorem parse_text_ofStr (r : Str) (settings : List SArg) (nid : Nat) (y : AStr)
    (h : AStr.ofStr r settings nid = .ok y) : y.s = Term.stripSgr r := by
  rcases ofStr_cases h with rfl | ⟨ts, rfl⟩
  · exact parse_text r nid
  · rw [apply_text]
    exact parse_text r nid

example : (AStr.ofStr "a\x1b[1mb".toList [.int 31] 7).toOption = some
    { s := "ab".toList
      fmts := [(0, { add := [⟨8, "31".toList⟩] }), (1, { add := [⟨7, "1".toList⟩] }),
               (2, { rem := [⟨7, "1".toList⟩, ⟨8, "31".toList⟩] })] } := by
  simp only [strLitToList]
  decide +kernel

/-! ## 4 — stripping is NOT idempotent (removing a sequence can create a new one)

    `theorem stripSgr_idem : Term.stripSgr (Term.stripSgr r) = Term.stripSgr r` is FALSE:
    in `ESC ESC[1m [1m x` the inner `ESC[1m` is removed and the lone `ESC` meets `[1m`. -/

example : ¬ (∀ r, Term.stripSgr (Term.stripSgr r) = Term.stripSgr r) := by
  intro h
  have := h "\x1b\x1b[1m[1mx".toList
  simp only [strLitToList] at this
  revert this
  decide +kernel

example : Term.stripSgr "\x1b\x1b[1m[1mx".toList = "\x1b[1mx".toList ∧
    Term.stripSgr "\x1b[1mx".toList = "x".toList := by
  simp only [strLitToList]
  decide +kernel

/-- the true variant: stripping is idempotent when nothing is left to strip, in particular when
    the result contains no ESC -/
theorem stripSgr_idem_partial (r : Str) (h : '\x1b' ∉ Term.stripSgr r) :
    Term.stripSgr (Term.stripSgr r) = Term.stripSgr r := stripSgr_plain _ h

example : '\x1b' ∉ Term.stripSgr "a\x1b[1mb\x1b[0m".toList := by
  simp only [strLitToList]
  decide +kernel

/-! ## 5 — positions: the recorded keys are offsets into the stripped text -/

theorem sgrTerminator_is_m : Gen.sgrTerminator = ['m'] := sgr_eq

theorem tokenize_sgr_keys (r : Str) :
    (∀ kl ∈ (tokenize r false (some Gen.sgrTerminator)).seqs,
      kl.1 ≤ (Term.stripSgr r).length ∧ kl.2 ≠ [] ∧
      ∀ c ∈ kl.2, c.terminator = ['m'] ∧ ∀ ch ∈ c.sequence, Term.isFinal ch = false) ∧
    ((tokenize r false (some Gen.sgrTerminator)).seqs.map (·.1)).Pairwise (· < ·) := by
  obtain ⟨h1, h2⟩ := tokenize_wellformed r false (some Gen.sgrTerminator)
  refine ⟨fun kl hkl => ?_, h2⟩
  obtain ⟨a, b, c⟩ := h1 kl hkl
  rw [tokenize_text_stripSgr] at a
  exact ⟨a, b, fun cs hcs => ⟨tokenize_terminator r kl hkl cs hcs, (c cs hcs).1⟩⟩

/-- The tokenizer records exactly the SGR sequences the terminal meets: the same parameter
    strings, in the same order, at the same offsets of the displayed text. -/
theorem sgr_positions (r : Str) :
    (tokenize r false (some Gen.sgrTerminator)).seqs.flatMap
        (fun kv => kv.2.map (fun c => (kv.1, c.sequence))) = sgrs r :=
  tokenize_flat r

theorem sgrs_sorted (r : Str) : (sgrs r).Pairwise (fun a b => a.1 ≤ b.1) := sgrAux_sorted _ _ _

theorem sgrs_bound (r : Str) : ∀ ks ∈ sgrs r, ks.1 ≤ (Term.stripSgr r).length := by
  intro ks hks
  have := (sgrAux_bounds _ _ _ ks hks).2
  rwa [Nat.zero_add, ← stripSgr_eq_sm] at this

/-- What the terminal does, through `sgrs`. -/
theorem run_eq_sgrs (t0 : Term.TState) (r : Str) :
    Term.run t0 r =
      ((Term.stripSgr r).zipIdx.map (fun ci =>
          (ci.1, feedSeqs t0 (((sgrs r).filter (fun ks => ks.1 ≤ ci.2)).map (·.2)))),
       feedSeqs t0 ((sgrs r).map (·.2))) :=
  run_eq t0 r

/-- What the library does, through `sgrs`: `set_ansi_str` is one left fold of its loop body over
    the very same list, starting from the stripped text without formatting. -/
theorem setAnsi_eq_fold_sgrs (r : Str) (nid : Nat) :
    AStr.setAnsi r nid =
      (((sgrs r).foldl (fun acc ks => AStr.setAnsiStep acc ks.1 ⟨ks.2, ['m']⟩)
          ({ s := Term.stripSgr r, fmts := [] }, [], nid)).1,
       ((sgrs r).foldl (fun acc ks => AStr.setAnsiStep acc ks.1 ⟨ks.2, ['m']⟩)
          ({ s := Term.stripSgr r, fmts := [] }, [], nid)).2.2) := by
  rw [setAnsi_eq_loop, loop_eq_fold, sgr_positions, tokenize_text_stripSgr]

/-- two sequences at offset 7 (`3;4` and the empty reset), `ESC[2J` counted as 4 displayed
    characters, the unterminated `ESC[5` not listed -/
example : sgrs "a\x1b[1mb\x1b[2Jc\x1b[3;4m\x1b[mx\x1b[5".toList =
    [(1, "1".toList), (7, "3;4".toList), (7, [])] := by
  simp only [strLitToList]
  decide +kernel
example : (tokenize "a\x1b[1mb\x1b[2Jc\x1b[3;4m\x1b[mx\x1b[5".toList false (some Gen.sgrTerminator)).seqs =
    [(1, [⟨"1".toList, ['m']⟩]), (7, [⟨"3;4".toList, ['m']⟩, ⟨[], ['m']⟩])] := by
  simp only [strLitToList]
  decide +kernel
example : Term.stripSgr "a\x1b[1mb\x1b[2Jc\x1b[3;4m\x1b[mx\x1b[5".toList = "ab\x1b[2Jcx\x1b[5".toList := by
  simp only [strLitToList]
  decide +kernel

/-! ## 6 — the history invariant holds for every parsed value -/

/-- relative to the two facts about `remove_formatting` (`RemoveKeepsWF`: it keeps `WF`;
    `RemoveNoNewSettings`: on a `WF` value its result mentions only setting objects that were there
    before) -/
theorem setAnsi_wf_of (hRemoveKeepsWF : RemoveKeepsWF) (hRemoveNoNewSettings : RemoveNoNewSettings)
    (r : Str) (nid : Nat) :
    WF (AStr.setAnsi r nid).1 ∧ FreshFrom (AStr.setAnsi r nid).1 (AStr.setAnsi r nid).2 := by
  rw [setAnsi_eq_loop]
  exact loop_wf_fresh hRemoveKeepsWF hRemoveNoNewSettings _ _ ⟨wf_plain _, freshFrom_plain _ _⟩

/-- both hypotheses hold (C07: `remove_wf`, `Remove.new_settings`) -/
example : RemoveKeepsWF ∧ RemoveNoNewSettings := ⟨removeKeepsWF, removeNoNewSettings⟩

theorem setAnsi_wf (r : Str) (nid : Nat) : WF (AStr.setAnsi r nid).1 :=
  (setAnsi_wf_of removeKeepsWF removeNoNewSettings r nid).1

theorem setAnsi_fresh (r : Str) (nid : Nat) :
    FreshFrom (AStr.setAnsi r nid).1 (AStr.setAnsi r nid).2 :=
  (setAnsi_wf_of removeKeepsWF removeNoNewSettings r nid).2

/-- `AnsiString(r, *settings)` -/
theorem ofStr_wf (r : Str) (settings : List SArg) (nid : Nat) (y : AStr)
    (h : AStr.ofStr r settings nid = .ok y) : WF y := by
  rcases ofStr_cases h with rfl | ⟨ts, rfl⟩
  · exact setAnsi_wf r nid
  · exact apply_wf _ _ _ _ _ (setAnsi_wf r nid) (freshSettings_fresh _ _ _ (setAnsi_fresh r nid))

/-- a value on which the loop both applies and removes (bold, then red on top, then reset) -/
example : (AStr.setAnsi "a\x1b[1mb\x1b[31mc\x1b[0md".toList 0).1.fmts =
    [(1, { add := [⟨0, "1".toList⟩] }), (2, { add := [⟨1, "31".toList⟩] }),
     (3, { rem := [⟨0, "1".toList⟩, ⟨1, "31".toList⟩] })] := by
  simp only [strLitToList]
  decide +kernel

end C02

#print axioms C02.parse_text
#print axioms C02.parse_plain
#print axioms C02.stripSgr_plain
#print axioms C02.parse_text_ofStr
#print axioms C02.stripSgr_idem_partial
#print axioms C02.tokenize_sgr_keys
#print axioms C02.sgr_positions
#print axioms C02.sgrs_sorted
#print axioms C02.sgrs_bound
#print axioms C02.run_eq_sgrs
#print axioms C02.setAnsi_eq_fold_sgrs
#print axioms C02.setAnsi_wf_of
#print axioms C02.setAnsi_wf
#print axioms C02.setAnsi_fresh
#print axioms C02.ofStr_wf
