import AnsiProofs.Props.C01
import AnsiProofs.Props.C03
import AnsiProofs.Props.C04
import AnsiProofs.Props.C05b
import AnsiProofs.Props.C09
/-
  C09 (continued) — closing the loop between "for every value with `WF`" and "for every value
  reachable through the public API".

  The per-operation theorems (C01, C03, C04, C05, …) assume the history invariant `WF`; `C09.wf_reachable`
  shows that every value produced by any finite sequence of operations of the `Store` language has it.
  The corollaries below state a few of the properties in exactly the form the property texts use:
  quantified over *reachable* values.
-/

namespace C09b

open C09

def Reachable (x : AStr) : Prop := ∃ ops v, (Store.run {} ops).get? v = some x

theorem reachable_wf {x : AStr} (h : Reachable x) : WF x := by
  obtain ⟨ops, v, hv⟩ := h
  exact C09.reachable_wf ops v x hv

/-- C01 for reachable values: every rendering of a reachable value whose settings are parameter
    groups displays its text with the reported per-character styles -/
theorem reachable_render_display {x : AStr} (h : Reachable x) (hg : GroupSettings x) (hne : NoEsc x.s)
    (o rs re : Bool) (t0 : Term.TState) (h0 : rs = true ∨ t0 = Term.default) :
    (Term.run t0 (Render.render x o rs re)).1 = den x :=
  C01.render_display x o rs re t0 (reachable_wf h) hg hne h0

/-- C03 for reachable values: `AnsiString(str(s))` displays like `s` -/
theorem reachable_roundtrip_display {x : AStr} (h : Reachable x) (hg : GroupSettings x) (hne : NoEsc x.s)
    (nid : Nat) : den (AStr.setAnsi x.str nid).1 = den x :=
  C03.roundtrip_display x nid (reachable_wf h) hg hne

/-- C04 for reachable values: a slice reports, character by character, the settings of the source -/
theorem reachable_slice_settings {x : AStr} (h : Reachable x) (a b : Option Int) {k : Nat}
    (hk : k < sliceIdx x.len b x.len - sliceIdx x.len a 0) :
    act (x.getSlice a b) k = act x (sliceIdx x.len a 0 + k) :=
  C04.getSlice_settings x (reachable_wf h) a b hk

/-- C05 for reachable values: `s[:k] + s[k:]` displays like `s` -/
theorem reachable_split_concat_display {x : AStr} (h : Reachable x) {k : Nat} (hk : k ≤ x.len) :
    den ((x.getRange 0 k).iadd (x.getRange k x.len)) = den x :=
  C05b.split_concat_display x (reachable_wf h) hk

/-- C09: no reachable value fails the library's own self-check -/
theorem reachable_no_assert {x : AStr} (h : Reachable x) : replayOk x.fmts = true :=
  (reachable_wf h).ok

/-- non-vacuity: a value produced by a three-step script is `Reachable` -/
example : Reachable ((Store.run {} [.new 1 "ab".toList [.int 31], .slice 2 1 (some 1) none, .iadd 2 1]).get? 2 |>.getD {}) := by
  refine ⟨[.new 1 "ab".toList [.int 31], .slice 2 1 (some 1) none, .iadd 2 1], 2, ?_⟩
  decide +kernel

end C09b
