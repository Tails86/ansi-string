import AnsiModel.Parse
import AnsiModel.Obj
import AnsiModel.Generated.Methods.ParsePrims
import AnsiModel.Generated.Methods.SettingsToDict
import AnsiModel.Generated.Methods.ParseGraphicSequence
import AnsiProofs.Lemmas.StrLit
import AnsiProofs.Lemmas.Effects
import AnsiProofs.Lemmas.PyParse

/-
  Property C18, part b — the *generated* (statement-by-statement translated, `harness/pyparse.py`)
  `settings_to_dict` and `parse_graphic_sequence` of ansi_parsing.py compute exactly what the hand-written
  model says (`settingsToDict`, `pgsStr`, `pgsList` of `AnsiModel/Parse.lean`), and none of the places where
  the Python can raise does: `items[idx]`, `items[idx] = …` (IndexError), `fn.setup_seq[0]` (IndexError),
  `AnsiSetting(…)` on an empty text (ValueError), `sequence.split(ansi_sep)` (ValueError on an empty
  separator), `del settings_dict[effect]` (KeyError).

  `parse_graphic_sequence` is dynamically typed on `sequence`: the translator emits one function per member of
  the annotation `Union[str, List[Union[int, str]]]` (`Gen.parseGraphicSequenceStr`, `…List`), the test
  `isinstance(sequence, str)` being decided by the type; items that are `int` or `str` at run time are the
  model's `Code`.

  `namespace L` does not mention the generated functions.  Each of the three loops of
  `parse_graphic_sequence` gets a pure round (`prep`, `fnRound`, `cstep`), a `…Spec` saying what a translated
  round has to do, whatever it looks like, and a `fold_…` lemma: rounds that meet the spec compute the fold of
  the pure round.  In the main loop the code overwrites `left_in_set` before the `continue`, which the model
  does not do; `cloop` and the model's `pgsLoop` therefore agree only up to `Sim` (states that differ at most
  in a `left_in_set` nobody reads again), which is enough for `current_set` and `output` (`finish_cloop`).
  In the theorems over `Gen.*` each loop is rewritten by its `fold_…` lemma and the spec of the round is
  discharged for the generated lambda.
-/

-- some simp arguments are there for other shapes the source may take (`1 == len(x)` for `len(x) == 1`, …)
set_option linter.unusedSimpArgs false

namespace C18b
namespace L

/-! ### primitives -/

theorem bindOk {α β : Type} (a : α) (f : α → Except Exc β) : (Except.ok a : Except Exc α).bind f = f a := rfl

/-- other ways of writing `not l` / `l` as a condition -/
theorem len_beq_zero {α : Type} (l : List α) : ((l.length : Int) == 0) = l.isEmpty := by
  cases l with
  | nil => rfl
  | cons a t =>
    have h : ¬ (((a :: t).length : Int) = 0) := by simp only [List.length_cons]; omega
    simp only [List.isEmpty_cons, beq_eq_false_iff_ne, ne_eq, h, not_false_eq_true]

theorem len_gt_zero {α : Type} (l : List α) : decide ((l.length : Int) > 0) = !l.isEmpty := by
  cases l with
  | nil => rfl
  | cons a t =>
    have h : ((a :: t).length : Int) > 0 := by simp only [List.length_cons]; omega
    simp only [h, decide_true, List.isEmpty_cons, Bool.not_false]

/-! ### the texts of new settings are not empty -/

theorem intStr_ne_nil (i : Int) : Py.intStr i ≠ [] := by
  unfold Py.intStr
  split
  · exact List.cons_ne_nil _ _
  · exact (Eff.natStr_spec _).1

theorem joinSep_ne_nil (sep a : Str) (l : List Str) (ha : a ≠ []) : joinSep sep (a :: l) ≠ [] := by
  cases l with
  | nil => exact ha
  | cons b l => simp [joinSep, ha]

theorem ansiSep_semi : Gen.ansiSep = semi := by decide

/-- `AnsiSetting(<non-empty list of ints>)`: no ValueError -/
theorem settingOfCodes_ints (l : List Int) (h : l ≠ []) :
    PyParse.settingOfCodes (l.map Code.int) = .ok (joinInts l) := by
  unfold PyParse.settingOfCodes PyParse.mkSetting joinInts
  rw [ansiSep_semi, List.map_map]
  have hm : (Code.toStr ∘ Code.int) = Py.intStr := rfl
  rw [hm]
  cases l with
  | nil => exact absurd rfl h
  | cons a l =>
    have := joinSep_ne_nil semi (Py.intStr a) (l.map Py.intStr) (intStr_ne_nil a)
    simp only [List.map_cons]
    cases hj : joinSep semi (Py.intStr a :: l.map Py.intStr) with
    | nil => exact absurd hj this
    | cons c t => rfl

theorem settingOfCodes_snoc (l : List Int) (v : Int) :
    PyParse.settingOfCodes (l.map Code.int ++ [Code.int v]) = .ok (joinInts (l ++ [v])) := by
  have := settingOfCodes_ints (l ++ [v]) (by simp)
  simpa using this

theorem settingOfStr_ne (s : Str) (h : s ≠ []) : PyParse.settingOfStr s = .ok s := by
  unfold PyParse.settingOfStr PyParse.mkSetting
  cases s with
  | nil => exact absurd rfl h
  | cons c t => rfl

/-- `AnsiSetting(AnsiParam.RESET.value)` -/
theorem settingOfInt_reset : PyParse.settingOfInt (Gen.paramReset : Int) = .ok "0".toList := by decide +kernel

/-! ### first loop: `items[idx] = int(value)` over `enumerate(items)` -/

def prep (c : Code) : Code :=
  match PyParse.int c with
  | some v => .int v
  | none => if c = .str [] then .int (Gen.paramReset : Int) else c

def PrepSpec (step : List Code → Int → Except Exc (List Code)) : Prop :=
  ∀ A c B, step (A ++ c :: B) (A.length : Int) = .ok (A ++ prep c :: B)

/-- the loop runs over the indices and reads the *current* list, `A` being the part already rewritten -/
theorem fold_prep {step : List Code → Int → Except Exc (List Code)} (h : PrepSpec step) (l : List Code) :
    List.foldlM step l (Py.rangeAsc (l.length : Int)) = .ok (l.map prep) := by
  have aux : ∀ (B A : List Code),
      List.foldlM step (A ++ B) ((List.range' A.length B.length).map Int.ofNat) = .ok (A ++ B.map prep) := by
    intro B
    induction B with
    | nil => intro A; simp; rfl
    | cons c B ih =>
      intro A
      rw [List.length_cons, List.range'_succ, List.map_cons, List.foldlM_cons]
      show (step (A ++ c :: B) (A.length : Int)) >>= _ = _
      rw [h A c B]
      show List.foldlM step (A ++ prep c :: B) _ = _
      have := ih (A ++ [prep c])
      simp only [List.length_append, List.length_cons, List.length_nil, List.append_assoc, List.cons_append, List.nil_append] at this
      rw [this]
      simp
  rw [ObjL.rangeAsc_nat]
  exact aux l []

theorem prep_list (l : List Code) : l.map prep = pgsItemsOfList l := by
  unfold pgsItemsOfList
  apply List.map_congr_left
  intro c _
  cases c with
  | int i => rfl
  | str s =>
    unfold prep PyParse.int
    simp only []
    cases Py.int s with
    | some v => rfl
    | none =>
      cases s with
      | nil => simp; decide
      | cons a t => simp

theorem prep_str (l : List Str) : (l.map (fun it => Code.str (Py.strip it))).map prep =
    l.map (fun it =>
      let it := Py.strip it
      match Py.int it with
      | some i => Code.int i
      | none => if it.isEmpty then Code.int 0 else Code.str it) := by
  rw [List.map_map]
  apply List.map_congr_left
  intro s _
  simp only [Function.comp]
  unfold prep PyParse.int
  simp only []
  cases Py.int (Py.strip s) with
  | some v => rfl
  | none =>
    cases Py.strip s with
    | nil => simp; decide
    | cons a t => simp

theorem items_of_str (s : Str) :
    pgsItemsOfList ((Py.splitOnChar ';' s).map (fun it => Code.str (Py.strip it))) = pgsItemsOfStr s := by
  rw [← prep_list, prep_str]; rfl

theorem prep_ne (c : Code) : prep c ≠ .str [] := by
  unfold prep
  split
  · simp
  · split
    · simp
    · assumption

/-! ### the loop over `_AnsiControlFn` -/

/-- the state of the translated loop: `(fn_set, fn_found, left_in_set)` -/
abbrev F := Bool × Bool × Int

def fnRound (tail : List Code) (value : Int) (st : F) (row : List Nat × Nat) : F :=
  if SettingTxt.startsWithFn row.1 tail then (true, st.2.1, ((row.1.length + row.2 : Nat) : Int))
  else if row.1.head?.map (fun m => (m : Int)) == some value then (st.1, true, st.2.2) else st

def FnSpec (tail : List Code) (value : Int) (step : F → List Nat × Nat → Except Exc F) : Prop :=
  ∀ st row, step st row = .ok (fnRound tail value st row)

theorem fold_fn {tail : List Code} {value : Int} {step : F → List Nat × Nat → Except Exc F}
    (h : FnSpec tail value step) :
    ∀ (rows : List (List Nat × Nat)) (l : Nat) (s f : Bool),
      List.foldlM step (s, f, (l : Int)) rows =
        .ok ((pgsFnLoop tail value rows (l, s, f)).2.1, (pgsFnLoop tail value rows (l, s, f)).2.2,
             ((pgsFnLoop tail value rows (l, s, f)).1 : Int)) := by
  intro rows
  induction rows with
  | nil => intro l s f; rfl
  | cons row rows ih =>
    intro l s f
    obtain ⟨setup, nargs⟩ := row
    rw [List.foldlM_cons, h]
    show List.foldlM step (fnRound tail value _ _) rows = _
    unfold fnRound pgsFnLoop
    simp only []
    split
    · exact ih _ _ _
    · split
      · exact ih _ _ _
      · exact ih _ _ _

/-- the loop as `parse_graphic_sequence` starts it: `left_in_set = 1`, `fn_set = fn_found = False` -/
theorem fold_fn1 {tail : List Code} {value : Int} {step : F → List Nat × Nat → Except Exc F}
    (h : FnSpec tail value step) (rows : List (List Nat × Nat)) :
    List.foldlM step (false, false, (1 : Int)) rows =
      .ok ((pgsFnLoop tail value rows (1, false, false)).2.1, (pgsFnLoop tail value rows (1, false, false)).2.2,
           ((pgsFnLoop tail value rows (1, false, false)).1 : Int)) := fold_fn h rows 1 false false

theorem one_beq_natCast (n : Nat) : ((1 : Int) == (n : Int)) = (n == 1) := by
  rw [Bool.eq_iff_iff]; simp only [beq_iff_eq]; omega

theorem len_codes (sc : List Int) (v : Int) :
    ((List.map Code.int sc ++ [Code.int v]).length : Int) = (((sc ++ [v]).length : Nat) : Int) := by simp

/-! ### the main loop -/

/-- the state of the translated loop: `(left_in_set, current_set, output)` -/
abbrev G := Int × List Code × List Str

/-- a state of the model as a state of the code: `current_set` holds ints only -/
def enc (st : PgsSt) : G := (st.left, st.cur.map Code.int, st.out)

/-- the end of a round: `current_set.append(value)`, `left_in_set -= 1`, the set closed when nothing is left -/
def fin (addErr : Bool) (left : Int) (cur : List Int) (out : List Str) (value : Int) : PgsSt :=
  if left - 1 ≤ 0 then
    if (addErr || (cur ++ [value]).length == 1 || SettingTxt.parsable (joinInts (cur ++ [value]))) = true then
      { left := left - 1, cur := [], out := out ++ [joinInts (cur ++ [value])] }
    else { left := left - 1, cur := [], out := out }
  else { left := left - 1, cur := cur ++ [value], out := out }

theorem enc_mk (l : Int) (c : List Int) (o : List Str) :
    enc { left := l, cur := c, out := o } = (l, c.map Code.int, o) := rfl

/-- one round of the main loop as the code does it (`left_in_set` is assigned before the `continue`) -/
def cstep (addErr : Bool) (it : Code) (rest : List Code) (st : PgsSt) : PgsSt :=
  match it with
  | .int value =>
    if st.cur.isEmpty then
      if (pgsFnLoop (it :: rest) value Gen.ctrlFns (1, false, false)).2.2 &&
          !(pgsFnLoop (it :: rest) value Gen.ctrlFns (1, false, false)).2.1 && !addErr then
        { st with left := ((pgsFnLoop (it :: rest) value Gen.ctrlFns (1, false, false)).1 : Int) }
      else fin addErr ((pgsFnLoop (it :: rest) value Gen.ctrlFns (1, false, false)).1 : Int) st.cur st.out value
    else fin addErr st.left st.cur st.out value
  | .str s => if addErr then { st with out := st.out ++ [s] } else st

def cloop (addErr : Bool) : List Code → PgsSt → PgsSt
  | [], st => st
  | it :: rest, st => cloop addErr rest (cstep addErr it rest st)

def RoundSpec (items : List Code) (addErr : Bool) (step : G → Int → Except Exc G) : Prop :=
  ∀ A it rest, items = A ++ it :: rest → it ≠ .str [] → ∀ st : PgsSt,
    step (enc st) (A.length : Int) = .ok (enc (cstep addErr it rest st))

theorem fold_loop {items : List Code} {addErr : Bool} {step : G → Int → Except Exc G}
    (h : RoundSpec items addErr step) (hne : ∀ c ∈ items, c ≠ .str []) (st : PgsSt) :
    List.foldlM step (enc st) (Py.rangeAsc (items.length : Int)) = .ok (enc (cloop addErr items st)) := by
  have aux : ∀ (B A : List Code), items = A ++ B → ∀ st : PgsSt,
      List.foldlM step (enc st) ((List.range' A.length B.length).map Int.ofNat) = .ok (enc (cloop addErr B st)) := by
    intro B
    induction B with
    | nil => intro A _ st; rfl
    | cons c B ih =>
      intro A hi st
      rw [List.length_cons, List.range'_succ, List.map_cons, List.foldlM_cons]
      show (step (enc st) (A.length : Int)) >>= _ = _
      rw [h A c B hi (hne c (by simp [hi]))]
      show List.foldlM step (enc (cstep addErr c B st)) _ = _
      have := ih (A ++ [c]) (by simp [hi]) (cstep addErr c B st)
      simp only [List.length_append, List.length_cons, List.length_nil] at this
      rw [this]
      rfl
  rw [ObjL.rangeAsc_nat]
  exact aux items [] rfl st

/-- two states the rest of the run cannot tell apart: `left_in_set` is read only while a set is open -/
def Sim (a b : PgsSt) : Prop := a.cur = b.cur ∧ a.out = b.out ∧ (a.cur ≠ [] → a.left = b.left)

theorem fin_eq (addErr : Bool) (left : Int) (cur : List Int) (out : List Str) (value : Int) :
    fin addErr left cur out value =
      (if left - 1 ≤ 0 then
        { left := left - 1, cur := [],
          out := if (addErr || (cur ++ [value]).length == 1 || SettingTxt.parsable (joinInts (cur ++ [value]))) = true
                 then out ++ [joinInts (cur ++ [value])] else out }
       else { left := left - 1, cur := cur ++ [value], out := out } : PgsSt) := by
  unfold fin
  split
  · split <;> rfl
  · rfl

theorem sim_refl (a : PgsSt) : Sim a a := ⟨rfl, rfl, fun _ => rfl⟩

theorem step_sim (addErr : Bool) (it : Code) (rest : List Code) (a b : PgsSt) (h : Sim a b) :
    ∃ b', pgsLoop addErr (it :: rest) b = pgsLoop addErr rest b' ∧ Sim (cstep addErr it rest a) b' := by
  obtain ⟨al, ac, ao⟩ := a
  obtain ⟨bl, bc, bo⟩ := b
  obtain ⟨h1, h2, h3⟩ := h
  simp only at h1 h2 h3
  subst h1 h2
  cases it with
  | str s =>
    cases addErr with
    | true =>
      refine ⟨{ left := bl, cur := ac, out := ao ++ [s] }, ?_, ⟨rfl, rfl, h3⟩⟩
      rw [pgsLoop]; rfl
    | false =>
      refine ⟨{ left := bl, cur := ac, out := ao }, ?_, ⟨rfl, rfl, h3⟩⟩
      rw [pgsLoop]; rfl
  | int value =>
    rw [pgsLoop]
    unfold cstep
    simp only []
    cases ac with
    | nil =>
      simp only [List.isEmpty_nil, if_true]
      rcases hr : pgsFnLoop (Code.int value :: rest) value Gen.ctrlFns (1, false, false) with ⟨l, s, f⟩
      simp only []
      by_cases hc : (f && !s && !addErr) = true
      · have hc' : (f = true ∧ (!s) = true ∧ (!addErr) = true) := by
          simpa [Bool.and_eq_true, and_assoc] using hc
        rw [if_pos hc, if_pos hc']
        exact ⟨_, rfl, ⟨rfl, rfl, fun h => absurd rfl h⟩⟩
      · have hc' : ¬ (f = true ∧ (!s) = true ∧ (!addErr) = true) := by
          simpa [Bool.and_eq_true, and_assoc] using hc
        rw [if_neg hc, if_neg hc']
        simp only []
        rw [fin_eq]
        split
        · exact ⟨_, rfl, sim_refl _⟩
        · exact ⟨_, rfl, sim_refl _⟩
    | cons c0 ac =>
      have hl : al = bl := h3 (by simp)
      subst hl
      simp only [List.isEmpty_cons, Bool.false_eq_true, if_false]
      rw [fin_eq]
      split
      · exact ⟨_, rfl, sim_refl _⟩
      · exact ⟨_, rfl, sim_refl _⟩

theorem cloop_sim (addErr : Bool) : ∀ (items : List Code) (a b : PgsSt), Sim a b →
    Sim (cloop addErr items a) (pgsLoop addErr items b) := by
  intro items
  induction items with
  | nil => intro a b h; exact h
  | cons it rest ih =>
    intro a b h
    obtain ⟨b', hb, hs⟩ := step_sim addErr it rest a b h
    rw [hb]
    exact ih _ _ hs

/-- what follows the main loop: the dangling set -/
def finish (addErr : Bool) (st : PgsSt) : List Str :=
  if (!st.cur.isEmpty && addErr) = true then st.out ++ [joinInts st.cur] else st.out

theorem finish_cloop (items : List Code) (addErr : Bool) :
    finish addErr (cloop addErr items {}) = pgsItems items addErr := by
  obtain ⟨h1, h2, _⟩ := cloop_sim addErr items {} {} (sim_refl _)
  unfold finish pgsItems
  simp only [h1, h2, Bool.and_eq_true, Bool.not_eq_eq_eq_not, Bool.not_true]

/-! ### `settings_to_dict` -/

theorem erase_absent (d : PyDict) (k : Nat) (h : d.contains k = false) : d.erase k = d := by
  unfold PyDict.erase
  unfold PyDict.contains at h
  apply List.filter_eq_self.mpr
  intro a ha
  have := List.any_eq_false.mp h a ha
  simpa using this

theorem dictDel_present (d : PyDict) (k : Nat) (h : d.contains k = true) : PyParse.dictDel d k = .ok (d.erase k) := by
  unfold PyParse.dictDel; rw [if_pos h]

/-- `if k in d: del d[k]`: no KeyError -/
theorem del_guarded (d : PyDict) (k : Nat) :
    (if PyDict.contains d k = true then PyParse.dictDel d k else .ok d) = .ok (d.erase k) := by
  unfold PyParse.dictDel
  cases h : PyDict.contains d k with
  | true => simp
  | false => simp [erase_absent d k h]

end L
open L

/-- both functions were translated, `parse_graphic_sequence` for both types of its argument -/
theorem translated : (Gen.settingsToDictCodeOk && Gen.parseGraphicSequenceStrOk && Gen.parseGraphicSequenceListOk) = true := by
  decide

theorem settings_to_dict_is_code (ss : List Setting) (old : PyDict) :
    Gen.settingsToDictCode ss old = .ok (settingsToDict ss old) := by
  unfold Gen.settingsToDictCode
  simp only []
  rw [ObjL.foldlM_ok (g := Eff.dictStep) ?spec, Eff.settingsToDict_eq]
  · rfl
  · intro d s
    unfold Eff.dictStep
    cases SettingTxt.initialParam s.txt with
    | none => rfl
    | some p =>
      obtain ⟨eff, fn⟩ := p
      simp only [ObjL.bind_pure]
      by_cases h1 : (fn == Gen.fnApply) = true
      · simp only [h1, ↓reduceIte]
      · by_cases h2 : (fn == Gen.fnClear) = true
        · simp only [h1, h2, Bool.false_eq_true, ↓reduceIte]
          cases hcon : PyDict.contains d eff
          · simp [erase_absent d eff hcon]
          · simp [dictDel_present d eff hcon]
        · simp only [h1, h2, Bool.false_eq_true, ↓reduceIte]

theorem pgs_list_is_code (l : List Code) (e : Bool) :
    Gen.parseGraphicSequenceList l e = .ok (pgsList l e) := by
  cases l with
  | nil => rw [Gen.parseGraphicSequenceList, if_pos (by simp [len_beq_zero, len_gt_zero]), settingOfInt_reset]; rfl
  | cons c0 l0 =>
    rw [Gen.parseGraphicSequenceList, pgsList, if_neg (by simp [len_beq_zero, len_gt_zero]), if_neg (by simp), ← prep_list]
    generalize c0 :: l0 = l
    -- the outer `let`s only have to go for the folds to be rewritten; after that every step works on the
    -- part it is about (a `simp` over the whole body visits each `let` continuation at each of its uses)
    dsimp only
    rw [fold_prep ?spec1, bindOk]
    case spec1 =>
      intro A c B
      simp only [ObjL.getIdx_mid, ObjL.setIdx_mid, bindOk]
      unfold prep
      cases PyParse.int c with
      | some v => rfl
      | none =>
        by_cases hc : c = Code.str []
        · subst hc; simp
        · have hc' : ¬ (Code.str [] = c) := fun h => hc h.symm
          simp [hc, hc']
    have hne : ∀ c ∈ l.map prep, c ≠ Code.str [] := by
      intro c hc
      obtain ⟨c', _, rfl⟩ := List.mem_map.mp hc
      exact prep_ne c'
    generalize l.map prep = items at hne ⊢
    rw [show ((0 : Int), ([] : List Code), ([] : List Str)) = enc {} from rfl, fold_loop (addErr := e) ?spec2 hne, bindOk, ← finish_cloop]
    case spec2 =>
      intro A it rest hi hit st
      subst hi
      obtain ⟨sl, sc, so⟩ := st
      dsimp only [enc_mk]
      rw [ObjL.getIdx_mid, bindOk]
      cases it with
      | str s => 
        have hs : s ≠ [] := fun h => hit (by rw [h])
        cases e <;> simp [cstep, settingOfStr_ne s hs, bindOk, enc_mk]
      | int v =>
        -- `if not current_set` first: the branch not taken is then never looked at
        cases sc with
        | cons a t =>
          simp only [List.isEmpty_map, List.isEmpty_cons, Bool.not_false, Bool.not_true, Bool.false_eq_true, ↓reduceIte,
            bindOk, settingOfCodes_snoc, len_codes, ObjL.natCast_beq_one, one_beq_natCast, ite_self, cstep, fin, apply_ite enc,
            enc_mk, apply_ite Except.ok, decide_eq_true_eq]
          simp only [List.map_nil, List.map_append, List.map_cons, List.length_append, List.length_map, List.length_cons, List.length_nil, ite_self]
        | nil =>
          simp only [List.isEmpty_map, List.isEmpty_nil, Bool.not_false, Bool.not_true, ↓reduceIte, ObjL.slice_mid_from, cstep]
          rw [fold_fn1 (tail := Code.int v :: rest) (value := v) ?spec3, bindOk]
          case spec3 =>
            intro st row
            obtain ⟨setup, nargs⟩ := row
            unfold fnRound
            cases setup with
            | nil => simp [SettingTxt.startsWithFn]
            | cons m ms =>
              simp only [PyParseL.getIdx_head, bindOk]
              by_cases hs : SettingTxt.startsWithFn (m :: ms) (Code.int v :: rest) = true
              · simp only [hs, if_true]
              · simp only [hs]
                by_cases hv : v = (m : Int)
                · simp [hv]
                · have hv' : ¬ ((m : Int) = v) := fun h => hv h.symm
                  simp [hv, hv']
          generalize pgsFnLoop (Code.int v :: rest) v Gen.ctrlFns (1, false, false) = r
          obtain ⟨pl, ps, pf⟩ := r
          simp only [bindOk, settingOfCodes_snoc, len_codes, ObjL.natCast_beq_one, one_beq_natCast, ite_self, fin, apply_ite enc,
            enc_mk, apply_ite Except.ok, decide_eq_true_eq]
          simp only [List.map_nil, List.map_append, List.map_cons, List.length_append, List.length_map, List.length_cons, List.length_nil, ite_self]
    generalize cloop e items {} = X
    obtain ⟨xl, xc, xo⟩ := X
    simp only [enc_mk, finish]
    cases xc with
    | nil => simp
    | cons a t =>
      have hs := settingOfCodes_ints (a :: t) (List.cons_ne_nil _ _)
      cases e <;> simp only [hs, bindOk] <;> simp

/-- both generated functions come from the same statements; after
    `items = [item.strip() for item in sequence.split(ansi_sep)]` the one for a `str` is the one for the
    list of the stripped pieces (never empty) -/
theorem pgs_str_is_code (s : Str) (e : Bool) :
    Gen.parseGraphicSequenceStr s e = .ok (pgsStr s e) := by
  cases s with
  | nil => simp only [Gen.parseGraphicSequenceStr, List.isEmpty_nil, Bool.not_true, Bool.not_false, if_true,
      settingOfInt_reset, bindOk]; rfl
  | cons c0 s0 =>
    cases hsp : Py.splitOnChar ';' (c0 :: s0) with
    | nil => exact absurd hsp (Eff.splitOnChar_ne_nil ';' _)
    | cons a t =>
      have key : Gen.parseGraphicSequenceStr (c0 :: s0) e =
          Gen.parseGraphicSequenceList ((a :: t).map (fun it => Code.str (Py.strip it))) e := by
        unfold Gen.parseGraphicSequenceStr Gen.parseGraphicSequenceList
        rw [PyParseL.split_sep, hsp]
        rfl
      rw [key, pgs_list_is_code, ← hsp, pgsStr, pgsList, items_of_str, hsp]
      rfl

theorem settings_to_dict_never_raises (ss : List Setting) (old : PyDict) (err : Exc) :
    Gen.settingsToDictCode ss old ≠ .error err := by
  rw [settings_to_dict_is_code]; intro h; cases h

theorem pgs_str_never_raises (s : Str) (e : Bool) (err : Exc) : Gen.parseGraphicSequenceStr s e ≠ .error err := by
  rw [pgs_str_is_code]; intro h; cases h

theorem pgs_list_never_raises (l : List Code) (e : Bool) (err : Exc) : Gen.parseGraphicSequenceList l e ≠ .error err := by
  rw [pgs_list_is_code]; intro h; cases h

/-! ## Concrete values -/

example : Gen.parseGraphicSequenceStr "1;31".toList false = .ok ["1".toList, "31".toList] := by
  simp only [strLitToList]; decide +kernel
example : Gen.parseGraphicSequenceStr "1;31".toList true = .ok ["1".toList, "31".toList] := by
  simp only [strLitToList]; decide +kernel
/-- a complete 256-colour function with an argument out of range is dropped, or kept as erroneous -/
example : Gen.parseGraphicSequenceStr "38;5;300".toList false = .ok [] := by
  simp only [strLitToList]; decide +kernel
example : Gen.parseGraphicSequenceStr "38;5;300".toList true = .ok ["38;5;300".toList] := by
  simp only [strLitToList]; decide +kernel
/-- an RGB function cut short: a dangling set -/
example : Gen.parseGraphicSequenceStr "38;2;1".toList false = .ok [] := by
  simp only [strLitToList]; decide +kernel
example : Gen.parseGraphicSequenceStr "38;2;1".toList true = .ok ["38;2;1".toList] := by
  simp only [strLitToList]; decide +kernel
/-- the empty sequence is RESET -/
example : Gen.parseGraphicSequenceStr [] false = .ok ["0".toList] := by decide +kernel
example : Gen.parseGraphicSequenceStr [] true = .ok ["0".toList] := by decide +kernel
example : Gen.parseGraphicSequenceList [] false = .ok ["0".toList] := by decide +kernel
/-- empty parameters are RESET; text that is no number is kept only as erroneous -/
example : Gen.parseGraphicSequenceStr "4;;x; +1_0".toList false = .ok ["4".toList, "0".toList, "10".toList] := by
  simp only [strLitToList]; decide +kernel
example : Gen.parseGraphicSequenceStr "4;;x; +1_0".toList true = .ok ["4".toList, "0".toList, "x".toList, "10".toList] := by
  simp only [strLitToList]; decide +kernel
/-- a function code without a valid setup sequence (the `continue`) -/
example : Gen.parseGraphicSequenceStr "38;7;1".toList false = .ok ["7".toList, "1".toList] := by
  simp only [strLitToList]; decide +kernel
example : Gen.parseGraphicSequenceStr "38;7;1".toList true = .ok ["38".toList, "7".toList, "1".toList] := by
  simp only [strLitToList]; decide +kernel
/-- a list mixing ints and strings -/
example : Gen.parseGraphicSequenceList [.str "38".toList, .int 5, .str " 7 ".toList, .int 0, .str [], .str "z".toList] true =
    .ok ["38;5;7".toList, "0".toList, "0".toList, "z".toList] := by
  simp only [strLitToList]; decide +kernel
example : Gen.parseGraphicSequenceList [.str "38".toList, .int 5, .str " 7 ".toList, .int 0, .str [], .str "z".toList] false =
    .ok (pgsList [.str "38".toList, .int 5, .str " 7 ".toList, .int 0, .str [], .str "z".toList] false) := by
  simp only [strLitToList]; decide +kernel

/-- bold, red, then "normal intensity" (clears bold), on top of an italic entry -/
example : Gen.settingsToDictCode [⟨1, "1".toList⟩, ⟨2, "31".toList⟩, ⟨3, "22".toList⟩] [(3, ⟨0, "3".toList⟩)] =
    .ok [(3, ⟨0, "3".toList⟩), (13, ⟨2, "31".toList⟩)] := by
  simp only [strLitToList]; decide +kernel
/-- a clear code for an effect that is not in the dictionary: the guard, no KeyError -/
example : Gen.settingsToDictCode [⟨3, "22".toList⟩] [] = .ok [] := by decide +kernel
/-- reset empties the dictionary; a setting that is no known code is skipped -/
example : Gen.settingsToDictCode [⟨1, "1".toList⟩, ⟨2, "0".toList⟩, ⟨3, "999".toList⟩, ⟨4, "4".toList⟩] [(3, ⟨0, "3".toList⟩)] =
    .ok [(4, ⟨4, "4".toList⟩)] := by
  simp only [strLitToList]; decide +kernel

/-- the outcomes the theorems exclude are real ones of the primitives -/
example : PyParse.settingOfStr [] = .error (.py .valueError) := by decide
example : PyParse.settingOfCodes [] = .error (.py .valueError) := by decide
example : PyParse.dictDel [] 3 = .error .key := by decide
example : Py.getIdx ([] : List Int) 0 = .error (.py .indexError) := by decide
example : PyParse.split "a".toList [] = .error (.py .valueError) := by decide

end C18b

#print axioms C18b.translated
#print axioms C18b.settings_to_dict_is_code
#print axioms C18b.pgs_str_is_code
#print axioms C18b.pgs_list_is_code
#print axioms C18b.settings_to_dict_never_raises
#print axioms C18b.pgs_str_never_raises
#print axioms C18b.pgs_list_never_raises
