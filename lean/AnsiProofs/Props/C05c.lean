import AnsiModel.Concat
import AnsiModel.Generated.Wrappers
/-
  Property C05, part c — the identity helpers of `__iadd__`, from the source.

  `_find_setting_reference`, `_same_setting_references` and `_find_settings_references` decide *which
  object* a marker refers to; the seam logic of `+=` (and slicing, removal) stands on them, and the
  defects D4 and D22 were exactly here (`in` / `==` where `is` was meant; an order-insensitive
  comparison).  `Gen.findSettingReference`, `Gen.sameSettingReferences`, `Gen.findSettingsReferences`
  are these functions translated from the source by loop idiom (harness/pylist.py: search loop,
  `all(… for … in zip(…))`, nested collect loop; `a is b` becomes `a.id == b.id`).
  The theorems tie them to the hand-written `hasId`, `sameRefs`, `findRefs` of the model.  The private
  lemmas are stated for any predicate or body that agrees pointwise with the model's, so that the
  proofs do not depend on the form of the generated lambda (`p.1.id == …`, a `match`).
-/
namespace C05c

/-- all three were translated (none fell outside the idioms) -/
theorem translated : Gen.findSettingReferenceOk = true ∧ Gen.sameSettingReferencesOk = true ∧
    Gen.findSettingsReferencesOk = true := by decide

private theorem find_core (q : Setting → Bool) (l : List Setting) {P : Setting × Nat → Bool}
    (hP : ∀ s i, P (s, i) = q s) {r : Option (Setting × Nat)} (h : (l.zipIdx).find? P = r) :
    l.findIdx? q = r.map (·.2) := by
  have hPq : P = fun ⟨x, _⟩ => q x := by funext ⟨s, i⟩; exact hP s i
  subst hPq h
  exact List.findIdx?_eq_fst_find?_zipIdx

/-- `_find_setting_reference(find, in_list)` is the index of the first element that *is* `find`, else -1 -/
theorem find_reference_index (find : Setting) (l : List Setting) :
    Gen.findSettingReference find l =
      match l.findIdx? (fun s => s.id == find.id) with
      | some i => (i : Int)
      | none => -1 := by
  unfold Gen.findSettingReference
  split
  · rename_i h
    -- `rfl` if the generated lambda unfolds to `q s`, else `grind` splits its form
    rewrite [find_core (fun s => s.id == find.id) l (by intro s i; first | rfl | grind) h]
    rfl
  · rename_i h
    rewrite [find_core (fun s => s.id == find.id) l (by intro s i; first | rfl | grind) h]
    rfl

/-- the test `_find_setting_reference(find, l) >= 0` of the callers is the model's `hasId` -/
theorem find_reference_is_code (find : Setting) (l : List Setting) :
    decide (Gen.findSettingReference find l ≥ 0) = hasId l find.id := by
  rw [find_reference_index, hasId, ← List.findIdx?_isSome]
  cases l.findIdx? (fun s => s.id == find.id) <;> simp

private theorem same_all (a b : List Setting) {P : Setting × Setting → Bool}
    (hP : ∀ x y, P (x, y) = (x.id == y.id)) :
    (a.zip b).all P = (a.zip b).all (fun p => p.1.id == p.2.id) := by
  have : P = fun p => p.1.id == p.2.id := by funext ⟨x, y⟩; exact hP x y
  rw [this]

private theorem same_core (a b : List Setting) :
    sameRefs a b = (a.length == b.length && (a.zip b).all (fun p => p.1.id == p.2.id)) := by
  unfold sameRefs
  induction a generalizing b with
  | nil => cases b <;> simp
  | cons x a ih =>
    cases b with
    | nil => simp
    | cons y b =>
      have := ih b
      simp only [List.length_cons, List.zip_cons_cons, List.all_cons, List.map_cons] at this ⊢
      rw [List.cons_beq_cons, this]
      cases x.id == y.id <;> simp

/-- `_same_setting_references`, as translated, is the model's `sameRefs`: same length and pairwise the same
    objects — so order matters (D22) and equal values do not suffice (D4) -/
theorem same_references_is_code (a b : List Setting) : Gen.sameSettingReferences a b = sameRefs a b := by
  unfold Gen.sameSettingReferences
  rewrite [same_all a b, same_core a b]
  · generalize (a.zip b).all (fun p => p.1.id == p.2.id) = t
    generalize a.length = n
    generalize b.length = m
    grind
  · intro x y
    first | rfl | grind

/-- the inner collect loop -/
private theorem refs_inner (s : Setting) (i : Nat) (z : List (Setting × Nat))
    {H : Setting × Nat → Option (Nat × Nat)}
    (hH : ∀ s2 i2, H (s2, i2) = if s2.id == s.id then some (i, i2) else none) :
    z.filterMap H = (z.filter (fun (s2, _) => s2.id == s.id)).map (fun (_, i2) => (i, i2)) := by
  induction z with
  | nil => rfl
  | cons x z ih =>
    obtain ⟨s2, i2⟩ := x
    rw [List.filterMap_cons, hH, List.filter_cons]
    cases hc : s2.id == s.id with
    | false => simpa only [hc, Bool.false_eq_true, if_false] using ih
    | true => simp only [hc, if_true, List.map_cons, ih]

/-- the outer loop -/
private theorem refs_outer (f l : List Setting) {G : Setting × Nat → List (Nat × Nat)}
    (hG : ∀ s i, G (s, i) =
      (l.zipIdx.filter (fun (s2, _) => s2.id == s.id)).map (fun (_, i2) => (i, i2))) :
    f.zipIdx.flatMap G = findRefs f l := by
  unfold findRefs
  rw [List.flatMap_def]
  congr 1
  apply List.map_congr_left
  rintro ⟨s, i⟩ _
  exact hG s i

/-- `_find_settings_references`, as translated, returns the model's `findRefs` -/
theorem find_references_is_code (f l : List Setting) : Gen.findSettingsReferences f l = findRefs f l := by
  unfold Gen.findSettingsReferences
  apply refs_outer
  intro s i
  try dsimp only
  apply refs_inner
  intro s2 i2
  first | rfl | (dsimp only <;> first | rfl | grind) | grind

/-- equal values are not the same object; a different order is not the same list -/
example : Gen.sameSettingReferences [⟨1, "31".toList⟩] [⟨2, "31".toList⟩] = false := by decide
example : Gen.sameSettingReferences [⟨1, "31".toList⟩, ⟨2, "1".toList⟩] [⟨2, "1".toList⟩, ⟨1, "31".toList⟩] = false := by decide
example : Gen.findSettingReference ⟨2, "31".toList⟩ [⟨1, "31".toList⟩, ⟨2, "31".toList⟩] = 1 := by decide
example : Gen.findSettingsReferences [⟨7, "1".toList⟩, ⟨2, "31".toList⟩] [⟨2, "31".toList⟩, ⟨7, "1".toList⟩, ⟨2, "31".toList⟩] =
    [(0, 1), (1, 0), (1, 2)] := by decide

end C05c
