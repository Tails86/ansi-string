import AnsiProofs.Lemmas.RenderStrip
/-
  C15 (second half): "Whenever is_formatting_valid() is True and the base text contains no ESC,
  removing every 'ESC [ parameter-bytes m' sequence from any rendering leaves exactly base_str,
  and every verbatim setting in use appears intact inside such a sequence."

  `Term.stripSgr` is the specification's own tokenizer (AnsiSpec/Terminal.lean), independent of the
  model.  No hypothesis on the `rem` lists is needed: every setting the loop ever prints comes from
  an `add` list, which is what `is_formatting_valid()` inspects.
-/

namespace C15b
open RenderStripL

/-- a value with a verbatim multi-code setting `"1;31"` (over `[0,3)`), a foreign but valid setting
    text `"2 ?"` (over `[1,5)`) and `"4"` (over `[3,5)`), on the base text `"a b c"` -/
def ex : AStr :=
  { s := "a b c".toList
    fmts := [(0, { add := [⟨0, "1;31".toList⟩] }),
             (1, { add := [⟨1, "2 ?".toList⟩] }),
             (3, { add := [⟨2, "4".toList⟩], rem := [⟨0, "1;31".toList⟩] }),
             (5, { rem := [⟨1, "2 ?".toList⟩, ⟨2, "4".toList⟩] })] }

/-- For every value with ascending keys whose `is_formatting_valid()` is true and whose base text
    has no ESC, every rendering without a format spec (all 8 flag combinations) is the base text
    once the terminal tokenizer has removed the `ESC [ … m` sequences. -/
theorem render_strip (x : AStr) (hs : SortedKeys x.fmts) (hv : x.isFormattingValid = true)
    (hn : NoEsc x.s) (o rs re : Bool) : Term.stripSgr (Render.render x o rs re) = x.s :=
  (strips_render hs hv hn o rs re).stripSgr

theorem ex_sorted : SortedKeys ex.fmts := by unfold SortedKeys; decide

theorem ex_valid : ex.isFormattingValid = true := by decide +kernel
theorem ex_noEsc : NoEsc ex.s := by unfold NoEsc; decide +kernel

example : SortedKeys ex.fmts ∧ ex.isFormattingValid = true ∧ NoEsc ex.s := ⟨ex_sorted, ex_valid, ex_noEsc⟩

/-- `ex` also satisfies the history invariant (not needed by the theorems here) -/
example : WF ex := wf_of_finite (by decide +kernel)

/-- `"1;31"` and `"2 ?"` are not parsable, so the optimiser is switched off for `ex` -/
example : Render.render ex true false true = "\x1b[1;31ma\x1b[1;31;2 ?m b\x1b[0;2 ?;4m c\x1b[m".toList := by
  simp only [ex, strLitToList]
  decide +kernel
example : Term.stripSgr (Render.render ex true false true) = "a b c".toList :=
  render_strip ex ex_sorted ex_valid ex_noEsc true false true

/-- a value on which the optimiser runs: `"1"` over `[0,4)`, `"31"` over `[2,6)` of `"abcdef"` -/
def ex2 : AStr :=
  { s := "abcdef".toList
    fmts := [(0, { add := [⟨1, "1".toList⟩] }), (2, { add := [⟨2, "31".toList⟩] }),
             (4, { rem := [⟨1, "1".toList⟩] }), (6, { rem := [⟨2, "31".toList⟩] })] }

theorem ex2_hyps : SortedKeys ex2.fmts ∧ ex2.isFormattingValid = true ∧ NoEsc ex2.s :=
  ⟨by unfold SortedKeys; decide, by decide +kernel, by unfold NoEsc; decide +kernel⟩

example : SortedKeys ex2.fmts ∧ ex2.isFormattingValid = true ∧ NoEsc ex2.s := ex2_hyps
example : Render.render ex2 true true true = "\x1b[0;1mab\x1b[31mcd\x1b[22mef\x1b[m".toList := by
  simp only [ex2, strLitToList]
  decide +kernel
example : Term.stripSgr (Render.render ex2 true true true) = "abcdef".toList :=
  render_strip ex2 ex2_hyps.1 ex2_hyps.2.1 ex2_hyps.2.2 true true true

/-- the terminator test really excludes something: `"a b"` is not a valid setting text, and a value
    using it renders to something the tokenizer does not strip back to the base text -/
example : SettingTxt.valid "a b".toList = false := by decide
example : Term.stripSgr (Render.render { s := "xy".toList, fmts := [(0, { add := [⟨0, "a b".toList⟩] })] }
    false false false) ≠ "xy".toList := by decide

/-- The same for `str(x)` and for `to_str` without a format spec (`None` or `''`). -/
theorem str_strip (x : AStr) (hs : SortedKeys x.fmts) (hv : x.isFormattingValid = true)
    (hn : NoEsc x.s) : Term.stripSgr x.str = x.s := by
  rw [str_eq_render]; exact render_strip x hs hv hn true false true

theorem toStr_none_strip (x : AStr) (hs : SortedKeys x.fmts) (hv : x.isFormattingValid = true)
    (hn : NoEsc x.s) (o rs re : Bool) (nid : Nat) :
    ∃ r, x.toStr none o rs re nid = .ok r ∧ Term.stripSgr r = x.s :=
  ⟨_, toStr_none x o rs re nid, render_strip x hs hv hn o rs re⟩

theorem toStr_empty_strip (x : AStr) (hs : SortedKeys x.fmts) (hv : x.isFormattingValid = true)
    (hn : NoEsc x.s) (o rs re : Bool) (nid : Nat) :
    ∃ r, x.toStr (some []) o rs re nid = .ok r ∧ Term.stripSgr r = x.s :=
  ⟨_, toStr_nil x o rs re nid, render_strip x hs hv hn o rs re⟩

example : ex.toStr none false true true = .ok "\x1b[0;1;31ma\x1b[1;31;2 ?m b\x1b[0;2 ?;4m c\x1b[m".toList := by
  rw [toStr_none, Except.ok.injEq]
  simp only [ex, strLitToList]
  decide +kernel
example : ex.str = "\x1b[1;31ma\x1b[1;31;2 ?m b\x1b[0;2 ?;4m c\x1b[m".toList := by
  simp only [ex, strLitToList]
  decide +kernel

/-- Without optimisation, at every change point `k` below the length the rendering contains one
    sequence `ESC [ codes m` whose parameter string `codes` ends with the texts of all
    settings active at `k`, in order, joined by the separator — each text intact as whole
    `;`-separated items — and is preceded only by nothing, by `0;` (a reset, when a marker stopped
    at `k` or `reset_start` asked for it at index 0) or by `0;0;` (both).  If moreover the formatting
    is valid and the base text has no ESC, that sequence sits exactly at position `k` of the base
    text: what precedes it strips to the first `k` characters. -/
theorem verbatim_intact (x : AStr) (hs : SortedKeys x.fmts) (rs re : Bool) (k : Nat)
    (hk : k ∈ x.fmts.keys) (hlt : k < x.len) :
    ∃ pre pfx post,
      Render.render x false rs re =
        pre ++ (Gen.sgrPrefix ++ (pfx ++ joinSep Gen.ansiSep (texts (active x.fmts k))) ++ Gen.sgrSuffix) ++ post ∧
      (pfx = [] ∨ pfx = Py.natStr Gen.paramReset ++ Gen.ansiSep ∨
        pfx = (Py.natStr Gen.paramReset ++ Gen.ansiSep) ++ (Py.natStr Gen.paramReset ++ Gen.ansiSep)) ∧
      (x.isFormattingValid = true → NoEsc x.s → Term.stripSgr pre = x.s.take k) := by
  obtain ⟨p, hp⟩ := mem_pts hs hk hlt
  obtain ⟨l1, l2, hl⟩ := List.append_of_mem hp
  obtain ⟨pfx, post, hpfx, hout⟩ := foldl_emit_false x.s rs l1 l2 k p (active x.fmts k) {}
  have hf : ((l1 ++ (k, p, active x.fmts k) :: l2).foldl (Render.step x.s false rs) {}).first = false := by
    rw [List.foldl_append, List.foldl_cons]
    exact foldl_step_first _ _ _ _ _ (step_first _ _ _ _ _)
  obtain ⟨tail, ht⟩ : ∃ tail, Render.render x false rs re = _ ++ tail :=
    ⟨_, (render_eq_finish x false rs re).trans (finish_of_not_first _ _ _ (hl ▸ hf))⟩
  refine ⟨stepPre x.s rs (l1.foldl (Render.step x.s false rs) {}) k, pfx, post ++ tail, ?_, hpfx, ?_⟩
  · rw [ht, Bool.false_and, hl, hout]
    simp only [Render.sgr, List.append_assoc]
  · intro hv hn
    have hpw := List.pairwise_append.mp (hl ▸ pts_pairwise hs)
    have hg : ∀ t ∈ l1 ++ (k, p, active x.fmts k) :: l2, ∀ s ∈ t.2.2, NonFinal s.txt :=
      hl ▸ forall_pts (nonFinal_of_formattingValid hv)
    have h1 := strips_foldl hn false rs l1 {} hpw.1 (fun _ _ => Nat.zero_le _)
      (fun t ht => hg t (List.mem_append_left _ ht)) Strips.nil
    have hle := foldl_last_le x.s false rs l1 {} (Nat.zero_le k)
      (fun t ht => Nat.le_of_lt (hpw.2.2 t ht (k, p, active x.fmts k) (by simp)))
    have h2 := strips_pieces.stepPre hn rs k h1
    rw [take_append_seg x.s hle] at h2
    exact h2.stripSgr

/-- The same with the library's own `settings_at(k)` as the text that must appear:
    the parameter string of the sequence emitted at `k` ends with `settings_at(k)`, preceded by
    nothing or by a separator. -/
theorem verbatim_intact_settingsAt (x : AStr) (hs : SortedKeys x.fmts) (rs re : Bool) (k : Nat)
    (hk : k ∈ x.fmts.keys) (hlt : k < x.len) :
    ∃ pre pfx post,
      Render.render x false rs re =
        pre ++ (Gen.sgrPrefix ++ (pfx ++ x.settingsAt (k : Int)) ++ Gen.sgrSuffix) ++ post ∧
      (pfx = [] ∨ ∃ q, pfx = q ++ Gen.ansiSep) ∧
      (x.isFormattingValid = true → NoEsc x.s → Term.stripSgr pre = x.s.take k) := by
  obtain ⟨pre, pfx, post, h1, h2, h3⟩ := verbatim_intact x hs rs re k hk hlt
  refine ⟨pre, pfx, post, by rw [settingsAt_eq x hlt]; exact h1, ?_, h3⟩
  rcases h2 with e | e | e
  · exact Or.inl e
  · exact Or.inr ⟨_, e⟩
  · exact Or.inr ⟨_, by rw [e, ← List.append_assoc]⟩

example : ex.settingsAt 3 = "2 ?;4".toList := by
  simp only [ex, strLitToList]
  decide +kernel

example : SortedKeys ex.fmts ∧ 3 ∈ ex.fmts.keys ∧ 3 < ex.len ∧
    texts (active ex.fmts 3) = ["2 ?".toList, "4".toList] := ⟨ex_sorted, by decide, by decide, by decide⟩
example : Render.render ex false false true =
    "\x1b[1;31ma\x1b[1;31;2 ?m b\x1b[0;2 ?;4m c\x1b[m".toList := by
  simp only [ex, strLitToList]
  decide +kernel

end C15b
