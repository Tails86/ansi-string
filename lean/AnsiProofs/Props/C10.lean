import AnsiProofs.Lemmas.StrLike
import AnsiProofs.Lemmas.StrLit
/-
  Property C10 (text part) — every str-like method of AnsiString/AnsiStr produces result TEXT equal
  to the same `str` method applied to the base text, for all inputs.  Only `.s` is covered here (the
  settings of the pieces are property C11).

  `namespace PySpec` holds list-recursive specifications of the `str` methods, written with core
  `List` functions only and none of the model's primitives (`Py.find`, `Py.startsWith`, slices, …).
  `splitFirst_spec` / `splitLast_spec` say that the scanning specifications cut at the first / last
  occurrence, which is also what links them to `find` / `rfind`.

  For `split`/`rsplit`/`splitlines` the reference on the right-hand side is the model of the CPython
  primitive (`Py.splitSep`, `Py.rsplitSep`, `Py.splitWs`, `Py.rsplitWs`, `Py.splitlines`), which the
  differential harness ties to CPython; `split_join`/`split_maxsplit`/`split_is_repeated_partition`
  say what `Py.splitSep` is.
-/

open StrLikeL

namespace PySpec

/-! ### strip -/

def lstrip (cs : Str) (s : Str) : Str := s.dropWhile (fun c => cs.contains c)

def rstrip (cs : Str) (s : Str) : Str := (s.reverse.dropWhile (fun c => cs.contains c)).reverse

def strip (cs : Str) (s : Str) : Str := rstrip cs (lstrip cs s)

/-! ### removeprefix / removesuffix -/

def removeprefix (s p : Str) : Str := if p.isPrefixOf s then s.drop p.length else s

def removesuffix (s p : Str) : Str :=
  if p.isSuffixOf s ∧ p ≠ [] then s.take (s.length - p.length) else s

/-! ### partition / rpartition -/

/-- `(before, after)` around the FIRST occurrence of `sep`, scanning left to right -/
def splitFirst (sep : Str) : Str → Option (Str × Str)
  | [] => if sep.isEmpty then some ([], []) else none
  | c :: rest =>
    if sep.isPrefixOf (c :: rest) then some ([], (c :: rest).drop sep.length)
    else (splitFirst sep rest).map (fun ba => (c :: ba.1, ba.2))

/-- `(before, after)` around the LAST occurrence of `sep`: an occurrence further right wins -/
def splitLast (sep : Str) : Str → Option (Str × Str)
  | [] => if sep.isEmpty then some ([], []) else none
  | c :: rest =>
    match splitLast sep rest with
    | some ba => some (c :: ba.1, ba.2)
    | none => if sep.isPrefixOf (c :: rest) then some ([], (c :: rest).drop sep.length) else none

def partition (s sep : Str) : Str × Str × Str :=
  match splitFirst sep s with
  | some ba => (ba.1, sep, ba.2)
  | none => (s, [], [])

/-- the library's `rpartition`: like `str.rpartition`, except that an absent separator gives
    `(s, '', '')` (documented deviation; `str` gives `('', '', s)`) -/
def rpartition (s sep : Str) : Str × Str × Str :=
  match splitLast sep s with
  | some ba => (ba.1, sep, ba.2)
  | none => (s, [], [])

/-! ### replace -/

/-- `s.replace(old, new, count)` for a NON-EMPTY `old`: `skip` counts the characters of a matched
    `old` that are still to be skipped; a negative count means "no limit". -/
def replaceGo (old new : Str) : Str → Nat → Int → Str
  | [], _, _ => []
  | _ :: rest, skip + 1, count => replaceGo old new rest skip count
  | c :: rest, 0, count =>
    if count ≠ 0 ∧ old.isPrefixOf (c :: rest) then
      new ++ replaceGo old new rest (old.length - 1) (if count > 0 then count - 1 else count)
    else c :: replaceGo old new rest 0 count

/-- `s.replace('', new, count)`: insert `new` before every character and at the end, at most
    `count` insertions when `count ≥ 0` (`'abc'.replace('', 'x') = 'xaxbxcx'`) -/
def replaceEmpty (new : Str) : Str → Int → Str
  | [], count => if count ≠ 0 then new else []
  | c :: rest, count =>
    if count ≠ 0 then new ++ c :: replaceEmpty new rest (if count > 0 then count - 1 else count)
    else c :: rest

def replace (s old new : Str) (count : Int) : Str :=
  if old.isEmpty then replaceEmpty new s count else replaceGo old new s 0 count

end PySpec

/-! ## the specifications mean what they say -/

namespace PySpec

theorem splitFirst_spec (sep s : Str) :
    match splitFirst sep s with
    | some ba => s = ba.1 ++ sep ++ ba.2 ∧ ∀ j, j < ba.1.length → sep.isPrefixOf (s.drop j) = false
    | none => ∀ j, j ≤ s.length → sep.isPrefixOf (s.drop j) = false := by
  induction s with
  | nil =>
    cases sep with
    | nil => exact ⟨rfl, nofun⟩
    | cons d sep =>
      intro j hj
      rw [Nat.le_zero.mp hj]
      rfl
  | cons c rest ih =>
    rw [splitFirst]
    by_cases hp : sep.isPrefixOf (c :: rest) = true
    · rw [if_pos hp]
      obtain ⟨t, ht⟩ := List.isPrefixOf_iff_prefix.mp hp
      exact ⟨by rw [← ht, List.drop_left]; rfl, nofun⟩
    · rw [if_neg hp]
      have h0 : sep.isPrefixOf ((c :: rest).drop 0) = false := Bool.eq_false_iff.mpr hp
      cases h : splitFirst sep rest with
      | some ba =>
        rw [h] at ih
        refine ⟨congrArg (c :: ·) ih.1, ?_⟩
        show ∀ j, j < ba.1.length + 1 → _
        rw [Nat.forall_lt_succ_left]
        exact ⟨h0, ih.2⟩
      | none =>
        rw [h] at ih
        rw [← Nat.and_forall_add_one]
        exact ⟨fun _ => h0, fun j hj => ih j (Nat.le_of_succ_le_succ hj)⟩

theorem splitLast_spec (sep s : Str) :
    match splitLast sep s with
    | some ba => s = ba.1 ++ sep ++ ba.2 ∧
        ∀ j, ba.1.length < j → j ≤ s.length → sep.isPrefixOf (s.drop j) = false
    | none => ∀ j, j ≤ s.length → sep.isPrefixOf (s.drop j) = false := by
  induction s with
  | nil =>
    cases sep with
    | nil => exact ⟨rfl, fun j hj hl => absurd hl (Nat.not_le_of_gt hj)⟩
    | cons d sep =>
      intro j hj
      rw [Nat.le_zero.mp hj]
      rfl
  | cons c rest ih =>
    rw [splitLast]
    cases h : splitLast sep rest with
    | some ba =>
      rw [h] at ih
      refine ⟨congrArg (c :: ·) ih.1, fun j hj hl => ?_⟩
      cases j with
      | zero => exact absurd hj (Nat.not_lt_zero _)
      | succ i => exact ih.2 i (Nat.lt_of_succ_lt_succ hj) (Nat.le_of_succ_le_succ hl)
    | none =>
      rw [h] at ih
      have hrest : ∀ j, j + 1 ≤ (c :: rest).length → sep.isPrefixOf ((c :: rest).drop (j + 1)) = false :=
        fun j hj => ih j (Nat.le_of_succ_le_succ hj)
      by_cases hp : sep.isPrefixOf (c :: rest) = true
      · dsimp only
        rw [if_pos hp]
        obtain ⟨t, ht⟩ := List.isPrefixOf_iff_prefix.mp hp
        refine ⟨by rw [← ht, List.drop_left]; rfl, fun j hj hl => ?_⟩
        cases j with
        | zero => exact absurd hj (Nat.not_lt_zero _)
        | succ i => exact hrest i hl
      · dsimp only
        rw [if_neg hp, ← Nat.and_forall_add_one]
        exact ⟨fun _ => Bool.eq_false_iff.mpr hp, hrest⟩
/-! ### replace: the scan replaces exactly the first occurrence and continues behind it -/

theorem replaceGo_skip (old new : Str) (s : Str) (k : Nat) (c : Int) :
    replaceGo old new s k c = replaceGo old new (s.drop k) 0 c := by
  induction s generalizing k with
  | nil => simp [replaceGo]
  | cons a s ih =>
    cases k with
    | zero => rfl
    | succ k => rw [replaceGo, ih]; rfl

theorem replaceGo_cons (old new : Str) (a : Char) (s : Str) (c : Int) (hold : old ≠ []) :
    replaceGo old new (a :: s) 0 c =
      if c ≠ 0 ∧ old.isPrefixOf (a :: s) then
        new ++ replaceGo old new ((a :: s).drop old.length) 0 (if c > 0 then c - 1 else c)
      else a :: replaceGo old new s 0 c := by
  rw [replaceGo, replaceGo_skip]
  cases old with
  | nil => exact absurd rfl hold
  | cons d o => rfl

theorem replaceGo_zero (old new s : Str) : replaceGo old new s 0 0 = s := by
  induction s with
  | nil => rfl
  | cons a s ih => rw [replaceGo]; simp [ih]

theorem replaceEmpty_zero (new s : Str) : replaceEmpty new s 0 = s := by
  cases s <;> simp [replaceEmpty]

theorem replaceGo_absent (old new s : Str) (c : Int)
    (h : ∀ j, j ≤ s.length → old.isPrefixOf (s.drop j) = false) : replaceGo old new s 0 c = s := by
  induction s with
  | nil => rfl
  | cons a s ih =>
    have h0 := h 0 (Nat.zero_le _)
    rw [List.drop_zero] at h0
    rw [replaceGo, h0]
    simp only [Bool.false_eq_true, and_false, if_false]
    rw [ih (fun j hj => by simpa using h (j + 1) (by simpa using hj))]

theorem replaceGo_first (old new : Str) (hold : old ≠ []) (pre post : Str) (c : Int) (hc : c ≠ 0)
    (h : ∀ j, j < pre.length → old.isPrefixOf ((pre ++ old ++ post).drop j) = false) :
    replaceGo old new (pre ++ old ++ post) 0 c =
      pre ++ new ++ replaceGo old new post 0 (if c > 0 then c - 1 else c) := by
  induction pre with
  | nil =>
    cases old with
    | nil => exact absurd rfl hold
    | cons d o =>
      have hp : (d :: o).isPrefixOf (d :: (o ++ post)) = true :=
        List.isPrefixOf_iff_prefix.mpr ⟨post, rfl⟩
      simp only [List.nil_append, List.cons_append]
      rw [replaceGo, hp, replaceGo_skip]
      simp [hc]
  | cons a pre ih =>
    have h0 := h 0 (by simp)
    rw [List.drop_zero] at h0
    simp only [List.cons_append] at h0 ⊢
    rw [replaceGo, h0]
    simp only [Bool.false_eq_true, and_false, if_false]
    rw [ih (fun j hj => by simpa using h (j + 1) (by simpa using hj))]

end PySpec

namespace C10

/-! ## strip / lstrip / rstrip -/

/-- the default strip set (`WHITESPACE_CHARS`) is `' \t\n\r\v\f'` -/
theorem default_strip_set :
    Gen.whitespaceChars = [' ', '\t', '\n', '\r', Char.ofNat 11, Char.ofNat 12] := by decide

/-- `_strip(chars, inplace, do_lstrip, do_rstrip)`: the text is `str.strip/lstrip/rstrip` of the
    base text (with the default set when `chars is None`), whatever `inplace` is -/
theorem strip_text (x : AStr) (chars : Option Str) (doL doR ip : Bool) :
    (x.stripGen chars doL doR ip).s =
      (if doR then PySpec.rstrip (chars.getD Gen.whitespaceChars) else id)
        ((if doL then PySpec.lstrip (chars.getD Gen.whitespaceChars) else id) x.s) :=
  stripGen_s x chars doL doR ip

theorem strip_text_both (x : AStr) (chars : Option Str) (ip : Bool) :
    (x.stripGen chars true true ip).s = PySpec.strip (chars.getD Gen.whitespaceChars) x.s :=
  strip_text x chars true true ip

/-! ## removeprefix / removesuffix -/

theorem removeprefix_text (x : AStr) (p : Str) :
    (x.removeprefix p).s = PySpec.removeprefix x.s p := by
  unfold AStr.removeprefix PySpec.removeprefix
  rw [startsWith_eq]
  cases h : p.isPrefixOf x.s with
  | false => rfl
  | true => simp only [Bool.not_true, Bool.false_eq_true, if_false, if_true]; exact getSlice_from_s x _

theorem removesuffix_text (x : AStr) (p : Str) :
    (x.removesuffix p).s = PySpec.removesuffix x.s p := by
  unfold AStr.removesuffix PySpec.removesuffix
  rw [endsWith_eq]
  cases p with
  | nil => simp
  | cons c p =>
    cases h : (c :: p).isSuffixOf x.s with
    | false => simp
    | true =>
      simp only [List.isEmpty_cons, Bool.false_eq_true, Bool.not_true, or_self, if_false, ne_eq,
        reduceCtorEq, not_false_eq_true, and_self, if_true]
      rw [getSlice_negstop_s x none (c :: p).length (by simp)]
      rfl

/-! ## partition / rpartition -/

/-- `partition(sep)`: the texts are `str.partition` of the base text (any `sep`; CPython raises
    ValueError for the empty one, which is outside the claim) -/
theorem partition_text (x : AStr) (sep : Str) :
    ((x.partitionGen sep false).1.s, (x.partitionGen sep false).2.1.s,
      (x.partitionGen sep false).2.2.s) = PySpec.partition x.s sep := by
  unfold PySpec.partition
  have hsp := PySpec.splitFirst_spec sep x.s
  split at hsp
  · exact partitionGen_some x sep false _ _ hsp.1 (find_zero_of_decomp hsp.1 hsp.2)
  · rw [partitionGen_none x sep false ((find_none_iff ..).mpr fun i hi _ => hsp i hi)]

/-- `rpartition(sep)`: last occurrence; `(s, '', '')` when absent (the documented deviation) -/
theorem rpartition_text (x : AStr) (sep : Str) :
    ((x.partitionGen sep true).1.s, (x.partitionGen sep true).2.1.s,
      (x.partitionGen sep true).2.2.s) = PySpec.rpartition x.s sep := by
  unfold PySpec.rpartition
  have hsp := PySpec.splitLast_spec sep x.s
  split at hsp
  · exact partitionGen_some x sep true _ _ hsp.1 (rfind_of_decomp hsp.1 hsp.2)
  · rw [partitionGen_none x sep true ((rfind_none_iff ..).mpr hsp)]

theorem partition_lossless (x : AStr) (sep : Str) (r : Bool) :
    (x.partitionGen sep r).1.s ++ (x.partitionGen sep r).2.1.s ++ (x.partitionGen sep r).2.2.s =
      x.s := by
  cases h : (if r then Py.rfind x.s sep else Py.find x.s sep 0) with
  | none => rw [partitionGen_none x sep r h]; simp
  | some i =>
    have hocc : i ≤ x.s.length ∧ sep.isPrefixOf (x.s.drop i) = true := by
      cases r
      · exact ⟨((find_some_iff ..).mp h).1, ((find_some_iff ..).mp h).2.2.1⟩
      · exact ⟨((rfind_some_iff ..).mp h).1, ((rfind_some_iff ..).mp h).2.1⟩
    have hs := occ_decomp x.s sep i hocc.2
    have := partitionGen_some x sep r _ _ hs (by rw [h, List.length_take_of_le hocc.1])
    rw [Prod.mk.injEq, Prod.mk.injEq] at this
    rw [this.1, this.2.1, this.2.2, ← hs]

/-! ## replace -/

/-- The loop of `replace` for a non-empty `old` computes the scan `replaceGo` on the rest of the
    text behind what is done (`done`); `fuel > len(rest)` suffices. -/
theorem replaceLoop_text (old : Str) (hold : old ≠ []) (new : AStr.Repl) (hnew : ReplOk new)
    (fuel : Nat) : ∀ (obj : AStr) (count : Int) (nid : Nat) (done rest : Str),
      obj.s = done ++ rest → rest.length + 1 ≤ fuel →
      (AStr.replaceLoop old new fuel obj count
        ((Py.find rest old 0).map (· + done.length)) nid).s =
        done ++ PySpec.replaceGo old (replText new) rest 0 count := by
  induction fuel with
  | zero => intro obj count nid done rest _ h; omega
  | succ fuel ih =>
    intro obj count nid done rest hobj hfuel
    cases hf : Py.find rest old 0 with
    | none =>
      rw [Option.map_none, replaceLoop_none, hobj, PySpec.replaceGo_absent _ _ rest count
        (fun j hj => (find_none_iff _ _ _).mp hf j hj (Nat.zero_le _))]
    | some k =>
      obtain ⟨pre, post, rfl, rfl, hfirst⟩ := find_zero_decomp hf
      rw [Option.map_some, replaceLoop_succ]
      by_cases hc : count = 0
      · rw [if_pos hc, hobj, hc, PySpec.replaceGo_zero]
      · have hstep := step_s old new hnew obj nid (done ++ pre) post
          (by rw [hobj]; simp only [List.append_assoc])
        have hfrom : (done ++ pre).length + new.advance + (if old.isEmpty = true then 1 else 0) =
            (done ++ pre ++ replText new).length + 0 := by
          rw [advance_eq new hnew, if_neg (by simpa using hold), ← List.length_append]
        have hlen : post.length + 1 ≤ fuel := by
          have := List.length_pos_iff.mpr hold
          simp only [List.length_append] at hfuel
          omega
        rw [if_neg hc, Nat.add_comm, ← List.length_append]
        dsimp only
        rw [hfrom, hstep, find_append_skip, ih _ _ _ _ post hstep hlen,
          PySpec.replaceGo_first _ _ hold pre post count hc hfirst]
        simp only [List.append_assoc]

/-- The same for the empty `old`, with `replaceEmpty`. -/
theorem replaceLoop_empty_text (new : AStr.Repl) (hnew : ReplOk new) (fuel : Nat) :
    ∀ (obj : AStr) (count : Int) (nid : Nat) (done rest : Str),
      obj.s = done ++ rest → rest.length + 1 ≤ fuel →
      (AStr.replaceLoop [] new fuel obj count (some done.length) nid).s =
        done ++ PySpec.replaceEmpty (replText new) rest count := by
  induction fuel with
  | zero => intro obj count nid done rest _ h; omega
  | succ fuel ih =>
    intro obj count nid done rest hobj hfuel
    rw [replaceLoop_succ]
    by_cases hc : count = 0
    · rw [if_pos hc, hobj, hc, PySpec.replaceEmpty_zero]
    · have hstep := step_s [] new hnew obj nid done rest (by rw [hobj, List.append_nil])
      have hfrom : done.length + new.advance + (if ([] : Str).isEmpty = true then 1 else 0) =
          (done ++ replText new).length + 1 := by
        rw [advance_eq new hnew, List.length_append]
        rfl
      rw [if_neg hc]
      dsimp only
      rw [hfrom, hstep, find_append_skip, find_empty]
      cases rest with
      | nil =>
        rw [if_neg (show ¬ 1 ≤ ([] : Str).length from Nat.not_succ_le_zero 0), Option.map_none,
          replaceLoop_none, hstep, PySpec.replaceEmpty, if_pos hc, List.append_nil]
      | cons a r =>
        have hidx : 1 + (done ++ replText new).length = (done ++ replText new ++ [a]).length := by
          rw [List.length_append (bs := [a]), Nat.add_comm]
          rfl
        rw [if_pos (show 1 ≤ (a :: r).length from Nat.le_add_left ..), Option.map_some, hidx,
          ih _ _ _ _ r (by rw [hstep]; simp) (by simp at hfuel; omega), PySpec.replaceEmpty,
          if_pos hc]
        simp

/-- `replace(old, new, count)` for either kind of `new` and any `old`: the text is `str.replace`
    with the text `new` stands for (a plain `str` must not contain ESC, see the example below);
    the fuel `len + 2` of the model suffices -/
theorem replace_text_of (x : AStr) (old : Str) (new : AStr.Repl) (hnew : ReplOk new) (count : Int)
    (nid : Nat) : (x.replace old new count nid).s = PySpec.replace x.s old (replText new) count := by
  cases old with
  | nil =>
    have := replaceLoop_empty_text new hnew (x.len + 2) x count nid [] x.s rfl (by simp [AStr.len])
    unfold AStr.replace
    rw [find_empty, if_pos (Nat.zero_le _)]
    simpa [PySpec.replace] using this
  | cons d o =>
    have := replaceLoop_text (d :: o) (List.cons_ne_nil d o) new hnew (x.len + 2) x count nid [] x.s
      rfl (by simp [AStr.len])
    simpa [AStr.replace, PySpec.replace] using this

theorem replace_text (x : AStr) (old : Str) (v : AStr) (count : Int) (nid : Nat) (h : old ≠ []) :
    (x.replace old (.astr v) count nid).s = PySpec.replace x.s old v.s count :=
  replace_text_of x old (.astr v) trivial count nid

theorem replace_text_str (x : AStr) (old raw : Str) (count : Int) (nid : Nat) (h : old ≠ [])
    (hraw : NoEsc raw) :
    (x.replace old (.str raw) count nid).s = PySpec.replace x.s old raw count :=
  replace_text_of x old (.str raw) hraw count nid

theorem replace_text_empty (x : AStr) (new : AStr.Repl) (hnew : ReplOk new) (count : Int) (nid : Nat) :
    (x.replace [] new count nid).s = PySpec.replace x.s [] (replText new) count :=
  replace_text_of x [] new hnew count nid

/-! ## expandtabs -/

/-- `expandtabs(tabsize)`: every tab becomes exactly `tabsize` spaces (the documented deviation
    from `str.expandtabs`, which pads to the next tab stop) -/
theorem expandtabs_text (x : AStr) (k : Int) (nid : Nat) :
    (x.expandtabs k nid).s = PySpec.replace x.s ['\t'] (List.replicate k.toNat ' ') (-1) := by
  unfold AStr.expandtabs
  refine replace_text_str x ['\t'] _ (-1) nid (by simp) ?_
  intro hmem
  have := List.eq_of_mem_replicate hmem
  exact absurd this (by decide)

/-! ## case methods -/

/-- CPython supplies the converted text, the model stores it unchanged -/
theorem mapText_text (x : AStr) (t : Str) : (x.mapText t).s = t := rfl

/-! ## split / rsplit / splitlines -/

theorem split_join (s sep : Str) (m : Int) : joinSep sep (Py.splitSep s sep m) = s :=
  splitSep_join s sep m

theorem rsplit_join (s sep : Str) (m : Int) : joinSep sep (Py.rsplitSep s sep m) = s :=
  rsplitSep_join s sep m

theorem split_maxsplit (s sep : Str) (m : Int) (hm : 0 ≤ m) :
    (Py.splitSep s sep m).length ≤ m.toNat + 1 := by
  rw [← Int.toNat_add_nat hm 1, Int.le_toNat (Int.add_nonneg hm (by decide))]
  exact splitSepAux_length sep _ [] s m hm

theorem rsplit_maxsplit (s sep : Str) (m : Int) (hm : 0 ≤ m) :
    (Py.rsplitSep s sep m).length ≤ m.toNat + 1 := by
  unfold Py.rsplitSep
  rw [List.length_reverse, List.length_map]
  exact split_maxsplit _ _ m hm

/-- The offsets `_split` recovers (`idx = find(piece, idx); idx += len(piece) + len(sep)`) are the
    TRUE offsets: the `k`-th one is the total length of the earlier pieces and separators. -/
theorem pieceOffsets_sep (s sep : Str) (m : Int) (r : Bool) (k : Nat) :
    let ps := if r then Py.rsplitSep s sep m else Py.splitSep s sep m
    (AStr.pieceOffsets s sep.length ps 0)[k]? =
      ps[k]?.map (fun p => (((ps.take k).map (fun q => q.length + sep.length)).sum, p.length)) := by
  intro ps
  rw [(sepPieces_laid s sep m r).1, offsetsFrom_getElem?]
  simp only [Nat.zero_add]
  rfl

/-- … and the slice of the base text taken there is the piece -/
theorem pieceOffsets_sep_slice (s sep : Str) (m : Int) (r : Bool) (k : Nat) (p : Str) :
    let ps := if r then Py.rsplitSep s sep m else Py.splitSep s sep m
    ps[k]? = some p →
    pySlice s (((ps.take k).map (fun q => q.length + sep.length)).sum)
      (((ps.take k).map (fun q => q.length + sep.length)).sum + p.length) = p := by
  intro ps hk
  have := congrArg (·[k]?) (pieceOffsets_text s sep.length ps 0 (sepPieces_laid s sep m r).2)
  simp only [List.getElem?_map] at this
  rw [pieceOffsets_sep s sep m r k, hk] at this
  exact Option.some.inj this

/-- `split(sep, maxsplit)` / `rsplit(sep, maxsplit)` with a non-empty separator: the texts of the
    pieces are the pieces of `str.split` / `str.rsplit` -/
theorem split_text (x : AStr) (sep : Str) (m : Int) (r : Bool) (ps : List AStr) (hsep : sep ≠ [])
    (h : x.splitGen (some sep) m r = .ok ps) :
    ps.map (·.s) = (if r then Py.rsplitSep x.s sep m else Py.splitSep x.s sep m) := by
  cases sep with
  | nil => exact absurd rfl hsep
  | cons c sp =>
    cases h
    rw [piecesAt_s]
    exact pieceOffsets_text x.s _ _ 0 (sepPieces_laid x.s (c :: sp) m r).2

/-- what `str.split` means, in terms of the specification of `partition`: cut at the FIRST
    occurrence of `sep` (unless `maxsplit` is exhausted) and split the rest with `maxsplit - 1`.
    This equation determines `Py.splitSep` uniquely (the rest is shorter), so the model of
    `str.split` — including its fuel — is "repeated `partition`". -/
theorem split_is_repeated_partition (s sep : Str) (hsep : sep ≠ []) (m : Int) :
    Py.splitSep s sep m =
      if m = 0 then [s]
      else match PySpec.splitFirst sep s with
        | none => [s]
        | some ba => ba.1 :: Py.splitSep ba.2 sep (m - 1) := by
  by_cases hm : m = 0
  · rw [if_pos hm, hm]
    exact splitSepAux_zero sep _ [] s
  · rw [if_neg hm]
    have hsp := PySpec.splitFirst_spec sep s
    cases h : PySpec.splitFirst sep s with
    | none =>
      rw [h] at hsp
      exact splitSepAux_absent sep _ [] s m hsp
    | some ba =>
      rw [h] at hsp
      obtain ⟨rfl, hfirst⟩ := hsp
      exact splitSepAux_first sep hsep ba.1 ba.2 [] _ m (Nat.lt_succ_self _) hm hfirst

theorem rsplit_is_mirror (s sep : Str) (m : Int) :
    Py.rsplitSep s sep m = ((Py.splitSep s.reverse sep.reverse m).map List.reverse).reverse := rfl

/-- the empty separator is `str`'s ValueError -/
theorem split_empty_sep (x : AStr) (m : Int) (r : Bool) :
    x.splitGen (some []) m r = .error .valueError := rfl

/-- whitespace splitting (`sep=None`).  The offsets are recovered by a `find` from the previous end;
    they may be EARLIER than the true ones only for an empty piece (none occurs here), and in any
    case the slice found is the piece (`StrLikeL.pieceOffsets_text`). -/
theorem splitWs_text (x : AStr) (m : Int) (r : Bool) (ps : List AStr)
    (h : x.splitGen none m r = .ok ps) :
    ps.map (·.s) = (if r then Py.rsplitWs x.s m else Py.splitWs x.s m) := by
  cases h
  rw [piecesAt_s]
  exact pieceOffsets_sub _ _ (wsPieces_sub x.s m r)

/-- `splitlines(keepends)`: an empty line IS found "early", at the previous end instead of behind the
    line break (see the example below), but its text is empty either way -/
theorem splitlines_text (x : AStr) (keep : Bool) :
    (x.splitlines keep).map (·.s) = Py.splitlines x.s keep := by
  unfold AStr.splitlines
  rw [piecesAt_s]
  exact pieceOffsets_sub _ _ (splitlines_sub x.s keep)

/-! ## `find` / `rfind`, which the scanning specifications are linked to -/

theorem find_first (s sub : Str) (st i : Nat) :
    Py.find s sub st = some i ↔
      i ≤ s.length ∧ st ≤ i ∧ sub.isPrefixOf (s.drop i) = true ∧
        ∀ j, j < i → st ≤ j → sub.isPrefixOf (s.drop j) = false :=
  find_some_iff s sub st i

theorem rfind_last (s sub : Str) (i : Nat) :
    Py.rfind s sub = some i ↔
      i ≤ s.length ∧ sub.isPrefixOf (s.drop i) = true ∧
        ∀ j, i < j → j ≤ s.length → sub.isPrefixOf (s.drop j) = false :=
  rfind_some_iff s sub i

theorem replace_text_any (x : AStr) (old : Str) (v : AStr) (count : Int) (nid : Nat) :
    (x.replace old (.astr v) count nid).s = PySpec.replace x.s old v.s count :=
  replace_text_of x old (.astr v) trivial count nid

theorem replace_text_str_any (x : AStr) (old raw : Str) (count : Int) (nid : Nat) (hraw : NoEsc raw) :
    (x.replace old (.str raw) count nid).s = PySpec.replace x.s old raw count :=
  replace_text_of x old (.str raw) hraw count nid

/-! ## Non-vacuity: the specifications and the model on concrete inputs -/

section Examples

/-- bold on `ab c` -/
private def exX : AStr :=
  { s := "  ab cab  ".toList,
    fmts := [(2, { add := [⟨0, "1".toList⟩] }), (6, { rem := [⟨0, "1".toList⟩] })] }

/-- bold on the first character -/
private def exA (t : String) : AStr :=
  { s := t.toList, fmts := [(0, { add := [⟨0, "1".toList⟩] }), (1, { rem := [⟨0, "1".toList⟩] })] }

example : PySpec.strip Gen.whitespaceChars " \t ab c \n".toList = "ab c".toList := by
  simp only [strLitToList]
  decide +kernel
example : PySpec.lstrip "xy".toList "xyaxy".toList = "axy".toList := by
  simp only [strLitToList]
  decide +kernel
example : PySpec.rstrip "xy".toList "xyaxy".toList = "xya".toList := by
  simp only [strLitToList]
  decide +kernel
example : (exX.stripGen none true true false).s = "ab cab".toList := by
  unfold exX
  simp -proj only [strLitToList]
  decide +kernel
example : (exX.stripGen none false true true).s = "  ab cab".toList := by
  unfold exX
  simp -proj only [strLitToList]
  decide +kernel
/-- the corner case: everything is stripped from the left, `rcount` stays `None` -/
example : ((exA "   ").stripGen none true true false).s = [] ∧
    PySpec.strip Gen.whitespaceChars "   ".toList = [] := by
  simp -proj only [exA, strLitToList]
  decide +kernel

example : PySpec.removeprefix "abcab".toList "ab".toList = "cab".toList := by
  simp only [strLitToList]
  decide +kernel
example : PySpec.removesuffix "abcab".toList "ab".toList = "abc".toList := by
  simp only [strLitToList]
  decide +kernel
example : PySpec.removesuffix "abcab".toList [] = "abcab".toList := by
  simp only [strLitToList]
  decide +kernel
example : PySpec.removeprefix "abcab".toList "b".toList = "abcab".toList := by
  simp only [strLitToList]
  decide +kernel
example : ((exA "abcab").removeprefix "ab".toList).s = "cab".toList := by
  simp -proj only [exA, strLitToList]
  decide +kernel
example : ((exA "abcab").removesuffix "ab".toList).s = "abc".toList := by
  simp -proj only [exA, strLitToList]
  decide +kernel

/-! partition / rpartition (self-overlapping pattern; absent separator) -/
example : PySpec.partition "aaa".toList "aa".toList = ([], "aa".toList, "a".toList) := by
  simp only [strLitToList]
  decide +kernel
example : PySpec.rpartition "aaa".toList "aa".toList = ("a".toList, "aa".toList, []) := by
  simp only [strLitToList]
  decide +kernel
example : PySpec.partition "k=v=w".toList "=".toList = ("k".toList, "=".toList, "v=w".toList) := by
  simp only [strLitToList]
  decide +kernel
example : PySpec.rpartition "k=v=w".toList "=".toList = ("k=v".toList, "=".toList, "w".toList) := by
  simp only [strLitToList]
  decide +kernel
example : PySpec.rpartition "abc".toList "=".toList = ("abc".toList, [], []) := by
  simp only [strLitToList]
  decide +kernel
example : (((exA "aaa").partitionGen "aa".toList true).1.s,
    ((exA "aaa").partitionGen "aa".toList true).2.1.s,
    ((exA "aaa").partitionGen "aa".toList true).2.2.s) = ("a".toList, "aa".toList, []) := by
  simp -proj only [exA, strLitToList]
  decide +kernel

/-! replace (self-overlapping pattern, count, empty `old`) -/
example : PySpec.replace "aaa".toList "aa".toList "b".toList (-1) = "ba".toList := by
  simp only [strLitToList]
  decide +kernel
example : PySpec.replace "aaaa".toList "a".toList "bb".toList 2 = "bbbbaa".toList := by
  simp only [strLitToList]
  decide +kernel
example : PySpec.replace "xabbbb".toList "ab".toList "ab-ab".toList (-1) = "xab-abbbb".toList := by
  simp only [strLitToList]
  decide +kernel
example : PySpec.replace "abc".toList [] "x".toList (-1) = "xaxbxcx".toList := by
  simp only [strLitToList]
  decide +kernel
example : PySpec.replace "abc".toList [] "x".toList 2 = "xaxbc".toList := by
  simp only [strLitToList]
  decide +kernel
example : PySpec.replace "abc".toList "b".toList "x".toList 0 = "abc".toList := by
  simp only [strLitToList]
  decide +kernel
/-- hypotheses of `replace_text` / `replace_text_str` are satisfiable -/
example : "aa".toList ≠ [] ∧ NoEsc "b-".toList := ⟨by decide +kernel, by unfold NoEsc; decide +kernel⟩
example : ((exA "aaa").replace "aa".toList (.astr (exA "b")) (-1) 7).s = "ba".toList := by
  simp -proj only [exA, strLitToList]
  decide +kernel
example : ((exA "aaa").replace "a".toList (.str "b-".toList) 2 7).s = "b-b-a".toList := by
  simp -proj only [exA, strLitToList]
  decide +kernel
example : ((exA "ab").replace [] (.astr (exA "x")) (-1) 7).s = "xaxbx".toList := by
  simp -proj only [exA, strLitToList]
  decide +kernel
/-- `NoEsc raw` is needed: a `str` replacement containing an SGR sequence is parsed (the sequence
    leaves the text; every match is still replaced — the loop advances by the length of what was
    inserted, after the repair of the library) -/
example : ((exA "aba").replace "a".toList (.str "\x1b[4mX".toList) (-1) 7).s = "XbX".toList ∧
    PySpec.replace "aba".toList "a".toList "\x1b[4mX".toList (-1) = "\x1b[4mXb\x1b[4mX".toList := by
  simp -proj only [exA, strLitToList]
  decide +kernel
example : ReplOk (.str "b-".toList) ∧ ReplOk (.astr (exA "x")) :=
  ⟨by show '\x1b' ∉ "b-".toList; decide +kernel, trivial⟩

example : ((exA "a\tb\t").expandtabs 2 7).s = "a  b  ".toList := by
  simp -proj only [exA, strLitToList]
  decide +kernel
example : PySpec.replace "a\tb\t".toList ['\t'] (List.replicate (2 : Int).toNat ' ') (-1) =
    "a  b  ".toList := by
  simp only [strLitToList]
  decide +kernel

/-! split / rsplit (separator occurring inside later pieces; maxsplit; adjacent separators) -/
/-- the hypotheses of `split_text` are satisfiable -/
example : ∃ ps, (exA "xabbbb").splitGen (some "ab".toList) (-1) false = .ok ps ∧
    ps.map (·.s) = ["x".toList, "bbb".toList] := by
  simp -proj only [exA, strLitToList]
  exact ⟨_, rfl, by decide +kernel⟩
example : ∃ ps, (exA "a,b,,c").splitGen (some ",".toList) 2 true = .ok ps ∧
    ps.map (·.s) = ["a,b".toList, [], "c".toList] := by
  simp -proj only [exA, strLitToList]
  exact ⟨_, rfl, by decide +kernel⟩
example : Py.splitSep "abab".toList "ab".toList (-1) = [[], [], []] := by
  simp only [strLitToList]
  decide +kernel
example : Py.splitSep "a,b,c".toList ",".toList 1 = ["a".toList, "b,c".toList] := by
  simp only [strLitToList]
  decide +kernel
example : Py.rsplitSep "a,b,c".toList ",".toList 1 = ["a,b".toList, "c".toList] := by
  simp only [strLitToList]
  decide +kernel
example : AStr.pieceOffsets "a,,bc,".toList 1 (Py.splitSep "a,,bc,".toList ",".toList (-1)) 0 =
    [(0, 1), (2, 0), (3, 2), (6, 0)] := by
  simp only [strLitToList]
  decide +kernel
/-- the hypothesis of `splitWs_text` is satisfiable -/
example : ∃ ps, (exA " a  b ").splitGen none (-1) true = .ok ps ∧
    ps.map (·.s) = ["a".toList, "b".toList] := by
  simp -proj only [exA, strLitToList]
  exact ⟨_, rfl, by decide +kernel⟩
example : ∃ ps, (exA " a  b c ").splitGen none 1 false = .ok ps ∧
    ps.map (·.s) = ["a".toList, "b c ".toList] := by
  simp -proj only [exA, strLitToList]
  exact ⟨_, rfl, by decide +kernel⟩

/-! splitlines: an empty line is found EARLY (offset 1 instead of the true offset 2) — harmless
    for the text, since the piece is empty -/
example : AStr.pieceOffsets "a\n\nb".toList 0 (Py.splitlines "a\n\nb".toList false) 0 =
    [(0, 1), (1, 0), (3, 1)] ∧
    offsetsFrom 1 (Py.splitlines "a\n\nb".toList false) 0 = [(0, 1), (2, 0), (3, 1)] := by
  simp only [strLitToList]
  decide +kernel
example : ((exA "a\r\n\nb\n").splitlines true).map (·.s) =
    ["a\r\n".toList, "\n".toList, "b\n".toList] := by
  simp -proj only [exA, strLitToList]
  decide +kernel
example : ((exA "a\r\n\nb\n").splitlines false).map (·.s) = ["a".toList, [], "b".toList] := by
  simp -proj only [exA, strLitToList]
  decide +kernel

end Examples

#print axioms default_strip_set
#print axioms strip_text
#print axioms removeprefix_text
#print axioms removesuffix_text
#print axioms partition_text
#print axioms rpartition_text
#print axioms partition_lossless
#print axioms replace_text
#print axioms replace_text_str
#print axioms replace_text_empty
#print axioms replace_text_any
#print axioms replace_text_str_any
#print axioms expandtabs_text
#print axioms mapText_text
#print axioms split_join
#print axioms rsplit_join
#print axioms split_maxsplit
#print axioms rsplit_maxsplit
#print axioms pieceOffsets_sep
#print axioms pieceOffsets_sep_slice
#print axioms split_text
#print axioms split_is_repeated_partition
#print axioms split_empty_sep
#print axioms splitWs_text
#print axioms splitlines_text
#print axioms find_first
#print axioms rfind_last

end C10
