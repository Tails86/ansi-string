import AnsiProofs.Lemmas.Scrub
/-
  Property C14 — all documented spellings of a setting (member, name, integer codes, verbatim,
  rgb()/color256() helpers and strings, `;`-separated directives, nested lists) yield the same
  settings; malformed input is rejected with ValueError / TypeError.

  Model: `Scrub.scrub : SArg → Except PyErr (List Str)` (`_scrub_ansi_settings`; the result is the
  list of the texts of the AnsiSettings produced, in order).  `Gen.formatTable` is
  `AnsiFormat.__members__` as (name, texts of `member.ansi_settings`).

  Facts about the generated table are linear Boolean passes, decided in the kernel
  (`ScrubL.table_checks`), and lifted by generic lemmas of `AnsiProofs/Lemmas/Scrub.lean`.
-/
open ScrubL

namespace C14

/-! ## The member table: sorted, name alphabet, lookup is total on members -/

/-- adjacent names are strictly ascending (lexicographic order on code points, `ScrubL.ltStr`) -/
theorem format_table_sorted : ascKeys Gen.formatTable = true := table_asc

theorem format_names_charset : ∀ r ∈ Gen.formatTable, r.1 ≠ [] ∧
    ∀ c ∈ r.1, ('A' ≤ c ∧ c ≤ 'Z') ∨ ('0' ≤ c ∧ c ≤ '9') ∨ c = '_' := by
  intro r hr
  obtain ⟨hne, hc⟩ := nameOk_chars (nameOk_of_mem hr)
  exact ⟨hne, fun c hc' => by simpa [isNameChar, or_assoc] using hc c hc'⟩

/-- `AnsiFormat[name]` of a member's name is that member (no name occurs twice) -/
theorem name_lookup_total : ∀ r ∈ Gen.formatTable, Scrub.lookupFormat r.1 = some r.2 :=
  fun _ hr => lookup_of_mem hr

set_option maxRecDepth 100000 in
example : ("BOLD".toList, ["1".toList]) ∈ Gen.formatTable := bold_mem

/-! ## Spelling of names: letter case, spaces and hyphens for underscores -/

/-- how one character of a name may be written -/
def VarChar (n c : Char) : Prop :=
  (('A' ≤ n ∧ n ≤ 'Z') → c = n ∨ c.toNat = n.toNat + 32) ∧     -- the letter in either case
  (n = '_' → c = '_' ∨ c = '-' ∨ c = ' ') ∧
  (('0' ≤ n ∧ n ≤ '9') → c = n)

/-- `v` is a spelling of `name` -/
def Variant : Str → Str → Prop
  | [], [] => True
  | n :: ns, c :: cs => VarChar n c ∧ Variant ns cs
  | [], _ :: _ => False
  | _ :: _, [] => False

instance (n c : Char) : Decidable (VarChar n c) := by unfold VarChar; exact inferInstance

instance decVariant : (a b : Str) → Decidable (Variant a b)
  | [], [] => isTrue trivial
  | n :: ns, c :: cs =>
    have := decVariant ns cs
    inferInstanceAs (Decidable (VarChar n c ∧ Variant ns cs))
  | [], _ :: _ => isFalse id
  | _ :: _, [] => isFalse id

/-- `format.upper().replace(' ', '_').replace('-', '_')` maps every spelling back to the name -/
theorem spelling_norm : ∀ (name v : Str), Variant name v →
    (∀ c ∈ name, ('A' ≤ c ∧ c ≤ 'Z') ∨ ('0' ≤ c ∧ c ≤ '9') ∨ c = '_') → Scrub.normName v = name
  | [], [], _, _ => rfl
  | n :: ns, c :: cs, ⟨h, ht⟩, hc => by
    have hn : isNameChar n = true := by
      have := hc n (by simp)
      simpa [isNameChar, or_assoc] using this
    rw [normName_cons, normChar_variant n c hn h.1 h.2.1 h.2.2,
      spelling_norm ns cs ht (fun c hc' => hc c (List.mem_cons_of_mem _ hc'))]
  | [], _ :: _, h, _ => absurd h id
  | _ :: _, [], h, _ => absurd h id

/-- a member and every spelling of its name give the member's settings -/
theorem spelling_equiv_name {r : Str × List Str} {v : Str} (hr : r ∈ Gen.formatTable)
    (hv : Variant r.1 v) :
    Scrub.scrub (.str v) = .ok r.2 ∧ Scrub.scrub (.member r.1) = .ok r.2 := by
  have hnorm := spelling_norm r.1 v hv (format_names_charset r hr).2
  obtain ⟨h1, h2⟩ := name_string_facts (hnorm ▸ nameOk_of_mem hr)
  exact ⟨scrub_str_name h1 h2 (hnorm ▸ lookup_of_mem hr), scrub_member hr⟩

example : Variant "ALICE_BLUE".toList "Alice-blue".toList := by decide +kernel
example : Variant "ALT_FONT_1".toList "alt font_1".toList := by decide +kernel
example : ¬ Variant "ALICE_BLUE".toList "ALICE+BLUE".toList := by decide +kernel
example : ("ALICE_BLUE".toList, ["38;2;240;248;255".toList]) ∈ Gen.formatTable := by
  unfold Gen.formatTable; exact List.mem_cons_self ..

/-! ## A member's integer codes, as ints or as one `;`-separated string -/

theorem codes_string_eq_ints {l : List Nat} (h : l ≠ []) :
    Scrub.scrub (.str (Scrub.joinNats l)) = Scrub.scrub (.list (l.map (fun (n : Nat) => SArg.int (n : Int)))) :=
  scrub_codes_string h

example : ([38, 5, 1] : List Nat) ≠ [] := by decide

/-- the integer codes of a member's setting texts, flattened in order -/
def memberCodes (ts : List Str) : List Nat :=
  ts.flatMap (fun t => (SettingTxt.toList t).filterMap
    (fun c => match c with | .int i => some i.toNat | .str _ => none))

/-- Every member text is one parsable group in canonical spelling (`ScrubL.table_rows`, one linear
    pass), and `parse_graphic_sequence` gives canonical texts back from their codes
    (`ScrubL.scrub_codes_of_canonical`). -/
theorem spelling_equiv_codes : ∀ r ∈ Gen.formatTable,
    Scrub.scrub (.list ((memberCodes r.2).map (fun (n : Nat) => SArg.int (n : Int)))) = .ok r.2 ∧
    Scrub.scrub (.str (joinSep [';'] r.2)) = .ok r.2 := by
  intro r hr
  obtain ⟨hne, hc⟩ := row_facts hr
  have hl := scrub_codes_of_canonical hne hc
  have hj := joinSep_canonical hne hc
  rw [show r.2.flatMap codeVals = memberCodes r.2 from rfl] at hl hj
  have hm : memberCodes r.2 ≠ [] := by
    intro e
    rw [e] at hl
    exact hne (Except.ok.inj hl).symm
  exact ⟨hl, by rw [show joinSep [';'] r.2 = _ from hj, codes_string_eq_ints hm]; exact hl⟩

/-! ## Verbatim form and AnsiSetting objects -/

theorem verbatim_form {t : Str} (ht : t ≠ []) : Scrub.scrub (.str ('[' :: t)) = .ok [t] := scrub_verbatim ht

theorem obj_form (t : Str) : Scrub.scrub (.obj t) = .ok [t] := scrub_obj t

/-- the codes of a member written verbatim after `[` give the single setting whose text is the
    `;`-join of the member's texts -/
theorem member_verbatim {r : Str × List Str} (hr : r ∈ Gen.formatTable) :
    Scrub.scrub (.str ('[' :: joinSep [';'] r.2)) = .ok [joinSep [';'] r.2] := by
  apply verbatim_form
  obtain ⟨hne, hc⟩ := row_facts hr
  obtain ⟨t, ts, e⟩ := List.exists_cons_of_ne_nil hne
  obtain ⟨ht, _, c, tl, hv, _⟩ := canonical_group (hc t (by simp [e]))
  rw [e]
  apply joinSep_cons_ne_nil
  rw [← ht, hv]
  exact joinSep_cons_ne_nil (natStr_ok c).1

example : ("a".toList : Str) ≠ [] := by decide

/-! ## rgb(...) and colo[u]r256(...) strings -/

/- Each spelling below is `ScrubL.scrub_rgb3` / `color256_forms_gen` with the prefix put in. -/

theorem rgb_forms (r g b : Nat) :
    Scrub.scrub (.str ("rgb(".toList ++ Py.natStr r ++ [','] ++ Py.natStr g ++ [','] ++ Py.natStr b ++ [')'])) =
      .ok [Scrub.joinNats [38, 2, min 255 r, min 255 g, min 255 b]] := by
  have h := scrub_rgb3 (pfx := []) (by simp only [prefixes, List.mem_cons, true_or]) r g b
  simp only [strLitToList] at h ⊢
  exact h

theorem rgb_forms_fg (r g b : Nat) :
    Scrub.scrub (.str ("fg_rgb(".toList ++ Py.natStr r ++ [','] ++ Py.natStr g ++ [','] ++ Py.natStr b ++ [')'])) =
      .ok [Scrub.joinNats [38, 2, min 255 r, min 255 g, min 255 b]] := by
  have h := scrub_rgb3 (pfx := "fg_".toList) (by simp only [prefixes, List.mem_cons, true_or, or_true]) r g b
  simp only [strLitToList] at h ⊢
  exact h

theorem rgb_forms_bg (r g b : Nat) :
    Scrub.scrub (.str ("bg_rgb(".toList ++ Py.natStr r ++ [','] ++ Py.natStr g ++ [','] ++ Py.natStr b ++ [')'])) =
      .ok [Scrub.joinNats [48, 2, min 255 r, min 255 g, min 255 b]] := by
  have h := scrub_rgb3 (pfx := "bg_".toList) (by simp only [prefixes, List.mem_cons, true_or, or_true]) r g b
  simp only [strLitToList] at h ⊢
  exact h

/-- `ul_rgb(r,g,b)` also switches underline on -/
theorem rgb_forms_ul (r g b : Nat) :
    Scrub.scrub (.str ("ul_rgb(".toList ++ Py.natStr r ++ [','] ++ Py.natStr g ++ [','] ++ Py.natStr b ++ [')'])) =
      .ok ["4".toList, Scrub.joinNats [58, 2, min 255 r, min 255 g, min 255 b]] := by
  have h := scrub_rgb3 (pfx := "ul_".toList) (by simp only [prefixes, List.mem_cons, true_or, or_true]) r g b
  simp only [strLitToList] at h ⊢
  exact h

/-- `dul_rgb(r,g,b)` also switches double underline on -/
theorem rgb_forms_dul (r g b : Nat) :
    Scrub.scrub (.str ("dul_rgb(".toList ++ Py.natStr r ++ [','] ++ Py.natStr g ++ [','] ++ Py.natStr b ++ [')'])) =
      .ok ["21".toList, Scrub.joinNats [58, 2, min 255 r, min 255 g, min 255 b]] := by
  have h := scrub_rgb3 (pfx := "dul_".toList) (by simp only [prefixes, List.mem_cons, true_or, or_true]) r g b
  simp only [strLitToList] at h ⊢
  exact h

theorem rgb_split24 (v : Nat) :
    Scrub.scrub (.str ("rgb(".toList ++ Py.natStr v ++ [')'])) =
      .ok [Scrub.joinNats [38, 2, (v / 65536) % 256, (v / 256) % 256, v % 256]] := by
  have e : "rgb(".toList = ['r','g','b','('] := by simp only [strLitToList]
  rw [List.append_assoc]
  apply scrub_str_rgb _ _ _ (parse_rgb1 v)
  · simp [e, semi_not_mem_natStr]
  · simp [e]
  · simp [e]

/-- all spellings `[fg_|bg_|ul_|dul_]colo[u]r256(n)` at once (`u` = British spelling) -/
theorem color256_forms_gen (pfx : Str) (hp : pfx ∈ prefixes) (u : Bool) (n : Nat) :
    Scrub.scrub (.str (pfx ++ ("colo".toList ++ ((if u then ['u'] else []) ++ ("r256(".toList ++ (Py.natStr n ++ [')'])))))) =
      .ok (Scrub.colorSettings (Scrub.component (some pfx)) false [n]) := by
  have e : "colo".toList = ['c','o','l','o'] := by simp only [strLitToList]
  have e2 : "r256(".toList = ['r','2','5','6','('] := by simp only [strLitToList]
  apply scrub_str_rgb _ _ _ (parse_color pfx hp u n)
  · cases u <;> simp [e, e2, semi_not_mem_prefix hp, semi_not_mem_natStr]
  · simp [e2]
  · rw [e]; exact prefix_head hp 'c' _ (by decide)

example : "ul_".toList ∈ prefixes := by simp [prefixes]

theorem color256_forms (n : Nat) :
    Scrub.scrub (.str ("color256(".toList ++ Py.natStr n ++ [')'])) =
      .ok [Scrub.joinNats [38, 5, n]] := by
  have h := color256_forms_gen [] (by simp only [prefixes, List.mem_cons, true_or]) false n
  simp only [strLitToList] at h ⊢
  exact h

theorem colour256_forms (n : Nat) :
    Scrub.scrub (.str ("colour256(".toList ++ Py.natStr n ++ [')'])) =
      .ok [Scrub.joinNats [38, 5, n]] := by
  have h := color256_forms_gen [] (by simp only [prefixes, List.mem_cons, true_or]) true n
  simp only [strLitToList] at h ⊢
  exact h

theorem color256_forms_fg (n : Nat) :
    Scrub.scrub (.str ("fg_color256(".toList ++ Py.natStr n ++ [')'])) =
      .ok [Scrub.joinNats [38, 5, n]] := by
  have h := color256_forms_gen "fg_".toList (by simp only [prefixes, List.mem_cons, true_or, or_true]) false n
  simp only [strLitToList] at h ⊢
  exact h

theorem color256_forms_bg (n : Nat) :
    Scrub.scrub (.str ("bg_color256(".toList ++ Py.natStr n ++ [')'])) =
      .ok [Scrub.joinNats [48, 5, n]] := by
  have h := color256_forms_gen "bg_".toList (by simp only [prefixes, List.mem_cons, true_or, or_true]) false n
  simp only [strLitToList] at h ⊢
  exact h

theorem colour256_forms_bg (n : Nat) :
    Scrub.scrub (.str ("bg_colour256(".toList ++ Py.natStr n ++ [')'])) =
      .ok [Scrub.joinNats [48, 5, n]] := by
  have h := color256_forms_gen "bg_".toList (by simp only [prefixes, List.mem_cons, true_or, or_true]) true n
  simp only [strLitToList] at h ⊢
  exact h

theorem color256_forms_ul (n : Nat) :
    Scrub.scrub (.str ("ul_color256(".toList ++ Py.natStr n ++ [')'])) =
      .ok ["4".toList, Scrub.joinNats [58, 5, n]] := by
  have h := color256_forms_gen "ul_".toList (by simp only [prefixes, List.mem_cons, true_or, or_true]) false n
  simp only [strLitToList] at h ⊢
  exact h

theorem color256_forms_dul (n : Nat) :
    Scrub.scrub (.str ("dul_color256(".toList ++ Py.natStr n ++ [')'])) =
      .ok ["21".toList, Scrub.joinNats [58, 5, n]] := by
  have h := color256_forms_gen "dul_".toList (by simp only [prefixes, List.mem_cons, true_or, or_true]) false n
  simp only [strLitToList] at h ⊢
  exact h

/-- the helper results `AnsiFormat.rgb(r,g,b)` / `.color256(n)` passed as a list of AnsiSettings -/
theorem helper_result_form (ts : List Str) : Scrub.scrub (.list (ts.map SArg.obj)) = .ok ts := by
  have : ∀ ts : List Str, Scrub.scrubItems (ts.map SArg.obj) = .ok (ts.map SOut.setting) := by
    intro ts
    induction ts with
    | nil => rfl
    | cons t ts ih => simp [Scrub.scrubItems, Scrub.scrubItem, ih, bind, Except.bind, pure, Except.pure]
  simp [Scrub.scrub, this, bind, Except.bind, pure, Except.pure, combineInts_settings]

/- remaining spellings (hex with `0x`, brackets, spaces), on instances: the string is recognised by
   `_parse_rgb_string` (evaluated in the kernel on the spelled-out characters) and `scrub` returns
   exactly its settings (`ScrubL.scrub_str_rgb`) -/
example : Scrub.scrub (.str "rgb(0xff, 0x80, 0x0)".toList) = .ok ["38;2;255;128;0".toList] := by
  simp only [strLitToList]
  exact scrub_str_rgb (by decide +kernel) (by decide +kernel) (by decide +kernel) (by decide +kernel)
example : Scrub.scrub (.str "rgb([ 1 , 2 , 3 ])".toList) = .ok ["38;2;1;2;3".toList] := by
  simp only [strLitToList]
  exact scrub_str_rgb (by decide +kernel) (by decide +kernel) (by decide +kernel) (by decide +kernel)
example : Scrub.scrub (.str "bg_rgb(0x102030)".toList) = .ok ["48;2;16;32;48".toList] := by
  simp only [strLitToList]
  exact scrub_str_rgb (by decide +kernel) (by decide +kernel) (by decide +kernel) (by decide +kernel)
example : Scrub.scrub (.str "rgb(300,0,0)".toList) = .ok ["38;2;255;0;0".toList] := by
  simp only [strLitToList]
  exact scrub_str_rgb (by decide +kernel) (by decide +kernel) (by decide +kernel) (by decide +kernel)
example : Scrub.scrub (.str "ul_colour256( 0x10 )".toList) = .ok ["4".toList, "58;5;16".toList] := by
  simp only [strLitToList]
  exact scrub_str_rgb (by decide +kernel) (by decide +kernel) (by decide +kernel) (by decide +kernel)
example : Scrub.scrub (.str "dul_color256([7])".toList) = .ok ["21".toList, "58;5;7".toList] := by
  simp only [strLitToList]
  exact scrub_str_rgb (by decide +kernel) (by decide +kernel) (by decide +kernel) (by decide +kernel)

/-! ## Lists flatten in order; several directives in one string -/

theorem flatten_nested (l₁ l₂ : List SArg) :
    Scrub.scrubItems (l₁ ++ l₂) =
      (do let a ← Scrub.scrubItems l₁; let b ← Scrub.scrubItems l₂; pure (a ++ b)) :=
  scrubItems_append l₁ l₂

/-- one extra level of list around the whole argument changes nothing -/
theorem scrub_nested_singleton (l : List SArg) : Scrub.scrub (.list [.list l]) = Scrub.scrub (.list l) :=
  ScrubL.scrub_nested_singleton l

/-- a nested list whose elements produce settings only (no bare integers) may be spliced in place -/
theorem flatten_settings_only {pre post l : List SArg} {ts : List Str}
    (h : Scrub.scrubItems l = .ok (ts.map SOut.setting)) :
    Scrub.scrub (.list (pre ++ [.list l] ++ post)) = Scrub.scrub (.list (pre ++ l ++ post)) := by
  have e := scrubItem_list_of_settings h
  simp only [Scrub.scrub, scrubItems_append, Scrub.scrubItems, e]
  cases Scrub.scrubItems pre <;> cases Scrub.scrubItems l <;> cases Scrub.scrubItems post <;>
    simp [bind, Except.bind, pure, Except.pure]

example : Scrub.scrubItems [.obj "1".toList, .obj "38;5;3".toList] =
    .ok (["1".toList, "38;5;3".toList].map SOut.setting) := by decide +kernel

/-- bare integers do *not* splice across a list boundary: `[38, [5, 1]]` ≠ `[38, 5, 1]` -/
example : Scrub.scrub (.list [.int 38, .list [.int 5, .int 1]]) ≠ Scrub.scrub (.list [.int 38, .int 5, .int 1]) := by
  decide +kernel

/-- `a;b`: the first directive, then the rest of the string processed the same way -/
theorem multi_directive {a b : Str} (hne : a ≠ []) (hb : a.head? ≠ some '[') (hs : ';' ∉ a) :
    Scrub.scrubString (a ++ [';'] ++ b) =
      (do let r ← Scrub.scrubDirective a
          let rs ← scrubDirectives (Py.splitOnChar ';' b)
          pure (r ++ rs)) := by
  rw [List.append_assoc, List.singleton_append]; exact scrubString_multi hb hs

/-- … and when `b` does not start with `[`, "the same way" is `_scrub_ansi_format_string(b)` -/
theorem multi_directive' {a b : Str} (hne : a ≠ []) (hb : a.head? ≠ some '[') (hs : ';' ∉ a)
    (hb' : b.head? ≠ some '[') :
    Scrub.scrubString (a ++ [';'] ++ b) =
      (do let r ← Scrub.scrubDirective a; let rs ← Scrub.scrubString b; pure (r ++ rs)) := by
  rw [multi_directive hne hb hs, scrubString_as_directives hb']

example : ("1;bold".toList : Str).head? ≠ some '[' := by decide +kernel
example : ("bold".toList : Str) ≠ [] ∧ ("bold".toList : Str).head? ≠ some '[' ∧ ';' ∉ ("bold".toList : Str) := by
  decide +kernel

/-! ## Rejections -/

theorem reject_negative_int {i : Int} (h : i < 0) : Scrub.scrub (.int i) = .error .valueError :=
  scrub_neg_int h

example : (-1 : Int) < 0 := by decide

theorem reject_type (t : Bool) : Scrub.scrub (.bad t) = .error .typeError := scrub_bad t

theorem reject_selfref {pre post : List SArg} {p : List SOut} (hp : Scrub.scrubItems pre = .ok p) :
    Scrub.scrub (.list (pre ++ [.selfRef] ++ post)) = .error .valueError :=
  scrub_list_err hp rfl

theorem reject_in_list {pre post : List SArg} {p : List SOut} (t : Bool) (hp : Scrub.scrubItems pre = .ok p) :
    Scrub.scrub (.list (pre ++ [.bad t] ++ post)) = .error .typeError :=
  scrub_list_err hp rfl

example : Scrub.scrubItems [.int 1, .obj "38;5;3".toList] = .ok [.int 1, .setting "38;5;3".toList] := by decide +kernel

/- The remaining rejections are instances.  They are *not* proved by evaluating `Scrub.scrub` in
   the kernel (that would evaluate the name lookup over the whole member table each time) but
   from the facts "not a member name", "`_parse_rgb_string` returns None / raises" and "`int()`
   fails / is negative", each evaluated in the kernel. -/

set_option maxRecDepth 100000 in
theorem nope_rejected : Scrub.scrubDirective "nope".toList = .error .valueError := by
  have hn : Scrub.normName "nope".toList = "NOPE".toList := by decide +kernel
  apply scrubDirective_unknown _ (by decide +kernel) (by decide +kernel) (by decide +kernel)
  rw [hn]
  exact lookup_none_of_all_ne (by scrubl_table_decide)

theorem reject_unknown_name : Scrub.scrub (.str "nope".toList) = .error .valueError :=
  scrub_str_single_error (by decide +kernel) (by decide +kernel) nope_rejected

theorem reject_negative_text : Scrub.scrub (.str "-1".toList) = .error .valueError :=
  scrub_str_single_error (by decide +kernel) (by decide +kernel)
    (scrubDirective_unknown (lookup_none_of_not_nameOk (by decide +kernel)) (by decide +kernel)
      (by decide +kernel) (by decide +kernel))

/-- too few components: no pattern matches and it is not an integer -/
theorem reject_malformed_rgb : Scrub.scrub (.str "rgb(1,2)".toList) = .error .valueError := by
  simp only [strLitToList]
  exact scrub_str_paren_error (by decide +kernel) (by decide +kernel) (by decide +kernel)

/-- hex digits without `0x`: the pattern matches but `int(_, 10)` raises -/
theorem reject_malformed_rgb_hex : Scrub.scrub (.str "rgb(ff,0,0)".toList) = .error .valueError := by
  simp only [strLitToList]
  exact scrub_str_single_error (by decide +kernel) (by decide +kernel)
    (scrubDirective_rgb_error (lookup_none_of_char (c := '(') (by decide +kernel) (by decide))
      (by decide +kernel))

theorem reject_second_directive : Scrub.scrub (.str "red;nope".toList) = .error .valueError := by
  have hred : Scrub.scrubDirective "red".toList = .ok (["31".toList].map .setting) := by
    apply scrubDirective_of_lookup
    rw [(by decide +kernel : Scrub.normName "red".toList = "RED".toList)]
    exact lookup_of_mem (r := (_, _)) red_mem
  rw [(by decide +kernel : "red;nope".toList = "red".toList ++ ';' :: "nope".toList)]
  exact scrub_str_multi_error_snd (by decide +kernel) (by decide +kernel) (by decide +kernel)
    hred nope_rejected

theorem reject_empty_verbatim : Scrub.scrub (.str "[".toList) = .error .valueError := by decide +kernel

/-- a `)` is not an opening bracket (defect D35: a character class of the code contained it) -/
theorem reject_stray_close_bracket :
    Scrub.scrub (.str "rgb()1,2,3)".toList) = .error .valueError ∧
    Scrub.scrub (.str "ul_color256()17)".toList) = .error .valueError ∧
    Scrub.scrub (.str "rgb((1,2,3))".toList) = .ok ["38;2;1;2;3".toList] ∧
    Scrub.scrub (.str "rgb([1,2,3])".toList) = .ok ["38;2;1;2;3".toList] := by
  simp only [strLitToList]
  exact ⟨scrub_str_paren_error (by decide +kernel) (by decide +kernel) (by decide +kernel),
    scrub_str_paren_error (by decide +kernel) (by decide +kernel) (by decide +kernel),
    scrub_str_rgb (by decide +kernel) (by decide +kernel) (by decide +kernel) (by decide +kernel),
    scrub_str_rgb (by decide +kernel) (by decide +kernel) (by decide +kernel) (by decide +kernel)⟩

end C14

#print axioms C14.format_table_sorted
#print axioms C14.format_names_charset
#print axioms C14.name_lookup_total
#print axioms C14.spelling_norm
#print axioms C14.spelling_equiv_name
#print axioms C14.codes_string_eq_ints
#print axioms C14.spelling_equiv_codes
#print axioms C14.verbatim_form
#print axioms C14.obj_form
#print axioms C14.member_verbatim
#print axioms C14.rgb_forms
#print axioms C14.rgb_forms_fg
#print axioms C14.rgb_forms_bg
#print axioms C14.rgb_forms_ul
#print axioms C14.rgb_forms_dul
#print axioms C14.rgb_split24
#print axioms C14.color256_forms_gen
#print axioms C14.color256_forms
#print axioms C14.colour256_forms
#print axioms C14.color256_forms_fg
#print axioms C14.color256_forms_bg
#print axioms C14.colour256_forms_bg
#print axioms C14.color256_forms_ul
#print axioms C14.color256_forms_dul
#print axioms C14.helper_result_form
#print axioms C14.flatten_nested
#print axioms C14.scrub_nested_singleton
#print axioms C14.flatten_settings_only
#print axioms C14.multi_directive
#print axioms C14.multi_directive'
#print axioms C14.reject_negative_int
#print axioms C14.reject_type
#print axioms C14.reject_selfref
#print axioms C14.reject_in_list
#print axioms C14.reject_unknown_name
#print axioms C14.reject_negative_text
#print axioms C14.reject_malformed_rgb
#print axioms C14.reject_malformed_rgb_hex
#print axioms C14.reject_second_directive
#print axioms C14.reject_empty_verbatim
#print axioms C14.reject_stray_close_bracket
