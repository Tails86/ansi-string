import AnsiProofs.Props.C19
import AnsiProofs.Lemmas.PyParse
import AnsiModel.Generated.Methods.ParsePrims
import AnsiModel.Generated.Methods.Tokenize
import AnsiModel.Generated.Methods.FormattedStr

/-
  Property C19, part c — the *generated* (statement-by-statement translated, `harness/pyparse.py`)
  `ParsedAnsiControlSequenceString.__init__` (the tokenizer) and `.formatted_str` of ansi_parsing.py compute
  exactly what the hand-written model says (`tokenize` = `tokLoop … .text s {}`, `Parsed.formatted` of
  `AnsiModel/Parse.lean`): the same unformatted text, the same sequences in the same order under the same
  positions, for every input string, both values of `allow_empty_terminator` and every
  `acceptable_terminators` (absent or any string).  Nothing raises: `s[i]` (IndexError), `ord(s[i])`
  (TypeError), `self.sequences[idx].append(…)` (KeyError), a negative key (outside the model).

  The object is the model's `Parsed` itself (`_s` = `text`, `sequences` = `seqs`: a dict kept in insertion
  order, `PyParse.seqsHas/seqsAppend/seqsSet/seqsItems`).  The two nested `while` loops of the source are
  `PyParse.whileM fuel_ <test> <round> <state>`; `fuel_` bounds the number of rounds (running out is
  `Exc.outside`).  `tokenize_is_code` holds for every `fuel_ ≥ len(s)`: that the scan ends within `len(s)`
  rounds is proved, not assumed (`tokenize_needs_fuel`: with less it does run out).

  How the index-driven scan meets the model (`tokLoop`, structural on the rest of the input):
  `Lemmas/Tokenize.lean` reads the model round by round (`tokLoop_rounds`: a character that does not open
  `ESC [`, or `ESC [`, a run of parameter characters and the end or a final byte; `Parsed.finish`: the
  candidate is recorded or put back), with `Parsed.Ordered` (keys strictly ascending, none beyond the text).
  In `namespace L`, which mentions nothing generated, the tests and rounds of the two `while` loops are
  arbitrary functions meeting a spec (`ScanSpec`, `RoundSpec`) stated on `s = pre ++ rest`, `i = len(pre)`,
  one clause for each kind of round; `FmtSpec` does the same for the outer `for` of `formatted_str`.
-/

-- some simp arguments are there for other shapes the source may take
set_option linter.unusedSimpArgs false

namespace C19c
namespace L

/-! ### primitives -/

theorem ordStr_one (c : Char) : PyParse.ordStr [c] = .ok (c.toNat : Int) := rfl

/-! ### the acceptance test -/

theorem findFrom_nil_sub : ∀ (s : Str) (pos : Nat), (Py.findFrom s [] pos 0).isSome = true
  | [], pos => by simp [Py.findFrom]
  | c :: s, pos => by simp [Py.findFrom, Py.startsWith]

theorem findFrom_one (c : Char) : ∀ (s : Str) (pos : Nat), (Py.findFrom s [c] pos 0).isSome = s.contains c
  | [], pos => by simp [Py.findFrom]
  | d :: s, pos => by
    unfold Py.findFrom
    by_cases h : d = c
    · subst h; simp [Py.startsWith]
    · have h' : (d == c) = false := by simpa using h
      have h'' : ¬ (c = d) := fun e => h e.symm
      simp only [Nat.zero_le, true_and, Py.startsWith, h', Bool.false_and, Bool.false_eq_true, ↓reduceIte]
      rw [findFrom_one c s (pos + 1)]
      simp [h'']

theorem strIn_nil (s : Str) : PyParse.strIn [] s = true := by
  unfold PyParse.strIn Py.find; exact findFrom_nil_sub s 0

theorem strIn_one (c : Char) (s : Str) : PyParse.strIn [c] s = s.contains c := by
  unfold PyParse.strIn Py.find; exact findFrom_one c s 0

/-- `(terminator or allow_empty_terminator) and (acceptable_terminators is None or terminator in
    acceptable_terminators)`, with `in` the substring test of `str` -/
theorem accept_none (allow : Bool) (term : Str) : acceptSeq allow none term = (!term.isEmpty || allow) := by
  simp [acceptSeq]

theorem accept_some (allow : Bool) (a : Str) : ∀ (term : Str), term.length ≤ 1 →
    acceptSeq allow (some a) term = ((!term.isEmpty || allow) && PyParse.strIn term a)
  | [], _ => by simp [acceptSeq, strIn_nil]
  | [c], _ => by simp [acceptSeq, strIn_one]

/-! ### the dictionary `sequences`

Under `Parsed.Ordered`, "`idx in self.sequences`" at `idx = len(self._s)` is "the last key is `idx`",
so both ways of recording are the model's `record` (which looks at the last entry only). -/

theorem seqsHas_nat (d : List (Nat × List CtlSeq)) (k : Nat) :
    PyParse.seqsHas d (k : Int) = d.any (fun kv => kv.1 == k) := by
  simp [PyParse.seqsHas]

/-- `idx in self.sequences` and `self.sequences[idx].append(x)`, at `idx = len(self._s)` -/
theorem append_present {p : Parsed} (h : p.Ordered) (c : CtlSeq)
    (hh : PyParse.seqsHas p.seqs (p.text.length : Int) = true) :
    PyParse.seqsAppend p.seqs (p.text.length : Int) c = .ok (p.record c).seqs := by
  unfold PyParse.seqsAppend
  rw [if_pos hh]
  rw [seqsHas_nat] at hh
  rcases Parsed.record_cases p c with ⟨init, l, hseq, hr⟩ | ⟨hcase, hr⟩
  · rw [hr, hseq]
    have hi := Parsed.key_lt_last (hseq ▸ h.asc)
    simp only [Int.toNat_natCast, List.map_append, List.map_cons, List.map_nil, beq_self_eq_true, ↓reduceIte]
    congr 2
    have hid : ∀ kv ∈ init, (if (kv.1 == p.text.length) = true then (kv.1, kv.2 ++ [c]) else kv) = id kv := by
      intro kv hkv
      simp [beq_false_of_ne (Nat.ne_of_lt (hi kv hkv))]
    rw [List.map_congr_left hid, List.map_id]
  · exfalso
    rcases hcase with hnil | ⟨init, k, l, hseq, hne⟩
    · rw [hnil] at hh; simp at hh
    · have hkl : k ≤ p.text.length := h.keysLe (k, l) (by rw [hseq]; simp)
      have hi := Parsed.key_lt_last (hseq ▸ h.asc)
      rw [hseq] at hh
      simp only [List.any_append, List.any_cons, List.any_nil, Bool.or_false, Bool.or_eq_true, List.any_eq_true, beq_iff_eq] at hh
      rcases hh with ⟨kv, hkv, he⟩ | he
      · exact Nat.not_lt_of_le hkl (he ▸ hi kv hkv)
      · exact hne he

/-- `idx not in self.sequences` and `self.sequences[idx] = [x]`, at `idx = len(self._s)` -/
theorem set_absent (p : Parsed) (c : CtlSeq)
    (hh : PyParse.seqsHas p.seqs (p.text.length : Int) = false) :
    PyParse.seqsSet p.seqs (p.text.length : Int) [c] = .ok (p.record c).seqs := by
  unfold PyParse.seqsSet
  have h0 : ¬ ((p.text.length : Int) < 0) := by omega
  rw [if_neg h0, hh]
  simp only [Bool.false_eq_true, ↓reduceIte, Int.toNat_natCast]
  rw [seqsHas_nat] at hh
  rcases Parsed.record_cases p c with ⟨init, l, hseq, hr⟩ | ⟨hcase, hr⟩
  · exfalso
    rw [hseq] at hh
    simp at hh
  · rw [hr]

theorem record_with (p : Parsed) (c : CtlSeq) : ({ p with seqs := (p.record c).seqs } : Parsed) = p.record c := by
  rcases Parsed.record_cases p c with ⟨init, l, hseq, hr⟩ | ⟨hcase, hr⟩ <;> rw [hr]

theorem push_with (p : Parsed) (s : Str) : ({ p with text := p.text ++ s } : Parsed) = p.push s := rfl

/-! ### the inner `while`: the parameter characters -/

/-- what the test and a round of the inner loop have to do, whatever they look like; the state is
    `(i, current_seq)`, the cursor `i` given by what has been read (`pre`) -/
def ScanSpec (s : Str) (cond : Int × Str → Except Exc Bool) (body : Int × Str → Except Exc (Int × Str)) : Prop :=
  ∀ (pre rest cs : Str), s = pre ++ rest →
    cond ((pre.length : Int), cs) = .ok (match rest with | [] => false | c :: _ => !isTerm c) ∧
    ∀ c rest', rest = c :: rest' → body ((pre.length : Int), cs) = .ok (((pre ++ [c]).length : Int), cs ++ [c])

theorem scan_loop {s : Str} {cond : Int × Str → Except Exc Bool} {body : Int × Str → Except Exc (Int × Str)}
    (h : ScanSpec s cond body) {tail : Str} (ht : ∀ c t, tail = c :: t → isTerm c = true) :
    ∀ (ps pre cs : Str) (fuel : Nat) (i : Int), s = pre ++ (ps ++ tail) → (∀ ch ∈ ps, isTerm ch = false) →
      ps.length ≤ fuel → i = (pre.length : Int) →
      PyParse.whileM fuel cond body (i, cs) = .ok (((pre ++ ps).length : Int), cs ++ ps)
  | [], pre, cs, fuel, _, hs, _, _, rfl => by
    have hc := (h pre tail cs hs).1
    cases tail with
    | nil => rw [PyParseL.while_done hc, List.append_nil, List.append_nil]
    | cons c t =>
      simp only [ht c t rfl, Bool.not_true] at hc
      rw [PyParseL.while_done hc, List.append_nil, List.append_nil]
  | c :: ps, pre, cs, fuel, _, hs, hps, hf, rfl => by
    obtain ⟨hc, hb⟩ := h pre (c :: ps ++ tail) cs hs
    change cond _ = .ok (!isTerm c) at hc
    rw [hps c List.mem_cons_self] at hc
    obtain ⟨k, rfl⟩ := Nat.exists_eq_add_of_le' hf
    rw [show k + (c :: ps).length = (k + ps.length) + 1 from rfl, PyParseL.while_step hc (hb c (ps ++ tail) rfl),
      scan_loop h ht ps (pre ++ [c]) (cs ++ [c]) _ _ (by rw [hs, List.append_assoc]; rfl)
        (fun ch hch => hps ch (List.mem_cons_of_mem _ hch)) (Nat.le_add_left _ _) rfl,
      List.append_assoc, List.append_assoc]
    rfl

/-! ### the outer `while` -/

/-- What the test and a round of the outer loop have to do, whatever they look like, on each kind of round
    of `tokLoop_rounds`; the state is `(i, self)`. -/
def RoundSpec (s : Str) (allow : Bool) (acc : Option Str)
    (cond : Int × Parsed → Except Exc Bool) (body : Int × Parsed → Except Exc (Int × Parsed)) : Prop :=
  ∀ (pre rest : Str) (p : Parsed), s = pre ++ rest → p.Ordered →
    cond ((pre.length : Int), p) = .ok (!rest.isEmpty) ∧
    (∀ c r, rest = c :: r → rest.take 2 ≠ Gen.csi →
      body ((pre.length : Int), p) = .ok (((pre ++ [c]).length : Int), p.push [c])) ∧
    (∀ ps tail, rest = Gen.csi ++ ps ++ tail → (∀ ch ∈ ps, isTerm ch = false) →
      (∀ c t, tail = c :: t → isTerm c = true) →
      body ((pre.length : Int), p) =
        .ok (((pre ++ Gen.csi ++ ps ++ tail.take 1).length : Int), p.finish allow acc ps (tail.take 1)))

theorem outer_loop {s : Str} {allow : Bool} {acc : Option Str}
    {cond : Int × Parsed → Except Exc Bool} {body : Int × Parsed → Except Exc (Int × Parsed)}
    (h : RoundSpec s allow acc cond body) (rest : Str) (p : Parsed) :
    ∀ (pre : Str) (fuel : Nat), s = pre ++ rest → p.Ordered → rest.length ≤ fuel →
      PyParse.whileM fuel cond body ((pre.length : Int), p) =
        .ok ((s.length : Int), tokLoop allow acc .text rest p) := by
  induction rest, p using tokLoop_rounds allow acc with
  | nil o =>
    intro pre fuel hs ho _
    rw [PyParseL.while_done (h pre [] o hs ho).1, tokLoop, hs, List.append_nil]
  | char c rest o hc ih =>
    intro pre fuel hs ho hf
    obtain ⟨hcond, hchar, -⟩ := h pre (c :: rest) o hs ho
    obtain ⟨k, rfl⟩ := Nat.exists_eq_add_of_le' hf
    rw [show k + (c :: rest).length = (k + rest.length) + 1 from rfl,
      PyParseL.while_step hcond (hchar c rest rfl hc), tokLoop_char allow acc hc]
    exact ih (pre ++ [c]) _ (by rw [hs, List.append_assoc]; rfl) (Parsed.ordered_push ho _)
      (Nat.le_add_left _ _)
  | seq ps tail o hps ht ih =>
    intro pre fuel hs ho hf
    obtain ⟨hcond, -, hseq⟩ := h pre _ o hs ho
    have hne : (!(Gen.csi ++ ps ++ tail).isEmpty) = true := by rw [csi_eq]; rfl
    rw [hne] at hcond
    have hlen : (tail.drop 1).length + 1 ≤ (Gen.csi ++ ps ++ tail).length := by
      rw [csi_eq]
      simp only [List.length_drop, List.length_append, List.length_cons, List.length_nil]
      omega
    obtain ⟨k, rfl⟩ := Nat.exists_eq_add_of_le' (Nat.le_trans hlen hf)
    rw [show k + ((tail.drop 1).length + 1) = (k + (tail.drop 1).length) + 1 from rfl,
      PyParseL.while_step hcond (hseq ps tail rfl hps ht), tokLoop_seq allow acc hps ht]
    exact ih (pre ++ Gen.csi ++ ps ++ tail.take 1) _
      (by rw [hs]; simp only [List.append_assoc, List.take_append_drop])
      (Parsed.ordered_finish ho ..) (Nat.le_add_left _ _)

/-! ### the same facts with the cursor given as any `int` known to be the length of what was read -/

theorem getIdx_at {α : Type} {l : List α} {i : Int} (A : List α) (c : α) (B : List α)
    (hl : l = A ++ c :: B) (hi : i = (A.length : Int)) : Py.getIdx l i = .ok c := by
  rw [hl, hi]; exact ObjL.getIdx_mid A c B

theorem slice_at {α : Type} {l : List α} {i j : Int} (A B : List α) (k : Nat)
    (hl : l = A ++ B) (hi : i = (A.length : Int)) (hj : j = (A.length : Int) + (k : Int)) :
    Py.listSlice l (some i) (some j) = B.take k := by
  rw [hl, hi, hj]; exact ObjL.slice_mid A B k

/-- a parameter character as the source tests it: `ord(c)` below 0x40 or above 0x7E -/
theorem not_isTerm_eq (c : Char) :
    (!isTerm c) = (decide ((c.toNat : Int) < (Gen.termLo : Int)) || decide ((c.toNat : Int) > (Gen.termHi : Int))) := by
  rw [Bool.eq_iff_iff]
  simp [isTerm]

/-! ### `formatted_str` -/

def render (c : CtlSeq) : Str := Gen.csi ++ c.sequence ++ c.terminator

/-- the model's round of `formatted_str` -/
def fmtRound (text : Str) (acc : Str × Nat) (kv : Nat × List CtlSeq) : Str × Nat :=
  (acc.1 ++ Parsed.formatted.pySliceL text acc.2 kv.1 ++ (kv.2.map render).flatten, kv.1)

theorem formatted_eq (p : Parsed) :
    p.formatted = (p.seqs.foldl (fmtRound p.text) ([], 0)).1 ++ p.text.drop (p.seqs.foldl (fmtRound p.text) ([], 0)).2 := rfl

/-- what a round of the loop over `self.sequences.items()` has to do; the state is `(last_idx, out_str)` -/
def FmtSpec (text : Str) (step : Int × Str → Int × List CtlSeq → Except Exc (Int × Str)) : Prop :=
  ∀ (last : Nat) (o : Str) (k : Nat) (vs : List CtlSeq),
    step ((last : Int), o) ((k : Int), vs) = .ok ((k : Int), (fmtRound text (o, last) (k, vs)).1)

theorem fold_fmt {text : Str} {step : Int × Str → Int × List CtlSeq → Except Exc (Int × Str)} (h : FmtSpec text step) :
    ∀ (seqs : List (Nat × List CtlSeq)) (last : Nat) (o : Str),
      List.foldlM step ((last : Int), o) (PyParse.seqsItems seqs) =
        .ok ((((seqs.foldl (fmtRound text) (o, last)).2 : Nat) : Int), (seqs.foldl (fmtRound text) (o, last)).1)
  | [], last, o => rfl
  | (k, vs) :: seqs, last, o => by
    unfold PyParse.seqsItems
    rw [List.map_cons, List.foldlM_cons, h]
    show List.foldlM step ((k : Int), _) (PyParse.seqsItems seqs) = _
    rw [fold_fmt h seqs k]
    rfl

end L
open L

theorem translated : (Gen.tokenizeInitOk && Gen.formattedStrOk) = true := by decide

theorem tokenize_is_code (s : Str) (allow : Bool) (acc : Option Str) (fuel : Nat) (hf : s.length ≤ fuel) :
    Gen.tokenizeInit fuel s allow acc = .ok (tokenize s allow acc) := by
  unfold Gen.tokenizeInit tokenize
  simp only []
  have hcl : Gen.csi.length = 2 := by decide
  rw [show ((0 : Int), ({ text := [], seqs := [] } : Parsed)) = (((([] : Str).length : Nat) : Int), ({} : Parsed)) from rfl]
  rw [outer_loop (allow := allow) (acc := acc) ?spec s {} [] fuel rfl Parsed.ordered_empty hf]
  case spec =>
    intro pre rest p hs hi
    subst hs
    refine ⟨?_, ?_, ?_⟩
    · cases rest <;> simp <;> omega
    · intro c r hr hcsi
      subst hr
      simp only []
      rw [ObjL.slice_mid pre (c :: r) Gen.csi.length, hcl, if_neg (by simpa using hcsi), ObjL.getIdx_mid, ObjL.bind_ok]
      simp [Parsed.push]
    · intro ps tail hr hps ht
      subst hr
      simp only []
      rw [ObjL.slice_mid pre _ Gen.csi.length, hcl]
      have htake : ((Gen.csi ++ ps ++ tail).take 2 == Gen.csi) = true := by rw [csi_eq]; rfl
      rw [if_pos htake]
      rw [scan_loop (s := pre ++ (Gen.csi ++ ps ++ tail)) ?sspec ht ps (pre ++ Gen.csi) [] fuel _ ?hs hps ?hfuel ?hi]
      case hs => simp
      case hfuel => simp at hf; omega
      case hi => simp [hcl]
      case sspec =>
        intro pre' rest' cs hs'
        rw [hs']
        constructor
        · cases rest' with
          | nil => simp
          | cons c r'' =>
            have hlt : (((pre'.length : Nat) : Int) < (((pre' ++ c :: r'').length : Nat) : Int)) := by simp; omega
            simp only [hlt, decide_true, ↓reduceIte, ObjL.getIdx_mid, ordStr_one, ObjL.bind_ok]
            rw [not_isTerm_eq c]
            by_cases h1 : (c.toNat : Int) < (Gen.termLo : Int)
            · simp [h1]
            · by_cases h2 : (c.toNat : Int) > (Gen.termHi : Int)
              · simp [h1, h2]
              · simp [h1, h2]
        · intro c r'' hr''
          subst hr''
          simp only [ObjL.getIdx_mid, ObjL.bind_ok]
          simp
      simp only [ObjL.bind_ok, List.nil_append]
      cases tail
      case' nil =>
        -- the cursor is at the end of the input: the terminator is empty
        have hend : ¬ decide ((((pre ++ Gen.csi ++ ps).length : Nat) : Int) <
            (((pre ++ (Gen.csi ++ ps ++ [])).length : Nat) : Int)) = true := by simp
        rw [if_neg hend, List.take_nil, List.append_nil (pre ++ Gen.csi ++ ps)]
      case' cons c t =>
        -- the cursor is before the end of the input: the terminator is the character under it
        have hlt : decide ((((pre ++ Gen.csi ++ ps).length : Nat) : Int) <
            (((pre ++ (Gen.csi ++ ps ++ c :: t)).length : Nat) : Int)) = true := by simp; omega
        have hlen : (((pre ++ Gen.csi ++ ps ++ [c]).length : Nat) : Int) =
            (((pre ++ Gen.csi ++ ps).length : Nat) : Int) + 1 := by
          rw [List.length_append (bs := [c])]
          rfl
        rw [if_pos hlt, getIdx_at (pre ++ Gen.csi ++ ps) c t (by simp) rfl, ObjL.bind_ok,
          show List.take 1 (c :: t) = [c] from rfl, hlen]
      -- either way the candidate is then recorded or put back, as in the model's `finish`
      all_goals
        rw [Parsed.finish, apply_ite (fun q => (Except.ok (_, q) : Except Exc (Int × Parsed)))]
        refine ite_congr ?_ (fun _ => ?_) (fun _ => rfl)
        · cases acc with
          | none => simp [accept_none]
          | some a => simp [accept_some]
        · -- `idx in self.sequences`: under `Ordered`, either way of recording is the model's `record`
          cases hh : PyParse.seqsHas p.seqs (p.text.length : Int)
          · simp only [set_absent p _ hh, ObjL.bind_ok, record_with, Bool.false_eq_true, ↓reduceIte]
          · simp only [append_present hi _ hh, ObjL.bind_ok, record_with, ↓reduceIte]
  rfl

theorem formatted_is_code (p : Parsed) : Gen.formattedStr p = .ok p.formatted := by
  unfold Gen.formattedStr
  simp only []
  rw [show ((0 : Int), ([] : Str)) = (((0 : Nat) : Int), ([] : Str)) from rfl, fold_fmt (text := p.text) ?spec]
  case spec =>
    intro last o k vs
    simp only [ObjL.listSlice_nat]
    rw [ObjL.foldlM_append (R := render) ?vspec]
    case vspec => intro o v _; simp [render]
    simp [fmtRound, render, Parsed.formatted.pySliceL, ObjL.bind_ok, List.flatMap_def]
  simp only [ObjL.bind_ok, ObjL.listSlice_from, formatted_eq]

/-- `str(p)` / `repr(p)` / `p.formatted_str` of the object `__init__` leaves is the input (C19.tokenize_lossless
    read over the generated functions) -/
theorem formatted_of_tokenize (s : Str) (allow : Bool) (acc : Option Str) (fuel : Nat) (hf : s.length ≤ fuel) :
    (Gen.tokenizeInit fuel s allow acc).bind Gen.formattedStr = .ok s := by
  rw [tokenize_is_code s allow acc fuel hf, ObjL.bind_ok, formatted_is_code, tokenize_lossless]

theorem tokenize_never_raises (s : Str) (allow : Bool) (acc : Option Str) (fuel : Nat) (hf : s.length ≤ fuel) (err : Exc) :
    Gen.tokenizeInit fuel s allow acc ≠ .error err := by
  rw [tokenize_is_code s allow acc fuel hf]; intro e; cases e

theorem formatted_never_raises (p : Parsed) (err : Exc) : Gen.formattedStr p ≠ .error err := by
  rw [formatted_is_code]; intro e; cases e

/-- the hypothesis on the fuel is sharp: one round per character is needed -/
theorem tokenize_needs_fuel : Gen.tokenizeInit 3 "abcd".toList true none = .error .outside := by decide +kernel

/-! ## Concrete values -/

private def tok (s : String) (allow : Bool := true) (acc : Option String := none) : Except Exc Parsed :=
  Gen.tokenizeInit s.length s.toList allow (acc.map String.toList)
private def sq (a b : String) : CtlSeq := ⟨a.toList, b.toList⟩

example : tok "a\x1b[1mb" = .ok ⟨"ab".toList, [(1, [sq "1" "m"])]⟩ := by
  simp only [tok, sq, Option.map, strLitToList, ← String.length_toList]
  decide +kernel
example : tok "\x1b[2Jx" = .ok ⟨"x".toList, [(0, [sq "2" "J"])]⟩ := by
  simp only [tok, sq, Option.map, strLitToList, ← String.length_toList]
  decide +kernel
/-- an unterminated sequence at the end of the input: recorded with an empty terminator, or put back -/
example : tok "a\x1b[" = .ok ⟨"a".toList, [(1, [sq "" ""])]⟩ := by
  simp only [tok, sq, Option.map, strLitToList, ← String.length_toList]
  decide +kernel
example : tok "a\x1b[" false = .ok ⟨"a\x1b[".toList, []⟩ := by
  simp only [tok, sq, Option.map, strLitToList, ← String.length_toList]
  decide +kernel
example : tok "\x1b[1;3" = .ok ⟨[], [(0, [sq "1;3" ""])]⟩ := by
  simp only [tok, sq, Option.map, strLitToList, ← String.length_toList]
  decide +kernel
example : tok "\x1b[1;3" false = .ok ⟨"\x1b[1;3".toList, []⟩ := by
  simp only [tok, sq, Option.map, strLitToList, ← String.length_toList]
  decide +kernel
/-- adjacent sequences share a position -/
example : tok "x\x1b[1m\x1b[2my" = .ok ⟨"xy".toList, [(1, [sq "1" "m", sq "2" "m"])]⟩ := by
  simp only [tok, sq, Option.map, strLitToList, ← String.length_toList]
  decide +kernel
/-- no parameters, terminated: recorded whatever `allow_empty_terminator` says -/
example : tok "\x1b[mz" = .ok ⟨"z".toList, [(0, [sq "" "m"])]⟩ := by
  simp only [tok, sq, Option.map, strLitToList, ← String.length_toList]
  decide +kernel
example : tok "\x1b[mz" false = .ok ⟨"z".toList, [(0, [sq "" "m"])]⟩ := by
  simp only [tok, sq, Option.map, strLitToList, ← String.length_toList]
  decide +kernel
/-- a set of acceptable terminators: `J` is not in it, the sequence stays in the text; the empty terminator
    is "in" any string -/
example : tok "a\x1b[1mb\x1b[2Jc" true (some "m") = .ok ⟨"ab\x1b[2Jc".toList, [(1, [sq "1" "m"])]⟩ := by
  simp only [tok, sq, Option.map, strLitToList, ← String.length_toList]
  decide +kernel
example : tok "a\x1b[1mb" true (some "") = .ok ⟨"a\x1b[1mb".toList, []⟩ := by
  simp only [tok, sq, Option.map, strLitToList, ← String.length_toList]
  decide +kernel
example : tok "a\x1b[" true (some "m") = .ok ⟨"a".toList, [(1, [sq "" ""])]⟩ := by
  simp only [tok, sq, Option.map, strLitToList, ← String.length_toList]
  decide +kernel
/-- and back -/
example : Gen.formattedStr ⟨"xy".toList, [(1, [sq "1" "m", sq "2" "m"])]⟩ = .ok "x\x1b[1m\x1b[2my".toList := by
  simp only [sq, strLitToList]
  decide +kernel
example : Gen.formattedStr ⟨"ab".toList, [(0, [sq "2" "J"]), (2, [sq "" ""])]⟩ = .ok "\x1b[2Jab\x1b[".toList := by
  simp only [sq, strLitToList]
  decide +kernel

/-- the outcomes the theorems exclude are real ones of the primitives -/
example : PyParse.seqsAppend [] 0 (sq "1" "m") = .error .key := by decide
example : PyParse.seqsSet [] (-1) [] = .error .outside := by decide
example : PyParse.ordStr "ab".toList = .error (.py .typeError) := by decide
example : Py.getIdx "ab".toList 2 = .error (.py .indexError) := by decide

end C19c

#print axioms C19c.translated
#print axioms C19c.tokenize_is_code
#print axioms C19c.formatted_is_code
#print axioms C19c.formatted_of_tokenize
#print axioms C19c.tokenize_never_raises
#print axioms C19c.formatted_never_raises
#print axioms C19c.tokenize_needs_fuel
