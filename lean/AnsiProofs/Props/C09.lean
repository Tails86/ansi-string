import AnsiProofs.Lemmas.StoreInv
import AnsiProofs.Lemmas.StrLit
/-
  Property C09 (capstone) — "Every public operation … terminates and either succeeds or raises only
  the documented error type …, and after a raised error the receiver's text, settings and rendering
  are unchanged.  No sequence of successful public operations produces a value on which the
  library's own consistency self-check (AnsiString.WITH_ASSERTIONS) fails or on which a later
  query, rendering, slice or concatenation raises."

  The statements are about *histories*: `Store.run {} ops` is the store after the script `ops`
  (any finite list of the 30 operations of `AnsiModel/Store.lean`, with any arguments, failing
  operations included — a failed operation leaves the store as it was).

  `StoreInv σ` (`Lemmas/StoreInv.lean`, namespace `StoreL`):
    - every value of the store satisfies the history invariant `WF`
      (`WF.ok : replayOk x.fmts = true` is the library's self-check);
    - every setting identity in use is below the store's counter (`FreshFrom x σ.nid`);
    - an identity carries one text across the whole store (`CoherentPair x y` for all pairs).

  `inv_step`, `outcome_documented` and `never_fails` are read off one statement about `Store.step`,
  `StoreL.step_spec`: an operation writes one admissible value to a variable of `writes`, or leaves
  the store alone and reports an unbound name or an outcome its class allows.  Its per-operation
  ingredients are the `…_wf`, `…_fresh` and `…_spec` theorems of C02, C04, C05, C06, C07, C12 and C16,
  and the shape lemmas of `Store.Effect` (C08).
-/

namespace C09
open StoreL

/-! ## the empty store -/

theorem inv_init : StoreInv {} := StoreL.inv_init

/-! ## every operation keeps the invariant (no exception: all 30 constructors of `Op`) -/

theorem inv_step {σ : Store} (h : StoreInv σ) (op : Op) : StoreInv (σ.step op).1 :=
  StoreL.inv_step h op

/-! ## hence every reachable store satisfies it -/

theorem wf_reachable (ops : List Op) : StoreInv (Store.run {} ops) := inv_run StoreL.inv_init ops

theorem reachable_wf (ops : List Op) (v : Var) (x : AStr) (h : (Store.run {} ops).get? v = some x) :
    WF x :=
  (wf_reachable ops).wf v x h

/-- every reachable value passes the library's own self-check (`WITH_ASSERTIONS`): every stop marker
    meets the object it stops -/
theorem reachable_ok (ops : List Op) (v : Var) (x : AStr) (h : (Store.run {} ops).get? v = some x) :
    replayOk x.fmts = true :=
  (reachable_wf ops v x h).ok

/-- … has no marker beyond its text, starts nothing at the very end, and is closed at the end -/
theorem reachable_shape (ops : List Op) (v : Var) (x : AStr) (h : (Store.run {} ops).get? v = some x) :
    (∀ kp ∈ x.fmts, kp.1 ≤ x.len) ∧ (∀ kp ∈ x.fmts, kp.1 = x.len → kp.2.add = []) ∧
      active x.fmts x.len = [] ∧ ∀ i, ((active x.fmts i).map (·.id)).Nodup :=
  have w := reachable_wf ops v x h
  ⟨w.bound, w.noAddEnd, w.closed, w.nodup⟩

/-- … all its identities are below the store's counter, so the next object created is new -/
theorem reachable_fresh (ops : List Op) (v : Var) (x : AStr) (h : (Store.run {} ops).get? v = some x) :
    FreshFrom x (Store.run {} ops).nid :=
  (wf_reachable ops).fresh v x h

/-- … and any two reachable values agree on the text of every identity they share (the hypothesis
    `CoherentPair` of `C05.iadd_wf`) -/
theorem reachable_coherent (ops : List Op) (v w : Var) (x y : AStr)
    (hx : (Store.run {} ops).get? v = some x) (hy : (Store.run {} ops).get? w = some y) :
    ConcatL.CoherentPair x y :=
  (wf_reachable ops).coherent v w x y hx hy

theorem run_inv {σ : Store} (h : StoreInv σ) (ops : List Op) : StoreInv (σ.run ops) := inv_run h ops

/-! ## only the documented error classes -/

/-- `TypeError` or `ValueError`; `IndexError` only from an integer index -/
theorem outcome_documented (σ : Store) (op : Op) :
    (σ.step op).2 = .ok ∨ (∃ s, (σ.step op).2 = .str s) ∨ (∃ a b, (σ.step op).2 = .range a b) ∨
      (σ.step op).2 = .err .typeError ∨ (σ.step op).2 = .err .valueError ∨
      ((σ.step op).2 = .err .indexError ∧ ∃ d s i, op = .index d s i) ∨ (σ.step op).2 = .unbound := by
  rcases step_outcome σ op with h | h | ⟨_, h⟩
  · exact Or.inl h
  · exact Or.inr (Or.inr (Or.inr (Or.inr (Or.inr (Or.inr h)))))
  · cases ho : (σ.step op).2 with
    | ok => exact Or.inl rfl
    | str s => exact Or.inr (Or.inl ⟨s, rfl⟩)
    | range a b => exact Or.inr (Or.inr (Or.inl ⟨a, b, rfl⟩))
    | unbound => exact Or.inr (Or.inr (Or.inr (Or.inr (Or.inr (Or.inr rfl)))))
    | err e =>
      cases e with
      | typeError => exact Or.inr (Or.inr (Or.inr (Or.inl rfl)))
      | valueError => exact Or.inr (Or.inr (Or.inr (Or.inr (Or.inl rfl))))
      | indexError => exact Or.inr (Or.inr (Or.inr (Or.inr (Or.inr (Or.inl ⟨rfl, h ho⟩)))))

/-- The operations of `neverFails` (`clear`, slices, `+=`, `+`, `replace`, `join`, …)
    succeed on the values of ANY store, reachable or not; `unbound` only says the script named a
    variable (or, for `linePiece`/`partPiece`, a position in the result) that does not exist.  With
    `wf_reachable` this is "no later slice or concatenation raises". -/
theorem never_fails (σ : Store) (op : Op) (h : neverFails op = true) :
    (σ.step op).2 = .ok ∨ (σ.step op).2 = .unbound := by
  rcases step_outcome σ op with h1 | h1 | ⟨h1, _⟩
  · exact Or.inl h1
  · exact Or.inr h1
  · rw [h1] at h
    cases h

example : neverFails (.slice 2 1 (some 1) none) = true ∧ neverFails (.iadd 2 2) = true ∧
    neverFails (.replace 3 1 "b".toList (.inr "x".toList) (-1)) = true ∧
    neverFails (.index 2 1 0) = false ∧ neverFails (.join 4 [1, 2, 1]) = true ∧
    neverFails (.zfill 6 5 5) = true ∧ neverFails (.clip 9 1 (some 1) none) = true ∧
    neverFails (.linePiece 9 1 false 0) = true ∧ neverFails (.partPiece 7 4 "ca".toList false 2) = true ∧
    neverFails (.expandtabs 8 1 4) = true ∧
    neverFails (.splitPiece 5 4 (some []) (-1) false 0) = false ∧
    neverFails (.fmatch 4 (.bad true) [(0, 1)] (-1)) = false := by decide

/-- `x[i]` with an integer `i` -/
theorem index_outcome (σ : Store) (d src : Var) (i : Int) (x : AStr) (hx : σ.get? src = some x) :
    ((σ.step (.index d src i)).2 = .ok ↔ (-(x.len : Int) ≤ i ∧ i < x.len)) ∧
    ((σ.step (.index d src i)).2 = .err .indexError ↔ (i < -(x.len : Int) ∨ i ≥ x.len)) := by
  have e : σ.step (.index d src i) = σ.fromExcept d (x.getIndex i) := Store.withVal_some hx _
  by_cases h : i < -(x.len : Int) ∨ i ≥ x.len
  · rw [e, C04.getIndex_error x i h]
    exact ⟨⟨(fun h' => nomatch h'), fun h' =>
      h.elim (fun a => absurd h'.1 (Int.not_le.mpr a)) fun b => absurd h'.2 (Int.not_lt.mpr b)⟩,
      fun _ => h, fun _ => rfl⟩
  · have h' : -(x.len : Int) ≤ i ∧ i < x.len :=
      ⟨Int.not_lt.mp fun a => h (Or.inl a), Int.not_le.mp fun b => h (Or.inr b)⟩
    rw [e, C04.getIndex_spec x i h'.1 h'.2]
    exact ⟨⟨fun _ => h', fun _ => rfl⟩, (fun h'' => nomatch h''), fun h'' => absurd h'' h⟩

/-- `ljust`/`rjust`/`center`: a one-character fill never fails, any other fill is a `ValueError`
    (CPython: "The fill character must be exactly one character long") -/
theorem pad_outcome (σ : Store) (d : Var) (fill : Str) (f : Char → AStr) :
    (fill.length = 1 → (σ.pad1 d fill f).2 = .ok) ∧
    (fill.length ≠ 1 → (σ.pad1 d fill f).2 = .err .valueError) :=
  match fill with
  | [] => ⟨fun h => absurd h (by decide), fun _ => rfl⟩
  | [_] => ⟨fun _ => rfl, fun h => absurd rfl h⟩
  | _ :: _ :: l => ⟨fun h => absurd h (by rw [List.length_cons, List.length_cons]; omega), fun _ => rfl⟩

/-- `split`/`rsplit`: an empty separator is the `ValueError` of `str.split`; any other separator
    (or `None`) cannot fail (`unbound`: the script named a variable or a piece that does not exist) -/
theorem split_outcome (σ : Store) (d src : Var) (sep : Option Str) (m : Int) (r : Bool) (j : Nat) :
    (sep ≠ some [] → ((σ.step (.splitPiece d src sep m r j)).2 = .ok ∨
      (σ.step (.splitPiece d src sep m r j)).2 = .unbound)) ∧
    (sep = some [] → (σ.step (.splitPiece d src sep m r j)).2 = .err .valueError ∨
      (σ.step (.splitPiece d src sep m r j)).2 = .unbound) := by
  constructor
  · intro hs
    have e : σ.Effect [d] (fun _ => True) (fun _ => False) (σ.step (.splitPiece d src sep m r j)) := by
      refine .withVal fun x _ => ?_
      split
      · exact .piece (.head _) fun _ _ => trivial
      · exact absurd (splitGen_err x sep m r _ ‹_›).2 hs
    rcases e.outcome with h | h | h
    · exact Or.inl h
    · exact Or.inr h
    · exact h.elim
  · intro hs
    subst hs
    show (σ.withVal src _).2 = _ ∨ (σ.withVal src _).2 = _
    unfold Store.withVal
    cases σ.get? src with
    | none => exact Or.inr rfl
    | some x => exact Or.inl rfl

/-- the convention for a position that does not exist in the result of `split`, `splitlines`,
    `partition`: outcome `unbound`, store unchanged; a position that exists is written to `dst`
    with outcome `ok` -/
theorem splitPiece_range (σ : Store) (d src : Var) (sep : Option Str) (m : Int) (r : Bool) (j : Nat)
    (x : AStr) (ps : List AStr) (hx : σ.get? src = some x) (hs : x.splitGen sep m r = .ok ps) :
    (∀ hj : j < ps.length, σ.step (.splitPiece d src sep m r j) = σ.commit d ps[j]) ∧
    (ps.length ≤ j → σ.step (.splitPiece d src sep m r j) = (σ, .unbound)) := by
  have e : σ.step (.splitPiece d src sep m r j) = σ.piece d ps[j]? := by
    show σ.withVal src _ = _
    rw [Store.withVal_some hx, hs]
  rw [e]
  exact Store.piece_getElem? σ d ps j

theorem linePiece_range (σ : Store) (d src : Var) (ke : Bool) (j : Nat) (x : AStr)
    (hx : σ.get? src = some x) :
    (∀ hj : j < (x.splitlines ke).length, σ.step (.linePiece d src ke j) = σ.commit d (x.splitlines ke)[j]) ∧
    ((x.splitlines ke).length ≤ j → σ.step (.linePiece d src ke j) = (σ, .unbound)) := by
  have e : σ.step (.linePiece d src ke j) = σ.piece d (x.splitlines ke)[j]? := Store.withVal_some hx _
  rw [e]
  exact Store.piece_getElem? σ d _ j

theorem partPiece_range (σ : Store) (d src : Var) (sep : Str) (r : Bool) (x : AStr)
    (hx : σ.get? src = some x) :
    σ.step (.partPiece d src sep r 0) = σ.commit d (x.partitionGen sep r).1 ∧
    σ.step (.partPiece d src sep r 1) = σ.commit d (x.partitionGen sep r).2.1 ∧
    σ.step (.partPiece d src sep r 2) = σ.commit d (x.partitionGen sep r).2.2 ∧
    ∀ j, 3 ≤ j → σ.step (.partPiece d src sep r j) = (σ, .unbound) := by
  have e : ∀ j, σ.step (.partPiece d src sep r j) =
      σ.piece d [(x.partitionGen sep r).1, (x.partitionGen sep r).2.1, (x.partitionGen sep r).2.2][j]? :=
    fun j => Store.withVal_some hx _
  exact ⟨e 0, e 1, e 2, fun j hj => (e j).trans ((Store.piece_getElem? σ d _ j).2 hj)⟩

/-- `format_matching` inside a history (C16 for the store): when it succeeds the receiver keeps its
    text, and every character outside all the matches that `count` lets through keeps its settings
    exactly.  (`fmatch` numbers its new objects from the store's counter, see
    `AStr.formatMatchingFrom`; with the value's own numbering an identity of another variable
    could be handed out a second time — see the example on `formatMatching` below.) -/
theorem fmatch_spec (σ : Store) (v : Var) (a : SArg) (spans : List (Int × Int)) (count : Int) (x : AStr)
    (hx : σ.get? v = some x) (hw : WF x) (hok : (σ.step (.fmatch v a spans count)).2 = .ok) :
    ∃ y, ((σ.step (.fmatch v a spans count)).1).get? v = some y ∧ y.s = x.s ∧ WF y ∧
      ∀ i : Nat, (∀ se ∈ takeCount count spans,
        i < sliceIdx x.len (some se.1) 0 ∨ sliceIdx x.len (some se.2) x.len ≤ i) → act y i = act x i := by
  have e : σ.step (.fmatch v a spans count) = σ.fromExcept v (x.formatMatchingFrom σ.nid a spans count) :=
    Store.withVal_some hx _
  rw [e] at hok ⊢
  cases hr : x.formatMatchingFrom σ.nid a spans count with
  | error e => rw [hr] at hok; cases hok
  | ok y =>
    obtain ⟨ht, hrest⟩ := formatMatchingFrom_spec x y σ.nid a spans count hr
    exact ⟨y, Store.get?_commit_eq σ v y, ht, hrest hw⟩

/-- rendering without a format spec (`str(x)`, `to_str()`) never fails -/
theorem render_plain (σ : Store) (src : Var) (o rs re : Bool) :
    (∃ s, (σ.step (.render src none o rs re)).2 = .str s) ∨
      (σ.step (.render src none o rs re)).2 = .unbound := by
  show (∃ s, (σ.withVal src _).2 = .str s) ∨ (σ.withVal src _).2 = .unbound
  unfold Store.withVal
  cases σ.get? src with
  | none => exact Or.inr rfl
  | some x =>
    have : ∃ s, x.toStr none o rs re σ.nid = .ok s := by
      unfold AStr.toStr
      simp only [Bool.false_eq_true, if_false]
      split
      · exact ⟨_, rfl⟩
      · exact ⟨_, rfl⟩
    obtain ⟨s, hs⟩ := this
    exact Or.inl ⟨s, by simp only [hs]⟩

/-- the sources of errors, one level down: argument scrubbing raises `TypeError`/`ValueError`
    only, `x[i]` raises `IndexError` only -/
theorem scrub_errors (a : SArg) : Scrub.scrub a ≠ .error .indexError := scrub_noIdx a

theorem getIndex_errors (x : AStr) (i : Int) (e : PyErr) (h : x.getIndex i = .error e) :
    e = .indexError :=
  getIndex_err x i e h

/-! ## a failed operation changes nothing (C08) -/

theorem error_atomic (σ : Store) (op : Op) (e : PyErr) (h : (σ.step op).2 = .err e) :
    (σ.step op).1 = σ :=
  Store.error_atomic σ op e h

/-- hence text, settings and rendering of every variable are what they were -/
theorem error_atomic_get (σ : Store) (op : Op) (e : PyErr) (h : (σ.step op).2 = .err e) (v : Var) :
    ((σ.step op).1).get? v = σ.get? v := by
  rw [error_atomic σ op e h]

/-- the same for a script variable that does not exist -/
theorem unbound_atomic (σ : Store) (op : Op) (_h : (σ.step op).2 = .unbound) :
    ∀ v, v ∉ op.writes → ((σ.step op).1).get? v = σ.get? v :=
  fun v hv => Store.step_frame σ op v hv

/-! ## termination

  Every function of `AnsiModel/` (and of `AnsiSpec/`) is a total Lean function accepted by Lean's
  termination checker: structural recursion, well-founded recursion with a proved measure, or an
  explicit fuel argument.  No definition of the model is exempted from that check (the script
  `check` scans the sources for the keywords that would switch it off).  `Store.step`/`Store.run`
  are therefore total: every operation of every script terminates, with one of the outcomes of
  `outcome_documented`.

  The one loop bounded by fuel is the `while` loop of `replace` (`AStr.replaceLoop`, fuel
  `x.len + 2`).  That the fuel suffices — the loop ends because no match is left, never because
  the fuel ran out — is `C10.replace_text` / `C10.replace_text_str_any`: with that fuel the text
  of the result is exactly CPython's `str.replace` (`PySpec.replace`), which replaces every match. -/

theorem replace_fuel_suffices (x : AStr) (old : Str) (v : AStr) (count : Int) (nid : Nat)
    (h : old ≠ []) :
    (x.replace old (.astr v) count nid).s = PySpec.replace x.s old v.s count :=
  C10.replace_text x old v count nid h

theorem replace_fuel_suffices_str (x : AStr) (old raw : Str) (count : Int) (nid : Nat) (h : NoEsc raw) :
    (x.replace old (.str raw) count nid).s = PySpec.replace x.s old raw count :=
  C10.replace_text_str_any x old raw count nid h

example : "c".toList ≠ [] ∧ NoEsc "Z".toList := ⟨by decide, by unfold NoEsc; decide⟩

/-! ## a concrete history

  `v1 = AnsiString("a␛[1mbc", 31)`; `v2 = v1[1:]`; `v2 += v2`; `v3 = v2.center(9, "*")` (extending);
  `v3.remove_formatting(1, 3, 5)`; `v3.simplify()`. -/

def script : List Op :=
  [.new 1 "a\x1b[1mbc".toList [.int 31], .slice 2 1 (some 1) none, .iadd 2 2,
   .center 3 2 9 "*".toList true, .remove 3 (some (.int 1)) (some 3) (some 5), .simplify 3]

example : StoreInv (Store.run {} script) := wf_reachable script

theorem Store.eq_mk {σ : Store} {l : List (Var × AStr)} {n : Nat} (h : σ.vals = l ∧ σ.nid = n) :
    σ = ⟨l, n⟩ := by
  cases σ
  cases h.1
  cases h.2
  rfl

/-- the store after `script`; the examples below read their values off it -/
theorem run_script : Store.run {} script =
    { vals :=
        [(3, { s := "**bcbc***".toList
               fmts := [(0, { add := [⟨3, "31".toList⟩, ⟨4, "1".toList⟩] }), (3, { rem := [⟨4, "1".toList⟩] }),
                        (5, { add := [⟨5, "1".toList⟩] }), (9, { rem := [⟨3, "31".toList⟩, ⟨5, "1".toList⟩] })] }),
         (2, { s := "bcbc".toList
               fmts := [(0, { add := [⟨2, "31".toList⟩, ⟨1, "1".toList⟩] }),
                        (2, { add := [⟨2, "31".toList⟩, ⟨1, "1".toList⟩],
                              rem := [⟨1, "1".toList⟩, ⟨2, "31".toList⟩] }),
                        (4, { rem := [⟨1, "1".toList⟩, ⟨2, "31".toList⟩] })] }),
         (1, { s := "abc".toList
               fmts := [(0, { add := [⟨2, "31".toList⟩] }), (1, { add := [⟨1, "1".toList⟩] }),
                        (3, { rem := [⟨1, "1".toList⟩, ⟨2, "31".toList⟩] })] })]
      nid := 6 } := by
  simp only [script, strLitToList]
  exact Store.eq_mk (by decide +kernel)

/-- all six operations succeed -/
example : (script.foldl (fun (acc : Store × List Bool) op =>
      ((acc.1.step op).1, acc.2 ++ [match (acc.1.step op).2 with | .ok => true | _ => false]))
      (({} : Store), [])).2 = [true, true, true, true, true, true] := by
  simp only [script, strLitToList]
  decide +kernel

example : ((Store.run {} script).get? 1).map (·.s) = some "abc".toList ∧
    ((Store.run {} script).get? 2).map (·.s) = some "bcbc".toList ∧
    ((Store.run {} script).get? 3).map (·.s) = some "**bcbc***".toList ∧
    (Store.run {} script).nid = 6 := by
  rw [run_script]
  simp only [strLitToList]
  decide +kernel

example : (Store.run {} script).get? 3 = some
    { s := "**bcbc***".toList
      fmts := [(0, { add := [⟨3, "31".toList⟩, ⟨4, "1".toList⟩] }), (3, { rem := [⟨4, "1".toList⟩] }),
               (5, { add := [⟨5, "1".toList⟩] }), (9, { rem := [⟨3, "31".toList⟩, ⟨5, "1".toList⟩] })] } := by
  rw [run_script]
  simp only [strLitToList]
  rfl

/-- `reachable_ok`, and the same by evaluation -/
example : ∀ x, (Store.run {} script).get? 3 = some x → replayOk x.fmts = true :=
  fun x h => reachable_ok script 3 x h

example : (((Store.run {} script).get? 3).map (fun x => replayOk x.fmts)) = some true ∧
    (((Store.run {} script).get? 2).map (fun x => replayOk x.fmts)) = some true ∧
    (((Store.run {} script).get? 3).map (fun x => active x.fmts x.len)) = some [] := by
  rw [run_script]
  simp only [strLitToList]
  decide +kernel

def final : Store := Store.run {} script

/-- `Outcome` has no decidable equality; this is the test used by the evaluated examples -/
def raises (o : Outcome) (e : PyErr) : Bool :=
  match o with
  | .err e' => decide (e' = e)
  | _ => false

theorem raises_iff (o : Outcome) (e : PyErr) : raises o e = true ↔ o = .err e := by
  cases o <;> simp [raises]

/-- a failing operation in the middle of a history: `IndexError`, `ValueError` (two-character
    fill), `TypeError` (a float as setting), `ValueError` (a negative code) — the store stays as it
    was and the invariant goes on -/
example :
    (final.step (.index 4 1 3)).2 = .err .indexError ∧ (final.step (.index 4 1 3)).1.vals = final.vals ∧
    (final.step (.ljust 4 1 9 "ab".toList true)).2 = .err .valueError ∧
    (final.step (.apply 1 (.bad true) none none true)).2 = .err .typeError ∧
    (final.step (.apply 1 (.int (-1)) none none true)).2 = .err .valueError := by
  rw [final, run_script]
  simp only [strLitToList]
  exact ⟨(raises_iff _ _).mp (by decide +kernel), by decide +kernel, (raises_iff _ _).mp (by decide +kernel),
    (raises_iff _ _).mp (by decide +kernel), (raises_iff _ _).mp (by decide +kernel)⟩

/-- … and a `replace` with a plain `str` afterwards (the copies of the style made for each `Z` are
    merged into the neighbouring runs by `+=`) -/
def script2 : List Op := script ++ [.index 4 1 3, .replace 4 2 "c".toList (.inr "Z".toList) (-1)]

example : StoreInv (Store.run {} script2) := wf_reachable _

example : ((Store.run {} script2).get? 4).map (·.s) = some "bZbZ".toList ∧
    (((Store.run {} script2).get? 4).map (fun x => replayOk x.fmts)) = some true ∧
    (Store.run {} script2).get? 1 = (Store.run {} script).get? 1 := by
  rw [script2, Store.run_append, run_script]
  simp only [strLitToList]
  decide +kernel

/-- … and then `v4 = AnsiString.join(v1, v2, v1)`;
    `v4.format_matching("c?b", 4)` restricted by the harness to the spans (1,3) and (5,7);
    `v5 = v4.split("c")[1]`; `v6 = v5.zfill(5)`; `v7 = v4.partition("ca")[2]`;
    `v4.unformat_matching(…, 4, count=1)`; `v8 = v1.expandtabs(4)`; `v9 = v1.splitlines()[0]`;
    then `v4.split("")` (`ValueError`), `v1.splitlines()[1]` (no such piece), a `join` with a
    variable that does not exist, and `v9 = v1.clip(1)`. -/
def script3 : List Op := script ++
  [.join 4 [1, 2, 1], .fmatch 4 (.int 4) [(1, 3), (5, 7)] (-1),
   .splitPiece 5 4 (some "c".toList) (-1) false 1, .zfill 6 5 5, .partPiece 7 4 "ca".toList false 2,
   .unfmatch 4 (some (.int 4)) [(1, 3), (5, 7)] 1, .expandtabs 8 1 4, .linePiece 9 1 false 0,
   .splitPiece 9 4 (some []) (-1) false 0, .linePiece 9 1 false 1, .join 9 [1, 77], .clip 9 1 (some 1) none]

example : StoreInv (Store.run {} script3) := wf_reachable _

/-- the outcomes of these twelve steps: 0 = ok, 1 = an error, 2 = unbound -/
example : ((script3.foldl (fun (acc : Store × List Nat) op =>
      ((acc.1.step op).1, acc.2 ++ [match (acc.1.step op).2 with | .ok => 0 | .err _ => 1 | .unbound => 2 | _ => 3]))
      (({} : Store), [])).2).drop 6 = [0, 0, 0, 0, 0, 0, 0, 0, 1, 2, 2, 0] := by
  simp only [script3, script, strLitToList]
  decide +kernel

example : ((Store.run {} script3).get? 4).map (·.s) = some "abcbcbcabc".toList ∧
    ((Store.run {} script3).get? 5).map (·.s) = some "b".toList ∧
    ((Store.run {} script3).get? 6).map (·.s) = some "0000b".toList ∧
    ((Store.run {} script3).get? 7).map (·.s) = some "bc".toList ∧
    ((Store.run {} script3).get? 8).map (·.s) = some "abc".toList ∧
    ((Store.run {} script3).get? 9).map (·.s) = some "bc".toList ∧
    (Store.run {} script3).nid = 8 ∧
    (Store.run {} script3).get? 1 = (Store.run {} script).get? 1 := by
  rw [script3, Store.run_append, run_script]
  simp only [strLitToList]
  decide +kernel

/-- `v4` at the end: the second match still carries the object 7 made by `fmatch` (the first one, 6,
    was taken away again by `unfmatch … count=1`) -/
example : (Store.run {} script3).get? 4 = some
    { s := "abcbcbcabc".toList
      fmts := [(0, { add := [⟨2, "31".toList⟩] }), (1, { add := [⟨1, "1".toList⟩] }),
               (3, { add := [⟨2, "31".toList⟩, ⟨1, "1".toList⟩], rem := [⟨1, "1".toList⟩, ⟨2, "31".toList⟩] }),
               (5, { add := [⟨2, "31".toList⟩, ⟨1, "1".toList⟩, ⟨7, "4".toList⟩],
                     rem := [⟨1, "1".toList⟩, ⟨2, "31".toList⟩] }),
               (7, { add := [⟨2, "31".toList⟩], rem := [⟨1, "1".toList⟩, ⟨2, "31".toList⟩, ⟨7, "4".toList⟩] }),
               (8, { add := [⟨1, "1".toList⟩] }),
               (10, { rem := [⟨1, "1".toList⟩, ⟨2, "31".toList⟩] })] } := by
  rw [script3, Store.run_append, run_script]
  simp only [strLitToList]
  decide +kernel

example : ((List.range 10).map (fun v => ((Store.run {} script3).get? v).map (fun x => replayOk x.fmts))) =
    [none, some true, some true, some true, some true, some true, some true, some true, some true,
     some true] := by
  rw [script3, Store.run_append, run_script]
  simp only [strLitToList]
  decide +kernel

/-- why `fmatch` takes its identities from the store's counter: `AStr.formatMatching` applied to the
    value of `v4` right after the `join` numbers its new objects from `v4`'s own `nextId = 3`, and
    3 is the identity of an object of `v3` with another text ("31", not "4") -/
example : let σ := Store.run {} (script ++ [.join 4 [1, 2, 1]])
    ((σ.get? 4).map (fun x => ((x.formatMatching (.int 4) [(1, 3), (5, 7)] (-1)).toOption.map
      (fun y => y.fmts.settings.filter (fun s => s.id == 3))))) = some (some [⟨3, "4".toList⟩, ⟨3, "4".toList⟩]) ∧
    ((σ.get? 3).map (fun x => x.fmts.settings.filter (fun s => s.id == 3))) =
      some [⟨3, "31".toList⟩, ⟨3, "31".toList⟩] := by
  rw [Store.run_append, run_script]
  simp only [strLitToList]
  decide +kernel

/-! the hypotheses of the theorems above, on this history -/

/-- `inv_step`, `run_inv`: a store satisfying the invariant -/
example : StoreInv final := wf_reachable script
example : StoreInv (final.step (.addStr 5 3 "\x1b[4mtail".toList)).1 := inv_step (wf_reachable script) _

/-- `reachable_wf`, `reachable_ok`, `reachable_shape`, `reachable_fresh`, `index_outcome`: a bound variable -/
example : ∃ x, final.get? 3 = some x ∧ x.len = 9 := by
  rw [final, run_script]
  simp only [strLitToList]
  exact ⟨_, rfl, by decide +kernel⟩

/-- `reachable_coherent`: variables 1 and 2 share the objects 1 and 2 -/
example : ∃ x y, final.get? 1 = some x ∧ final.get? 2 = some y ∧
    x.fmts.settings ≠ [] ∧ ∀ s ∈ y.fmts.settings, s ∈ x.fmts.settings := by
  rw [final, run_script]
  simp only [strLitToList]
  exact ⟨_, _, rfl, rfl, by decide +kernel, by decide +kernel⟩

/-- `fmatch_spec`, `splitPiece_range`, `linePiece_range`, `partPiece_range`: a bound variable with
    `WF` (every reachable value has it), a successful `fmatch`, a successful `split` -/
example : ∃ x, final.get? 2 = some x ∧ WF x := by
  obtain ⟨x, hx⟩ : ∃ x, final.get? 2 = some x := by
    rw [final, run_script]
    simp only [strLitToList]
    exact ⟨_, rfl⟩
  exact ⟨x, hx, reachable_wf script 2 x hx⟩
example : raises (final.step (.fmatch 2 (.int 4) [(1, 3)] (-1))).2 .typeError = false ∧
    (match (final.step (.fmatch 2 (.int 4) [(1, 3)] (-1))).2 with | .ok => true | _ => false) = true := by
  rw [final, run_script]
  simp only [strLitToList]
  decide +kernel
example : ∃ x ps, final.get? 2 = some x ∧ (x.splitGen (some "c".toList) (-1) false).toOption = some ps ∧
    ps.length = 3 := by
  rw [final, run_script]
  simp only [strLitToList]
  exact ⟨_, _, rfl, rfl, by decide +kernel⟩

/-- `error_atomic`: see the failing operations above; `unbound_atomic`: variable 9 does not exist -/
example : final.get? 9 = none ∧ (5 : Var) ∉ (Op.slice 4 9 none none).writes := by
  rw [final, run_script]
  simp only [strLitToList]
  decide +kernel

/-- `index_outcome`: `v3[-9]` succeeds, `v3[9]` raises -/
example : ∀ x, final.get? 3 = some x → x.len = 9 →
    (final.step (.index 4 3 (-9))).2 = .ok ∧ (final.step (.index 4 3 9)).2 = .err .indexError := by
  intro x hx hl
  have := index_outcome final 4 3
  exact ⟨((this (-9) x hx).1).mpr (by omega), ((this 9 x hx).2).mpr (by omega)⟩

end C09

#print axioms C09.inv_init
#print axioms C09.inv_step
#print axioms C09.wf_reachable
#print axioms C09.reachable_wf
#print axioms C09.reachable_ok
#print axioms C09.reachable_shape
#print axioms C09.reachable_fresh
#print axioms C09.reachable_coherent
#print axioms C09.run_inv
#print axioms C09.outcome_documented
#print axioms C09.never_fails
#print axioms C09.index_outcome
#print axioms C09.pad_outcome
#print axioms C09.render_plain
#print axioms C09.split_outcome
#print axioms C09.splitPiece_range
#print axioms C09.linePiece_range
#print axioms C09.partPiece_range
#print axioms C09.fmatch_spec
#print axioms C09.scrub_errors
#print axioms C09.getIndex_errors
#print axioms C09.error_atomic
#print axioms C09.error_atomic_get
#print axioms C09.unbound_atomic
#print axioms C09.replace_fuel_suffices
#print axioms C09.replace_fuel_suffices_str
#print axioms C09.raises_iff
