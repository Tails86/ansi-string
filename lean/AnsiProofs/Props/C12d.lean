import AnsiModel.Render
import AnsiModel.Generated.Regexes
import AnsiProofs.Lemmas.RegexEquiv
import AnsiProofs.Lemmas.StrLit
/-
  Property C12, part d — the six regular expressions of the format specification are the source's.

  `Gen.regex_to_str_1` and `Gen.regex_apply_string_format_1 … _5` are the patterns of the `re.match` /
  `re.search` calls of `to_str` and `_apply_string_format`, parsed with Python's own `re._parser` and
  translated into the model's `Re` on every run (harness/pyre.py; `Gen.regexSources` keeps the texts).
  The model's hand-written `Render.reSpec`, `Render.reLeft`, `Render.reAligned '>'`, `Render.reAligned '^'`
  return, on EVERY string, the same `Re.matchStart` (the same match/no match and the same list of
  captured groups), so the grammar theorems of C12 are about the source's patterns.

  Patterns 4 and 5 of `_apply_string_format` (`^[<>\^]?[+-][0-9]*$`, `^[<>\^]?[ ][0-9]*$`) have NO copy in
  the model: in the source they only choose between three `raise ValueError(<message>)`, and the model's
  `PyErr.valueError` carries no message (`Render.applyStringFormat` answers `.error .valueError` as soon as
  the first three have failed).  They are tied here to `reSignOnly` / `reSpaceOnly`, written with the
  model's class predicates, so that a change of these patterns is seen (this file stops building); that
  both outcomes of either test end in `raise ValueError` is a fact about the statements around the calls,
  which this translation does not cover.
-/
namespace C12d

open RegexEquivL

/-- every pattern of the three functions was inside the translated fragment -/
theorem translated : Gen.regexesOk = true := by decide

/-- the call sites found, in source order (a tenth one would show here) -/
theorem sites : Gen.regexSources.map (·.1) =
    ["regex_apply_string_format_1", "regex_apply_string_format_2", "regex_apply_string_format_3",
     "regex_apply_string_format_4", "regex_apply_string_format_5", "regex_to_str_1",
     "regex_parse_rgb_string_1", "regex_parse_rgb_string_2", "regex_parse_rgb_string_3"] := by rfl

/-- `to_str`: `re.match(r'(^.?[-\+]?[<>\^]?[0-9]*)(:.*)?$', format_spec)` is the model's `reSpec` -/
theorem spec_is_code : ∀ s, Re.matchStart Gen.regex_to_str_1 s = Re.matchStart Render.reSpec s := by
  intro s
  apply matchStart_of_norm
  simp only [Gen.regex_to_str_1, cls_ch, cls_dot, cls_sign_swap, cls_align, cls_digit]
  rfl

/-- `_apply_string_format`, first test: `^(?:(.?)([+-]?)<)?([0-9]*)$` is the model's `reLeft` -/
theorem left_is_code : ∀ s, Re.matchStart Gen.regex_apply_string_format_1 s = Re.matchStart Render.reLeft s := by
  intro s
  apply matchStart_of_norm
  simp only [Gen.regex_apply_string_format_1, cls_ch, cls_ch2, cls_dot, cls_digit]
  rfl

/-- second test: `^(.?)([+-]?)>([0-9]*)$` is the model's `reAligned '>'` -/
theorem right_is_code :
    ∀ s, Re.matchStart Gen.regex_apply_string_format_2 s = Re.matchStart (Render.reAligned '>') s := by
  intro s
  apply matchStart_of_norm
  simp only [Gen.regex_apply_string_format_2, cls_ch, cls_ch2, cls_dot, cls_digit]
  rfl

/-- third test: `^(.?)([+-]?)\^([0-9]*)$` is the model's `reAligned '^'` -/
theorem center_is_code :
    ∀ s, Re.matchStart Gen.regex_apply_string_format_3 s = Re.matchStart (Render.reAligned '^') s := by
  intro s
  apply matchStart_of_norm
  simp only [Gen.regex_apply_string_format_3, cls_ch, cls_ch2, cls_dot, cls_digit]
  rfl

/-- `^[<>\^]?[+-][0-9]*$` with the model's predicates (no copy in the model: see the header) -/
def reSignOnly : Re := .seq (.opt (.cls Render.align)) (.seq (.cls Render.sign) (.seq (.star Py.isDigit) .eos))

/-- `^[<>\^]?[ ][0-9]*$` -/
def reSpaceOnly : Re := .seq (.opt (.cls Render.align)) (.seq (.cls (· == ' ')) (.seq (.star Py.isDigit) .eos))

/-- fourth test (only selects the message of the ValueError) -/
theorem sign_only_is_code : ∀ s, Re.matchStart Gen.regex_apply_string_format_4 s = Re.matchStart reSignOnly s := by
  intro s
  apply matchStart_of_norm
  simp only [Gen.regex_apply_string_format_4, cls_ch2, cls_align, cls_digit]
  rfl

/-- fifth test (only selects the message of the ValueError) -/
theorem space_only_is_code : ∀ s, Re.matchStart Gen.regex_apply_string_format_5 s = Re.matchStart reSpaceOnly s := by
  intro s
  apply matchStart_of_norm
  simp only [Gen.regex_apply_string_format_5, cls_ch, cls_align, cls_digit]
  rfl

/-- the two message-selecting tests on concrete specs (the first is rejected by the left-justify pattern) -/
theorem message_tests_examples :
    (Re.matchStart Gen.regex_apply_string_format_4 "<+5".toList).isSome = true ∧
    (Re.matchStart Render.reLeft "<+5".toList).isSome = false ∧
    (Re.matchStart Gen.regex_apply_string_format_5 " 5".toList).isSome = true ∧
    (Re.matchStart Gen.regex_apply_string_format_5 "^ ".toList).isSome = true := by
  simp only [strLitToList]
  decide +kernel

/-! the generated terms run: groups of the source's patterns on concrete specs -/
example : (Re.matchStart Gen.regex_to_str_1 "*-^10:red;bold".toList).map (fun c => (Re.group c 1, Re.group c 2)) =
    some (some "*-^10".toList, some ":red;bold".toList) := by
  simp only [strLitToList]
  decide +kernel
example : (Re.matchStart Gen.regex_apply_string_format_1 "*-<10".toList).map
      (fun c => (Re.group c 1, Re.group c 2, Re.group c 3)) =
    some (some "*".toList, some "-".toList, some "10".toList) := by
  simp only [strLitToList]
  decide +kernel
example : (Re.matchStart Gen.regex_apply_string_format_1 "12".toList).map
      (fun c => (Re.group c 1, Re.group c 2, Re.group c 3)) = some (none, none, some "12".toList) := by
  simp only [strLitToList]
  decide +kernel
example : Re.matchStart Gen.regex_apply_string_format_2 "*-<10".toList = none := by
  simp only [strLitToList]
  decide +kernel
example : (Re.matchStart Gen.regex_apply_string_format_3 "^^3\n".toList).map (fun c => Re.group c 1) =
    some (some "^".toList) := by
  simp only [strLitToList]
  decide +kernel

end C12d

#print axioms C12d.translated
#print axioms C12d.sites
#print axioms C12d.spec_is_code
#print axioms C12d.left_is_code
#print axioms C12d.right_is_code
#print axioms C12d.center_is_code
#print axioms C12d.sign_only_is_code
#print axioms C12d.space_only_is_code
#print axioms C12d.message_tests_examples
