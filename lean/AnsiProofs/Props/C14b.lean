import AnsiModel.Scrub
import AnsiModel.Generated.Wrappers
/-
  Property C14, part b — the channel arithmetic of `rgb()`, from the source.

  "rgb components are clamped to 0..255, a single 24-bit value is split into r, g, b."
  `Gen.rgbSplit` and `Gen.rgbClamp` are the two branches of `_AnsiControlFn.rgb` that compute `r, g, b`,
  translated statement by statement (harness/pyint.py); the model's `parseRgbString` uses
  `(v / 65536) % 256, (v / 256) % 256, v % 256` and `min 255 ·` (the regular expressions only
  produce natural numbers).
-/
namespace C14b

theorem translated : Gen.rgbChannelsOk = true := by decide

/-- the 24-bit split: masking and shifting is dividing and taking remainders, also beyond 24 bits
    (the excess is dropped) -/
theorem split_is_code (v : Nat) : Gen.rgbSplit v = (v / 65536 % 256, v / 256 % 256, v % 256) := by
  unfold Gen.rgbSplit
  have h1 : (v &&& 16711680) >>> 16 = v / 65536 % 256 := by
    rw [Nat.shiftRight_and_distrib, Nat.shiftRight_eq_div_pow]
    have : (16711680 : Nat) >>> 16 = 2 ^ 8 - 1 := by decide
    rw [this, Nat.and_two_pow_sub_one_eq_mod]
  have h2 : (v &&& 65280) >>> 8 = v / 256 % 256 := by
    rw [Nat.shiftRight_and_distrib, Nat.shiftRight_eq_div_pow]
    have : (65280 : Nat) >>> 8 = 2 ^ 8 - 1 := by decide
    rw [this, Nat.and_two_pow_sub_one_eq_mod]
  have h3 : v &&& 255 = v % 256 := by
    have : (255 : Nat) = 2 ^ 8 - 1 := by decide
    rw [this, Nat.and_two_pow_sub_one_eq_mod]
  simp only [h1, h2, h3]

theorem split_range (v : Nat) : (Gen.rgbSplit v).1 < 256 ∧ (Gen.rgbSplit v).2.1 < 256 ∧ (Gen.rgbSplit v).2.2 < 256 := by
  rw [split_is_code]; simp only []; omega

/-- the clamp: each component on its own, into 0..255 (negative to 0) -/
theorem clamp_is_code (r g b : Int) :
    Gen.rgbClamp r g b = (min 255 (max 0 r), min 255 (max 0 g), min 255 (max 0 b)) := by
  unfold Gen.rgbClamp; rfl

/-- for the natural numbers the string forms produce, that is the model's `min 255 ·` -/
theorem clamp_nat (r g b : Nat) :
    Gen.rgbClamp (r : Int) (g : Int) (b : Int) = (((min 255 r : Nat) : Int), ((min 255 g : Nat) : Int), ((min 255 b : Nat) : Int)) := by
  rw [clamp_is_code]
  simp only [Prod.mk.injEq]
  omega

theorem clamp_range (r g b : Int) :
    0 ≤ (Gen.rgbClamp r g b).1 ∧ (Gen.rgbClamp r g b).1 ≤ 255 ∧
    0 ≤ (Gen.rgbClamp r g b).2.1 ∧ (Gen.rgbClamp r g b).2.1 ≤ 255 ∧
    0 ≤ (Gen.rgbClamp r g b).2.2 ∧ (Gen.rgbClamp r g b).2.2 ≤ 255 := by
  rw [clamp_is_code]; simp only []; omega

example : Gen.rgbSplit 0x102030 = (0x10, 0x20, 0x30) := by decide
example : Gen.rgbSplit 0x1000005 = (0, 0, 5) := by decide
example : Gen.rgbClamp 300 (-4) 255 = (255, 0, 255) := by decide

end C14b
