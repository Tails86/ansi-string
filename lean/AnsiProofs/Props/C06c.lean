import AnsiProofs.Props.C04b
import AnsiModel.Render
/-
  Property C06, part c — the guard `apply_formatting` starts with, from the source.

  `Gen.applyGuard` is the leading part of `AnsiString.apply_formatting` — the two bound conversions and
  the "nothing to apply" test — translated statement by statement (harness/pyint.py, prefix mode:
  1 = the method has returned, 0 = it goes on to the statements that are modelled by hand).
  The model's `applyRaw` starts with a hand-written guard; the theorems tie the two for every length,
  every pair of bounds and every settings argument, so a changed comparison (`end < start` for
  `end <= start`, a dropped clamp, `start > len`) fails to check, while an equivalent rewrite checks.
-/
namespace C06c

theorem guard_is_code (n : Nat) (sNone truthy : Bool) (s e : Option Int) (tn tt : Bool) :
    Gen.applyGuard (n : Int) sNone truthy s e tn tt =
      if truthy = false ∨ sliceIdx n s 0 ≥ n ∨ sliceIdx n e n ≤ sliceIdx n s 0 then 1 else 0 := by
  unfold Gen.applyGuard
  simp only [C04b.start_is_code, (C04b.sliceIdx_is_code n e n).2]
  generalize sliceIdx n s 0 = a
  generalize sliceIdx n e n = b
  -- `simp` moves the casts and settles the guard as the source spells it; `grind` is there for a test
  -- spelt otherwise (the same comparisons nested or negated)
  cases truthy <;> simp <;> grind

/-- the model's `apply_formatting` returns at once, leaving the value as it is, exactly when the guard
    translated from the source says so … -/
theorem applyRaw_returns (x : AStr) (nid : Nat) (a : SArg) (s e : Option Int) (top : Bool) (sNone tn tt : Bool)
    (h : Gen.applyGuard (x.len : Int) sNone a.truthy s e tn tt = 1) :
    x.applyRaw nid a s e top = .ok x := by
  rw [guard_is_code] at h
  unfold AStr.applyRaw
  exact if_pos ((C04b.guard_one h).imp_left fun ht => by rw [ht]; rfl)

/-- … and otherwise goes on to scrub the settings and apply them. -/
theorem applyRaw_goes_on (x : AStr) (nid : Nat) (a : SArg) (s e : Option Int) (top : Bool) (sNone tn tt : Bool)
    (h : Gen.applyGuard (x.len : Int) sNone a.truthy s e tn tt = 0) :
    x.applyRaw nid a s e top =
      (do let ts ← Scrub.scrub a; pure (x.applyFormatting (freshSettings nid ts) s e top)) := by
  rw [guard_is_code] at h
  unfold AStr.applyRaw
  exact if_neg fun hp => C04b.guard_zero h (hp.imp_left fun ht => by simpa using ht)

/-- the guard has no third outcome (it never raises) -/
theorem guard_total (n : Nat) (sNone truthy : Bool) (s e : Option Int) (tn tt : Bool) :
    Gen.applyGuard (n : Int) sNone truthy s e tn tt = 0 ∨ Gen.applyGuard (n : Int) sNone truthy s e tn tt = 1 := by
  rw [guard_is_code]; split <;> simp

/-- an empty range returns, a proper one goes on -/
example : Gen.applyGuard 5 false true (some 2) (some 2) false true = 1 := by decide
example : Gen.applyGuard 5 false true (some 2) (some 3) false true = 0 := by decide
example : Gen.applyGuard 5 false true (some (-9)) none false true = 0 := by decide
example : Gen.applyGuard 5 false false (some 1) (some 3) false true = 1 := by decide

end C06c
