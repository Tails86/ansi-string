import AnsiProofs.Lemmas.Pieces
/-
  Property C11 — the SETTINGS of the pieces returned by `split`, `rsplit`, `splitlines`,
  `partition`, `rpartition`, the `strip` family, `removeprefix` and `removesuffix`, of a case
  conversion that preserves the length and of `assign_str` with a shorter text, for all values and
  arguments.  (The text of the pieces is property C10; the `replace` clause is in C11b, `assign_str`
  with a text that is not shorter in C12.)

  Every piece is a slice of the original, so its settings follow from C04 (`getSlice_settings`);
  what is proved here is that the offset the code computes is the piece's TRUE offset.  Where the
  code recovers the offsets with `find` (whitespace splitting, `splitlines`), `Layout` / `trueOff`
  say what the true offset is.
-/

open PiecesL
open StrLikeL (lcount rcount lcount_le lcount_lt_of_rcount stripGen_cases)

namespace C11

/-! ## strip / lstrip / rstrip -/

/-- `_strip(chars, inplace, do_lstrip, do_rstrip)`: character `k` of the result reports the settings
    of character `off + k` of the receiver, `off` being the number of leading characters of the
    strip set (0 for `rstrip`) -/
theorem strip_settings (x : AStr) (h : WF x) (chars : Option Str) (doL doR ip : Bool) :
    let y := x.stripGen chars doL doR ip
    let off := if doL then
      (x.s.takeWhile (fun c => (chars.getD Gen.whitespaceChars).contains c)).length else 0
    ∀ k < y.len, act y k = act x (off + k) := by
  show ∀ k < (x.stripGen chars doL doR ip).len,
    act (x.stripGen chars doL doR ip) k = act x (lcount x chars doL + k)
  intro k hk
  rcases stripGen_cases x chars doL doR ip with ⟨e, h0, -⟩ | ⟨e, -⟩
  · rw [e, h0, Nat.zero_add]
  · rw [e] at hk ⊢
    exact getSlice_from_act x h _ _ hk

/-- `off` is the true offset: the text of the result sits there in the receiver's text -/
theorem strip_at (x : AStr) (chars : Option Str) (doL doR ip : Bool) :
    let y := x.stripGen chars doL doR ip
    let off := if doL then
      (x.s.takeWhile (fun c => (chars.getD Gen.whitespaceChars).contains c)).length else 0
    pySlice x.s off (off + y.len) = y.s := by
  show pySlice x.s (lcount x chars doL) (lcount x chars doL + (x.stripGen chars doL doR ip).len) =
    (x.stripGen chars doL doR ip).s
  rcases stripGen_cases x chars doL doR ip with ⟨e, h0, -⟩ | ⟨e, -⟩
  · rw [e, h0, Nat.zero_add, StrLikeL.pySlice_eq, List.drop_zero]
    exact List.take_length
  · have := getSlice_text_at x (some (lcount x chars doL : Int))
      (if rcount x chars doL doR = 0 then none else some (-(rcount x chars doL doR : Int)))
    rwa [StrLikeL.sliceIdx_ofNat, Nat.min_eq_left (lcount_le x chars doL), ← e] at this

/-- `inplace=True` and nothing to strip: the receiver itself is returned, unchanged -/
theorem strip_unchanged (x : AStr) (chars : Option Str) (doL doR : Bool)
    (hl : (x.stripGen chars doL doR true).len = x.len) : x.stripGen chars doL doR true = x := by
  rcases stripGen_cases x chars doL doR true with ⟨e, -⟩ | ⟨e, hc⟩
  · exact e
  · exfalso
    have hle := lcount_le x chars doL
    rw [e, getSlice_len, StrLikeL.sliceIdx_ofNat, Nat.min_eq_left hle] at hl
    by_cases hr : rcount x chars doL doR = 0
    · rw [if_pos hr] at hl
      exact hc ⟨rfl, by have : sliceIdx x.len none x.len = x.len := rfl; omega, hr⟩
    · have := lcount_lt_of_rcount hr
      rw [if_neg hr, StrLikeL.sliceIdx_negNat _ _ _ (Nat.pos_of_ne_zero hr)] at hl
      omega

theorem strip_wf (x : AStr) (h : WF x) (chars : Option Str) (doL doR ip : Bool) :
    WF (x.stripGen chars doL doR ip) := by
  rcases stripGen_cases x chars doL doR ip with ⟨e, -⟩ | ⟨e, -⟩
  · rw [e]; exact h
  · rw [e]; exact C04.getSlice_wf x h _ _

/-! ## removeprefix / removesuffix -/

theorem removeprefix_settings (x : AStr) (h : WF x) (p : Str) (hp : Py.startsWith x.s p = true) :
    ∀ k < (x.removeprefix p).len, act (x.removeprefix p) k = act x (p.length + k) := by
  intro k hk
  unfold AStr.removeprefix at hk ⊢
  simp only [hp, Bool.not_true, Bool.false_eq_true, if_false] at hk ⊢
  exact getSlice_from_act x h p.length none hk

theorem removeprefix_absent (x : AStr) (p : Str) (hp : Py.startsWith x.s p = false) :
    x.removeprefix p = x := by
  unfold AStr.removeprefix
  rw [hp]
  rfl

theorem removesuffix_settings (x : AStr) (h : WF x) (p : Str) :
    ∀ k < (x.removesuffix p).len, act (x.removesuffix p) k = act x k := by
  intro k hk
  unfold AStr.removesuffix at hk ⊢
  split
  · rfl
  · rename_i hc
    rw [if_neg hc] at hk
    exact getSlice_to_act x h _ hk

theorem removesuffix_absent (x : AStr) (p : Str) (hp : p = [] ∨ Py.endsWith x.s p = false) :
    x.removesuffix p = x := by
  unfold AStr.removesuffix
  rcases hp with hp | hp
  · simp [hp]
  · simp [hp]

theorem removeprefix_wf (x : AStr) (h : WF x) (p : Str) : WF (x.removeprefix p) := by
  unfold AStr.removeprefix
  split
  · exact h
  · exact C04.getSlice_wf x h _ _

theorem removesuffix_wf (x : AStr) (h : WF x) (p : Str) : WF (x.removesuffix p) := by
  unfold AStr.removesuffix
  split
  · exact h
  · exact C04.getSlice_wf x h _ _

/-! ## partition / rpartition -/

/-- the separator is found at `idx`: the three pieces report the settings of the receiver at the
    offsets `0`, `idx`, `idx + len(sep)`; their lengths are `idx`, `len(sep)` and the rest -/
theorem partition_settings (x : AStr) (h : WF x) (sep : Str) (rev : Bool) (idx : Nat)
    (hf : (if rev then Py.rfind x.s sep else Py.find x.s sep 0) = some idx) :
    let r := x.partitionGen sep rev
    (r.1.len = idx ∧ r.2.1.len = sep.length ∧ r.2.2.len = x.len - (idx + sep.length)) ∧
    (∀ k < r.1.len, act r.1 k = act x k) ∧
    (∀ k < r.2.1.len, act r.2.1 k = act x (idx + k)) ∧
    (∀ k < r.2.2.len, act r.2.2 k = act x (idx + sep.length + k)) := by
  have hocc : sep.isPrefixOf (x.s.drop idx) = true ∧ idx ≤ x.len := by
    cases rev
    · obtain ⟨h1, -, h2, -⟩ := (StrLikeL.find_some_iff _ _ _ _).mp hf
      exact ⟨h2, h1⟩
    · obtain ⟨h1, h2, -⟩ := (StrLikeL.rfind_some_iff _ _ _).mp hf
      exact ⟨h2, h1⟩
  have hle : idx + sep.length ≤ x.len := occ_le x.s sep idx hocc.1 hocc.2
  simp only [partition_eq x sep rev idx hf]
  refine ⟨⟨?_, ?_, ?_⟩, fun k hk => ?_, fun k hk => getSlice_from_act x h idx _ hk,
    fun k hk => getSlice_from_act x h _ none hk⟩
  · rw [getSlice_nat_len, Nat.min_eq_left hocc.2, Nat.zero_min, Nat.sub_zero]
  · rw [getSlice_nat_len, Nat.min_eq_left hle, Nat.min_eq_left hocc.2, Nat.add_sub_cancel_left]
  · rw [getSlice_len, StrLikeL.sliceIdx_ofNat]
    show x.len - min (idx + sep.length) x.len = _
    rw [Nat.min_eq_left hle]
  · rw [getSlice_from_act x h 0 _ hk, Nat.zero_add]

/-- `partition`: `idx` is the FIRST occurrence of the separator -/
theorem partition_settings_first (x : AStr) (h : WF x) (sep : Str) (idx : Nat)
    (hle : idx ≤ x.len) (hocc : sep.isPrefixOf (x.s.drop idx) = true)
    (hfirst : ∀ j < idx, sep.isPrefixOf (x.s.drop j) = false) :
    let r := x.partitionGen sep false
    (∀ k < r.1.len, act r.1 k = act x k) ∧
    (∀ k < r.2.1.len, act r.2.1 k = act x (idx + k)) ∧
    (∀ k < r.2.2.len, act r.2.2 k = act x (idx + sep.length + k)) :=
  (partition_settings x h sep false idx
    ((StrLikeL.find_some_iff _ _ _ _).mpr ⟨hle, Nat.zero_le _, hocc, fun j hj _ => hfirst j hj⟩)).2

/-- `rpartition`: `idx` is the LAST occurrence of the separator -/
theorem rpartition_settings_last (x : AStr) (h : WF x) (sep : Str) (idx : Nat)
    (hle : idx ≤ x.len) (hocc : sep.isPrefixOf (x.s.drop idx) = true)
    (hlast : ∀ j, idx < j → j ≤ x.len → sep.isPrefixOf (x.s.drop j) = false) :
    let r := x.partitionGen sep true
    (∀ k < r.1.len, act r.1 k = act x k) ∧
    (∀ k < r.2.1.len, act r.2.1 k = act x (idx + k)) ∧
    (∀ k < r.2.2.len, act r.2.2 k = act x (idx + sep.length + k)) :=
  (partition_settings x h sep true idx ((StrLikeL.rfind_some_iff _ _ _).mpr ⟨hle, hocc, hlast⟩)).2

theorem partition_absent (x : AStr) (sep : Str) (rev : Bool)
    (hf : (if rev then Py.rfind x.s sep else Py.find x.s sep 0) = none) :
    x.partitionGen sep rev = (x, {}, {}) :=
  StrLikeL.partitionGen_none x sep rev hf

theorem partition_wf (x : AStr) (h : WF x) (sep : Str) (rev : Bool) :
    WF (x.partitionGen sep rev).1 ∧ WF (x.partitionGen sep rev).2.1 ∧
      WF (x.partitionGen sep rev).2.2 := by
  cases hf : (if rev then Py.rfind x.s sep else Py.find x.s sep 0) with
  | none => rw [partition_absent x sep rev hf]; exact ⟨h, wf_empty, wf_empty⟩
  | some idx =>
    simp only [partition_eq x sep rev idx hf]
    exact ⟨C04.getSlice_wf x h _ _, C04.getSlice_wf x h _ _, C04.getSlice_wf x h _ _⟩

/-! ## split / rsplit with an explicit separator -/

/-- the `j`-th piece reports the settings of the receiver at its true offset: the pieces and the
    separators between them are laid out contiguously (`C10.split_join`), so that offset is the
    total length of the earlier pieces plus one separator each -/
theorem split_settings (x : AStr) (h : WF x) (sep : Str) (hsep : sep ≠ []) (m : Int) (r : Bool)
    (ps : List AStr) (hps : x.splitGen (some sep) m r = .ok ps) (j : Nat) (p : AStr)
    (hj : ps[j]? = some p) :
    ∀ k < p.len, act p k = act x (((ps.take j).map (fun q => q.len + sep.length)).sum + k) := by
  intro k hk
  have hoff : ((ps.take j).map (fun q => q.len + sep.length)).sum =
      (((ps.map (·.s)).take j).map (fun q => q.length + sep.length)).sum := by
    rw [← List.map_take, List.map_map]
    rfl
  rw [hoff, C10.split_text x sep m r ps hsep hps]
  cases sep with
  | nil => exact absurd rfl hsep
  | cons c sp =>
    simp only [AStr.splitGen, Except.ok.injEq] at hps
    subst hps
    rw [piecesAt_getElem?, C10.pieceOffsets_sep x.s (c :: sp) m r j] at hj
    cases hq : (if r then Py.rsplitSep x.s (c :: sp) m else Py.splitSep x.s (c :: sp) m)[j]? with
    | none => rw [hq] at hj; cases hj
    | some q =>
      rw [hq, Option.map_some, Option.map_some, Option.some.injEq] at hj
      subst hj
      exact getSlice_from_act x h _ _ hk

theorem split_wf (x : AStr) (h : WF x) (sep : Option Str) (m : Int) (r : Bool) (ps : List AStr)
    (hps : x.splitGen sep m r = .ok ps) : ∀ p ∈ ps, WF p :=
  PiecesL.split_wf x h sep m r ps hps

/-! ## whitespace splitting and `splitlines`: layouts and true offsets -/

/-- `Layout sepc s gaps pieces`: the text `s` is `g₀ ++ p₀ ++ g₁ ++ p₁ ++ … ++ gₙ` and every gap
    consists of separator characters only.  This says where the pieces ARE, without `find`. -/
structure Layout (sepc : Char → Bool) (s : Str) (gaps pieces : List Str) : Prop where
  count : gaps.length = pieces.length + 1
  text  : s = interleave gaps pieces
  sep   : ∀ g ∈ gaps, ∀ c ∈ g, sepc c = true

theorem Layout.piece_at {sepc : Char → Bool} {s : Str} {gaps pieces : List Str}
    (h : Layout sepc s gaps pieces) (j : Nat) (p : Str) (hj : pieces[j]? = some p) :
    pySlice s (trueOff gaps pieces j) (trueOff gaps pieces j + p.length) = p := by
  obtain ⟨hc, ht, -⟩ := h
  subst ht
  unfold pySlice
  induction pieces generalizing gaps j with
  | nil => simp at hj
  | cons q ps ih =>
    cases gaps with
    | nil => simp at hc
    | cons g gs =>
      have hc' : gs.length = ps.length + 1 := by simpa using hc
      cases j with
      | zero =>
        simp only [List.getElem?_cons_zero, Option.some.injEq] at hj
        subst hj
        rw [trueOff_zero, interleave, List.take_left' (by simp), List.drop_left' rfl]
      | succ j =>
        simp only [List.getElem?_cons_succ] at hj
        have e : g.length + q.length = (g ++ q).length := by simp
        rw [trueOff_succ, interleave, e, Nat.add_assoc, List.take_length_add_append,
          List.drop_length_add_append]
        exact ih j hj hc'

/-! ### from the (gap, piece) pairs of the lemma file to `Layout` -/

private theorem interleave_pairs (pairs : List (Str × Str)) (tail : Str) :
    interleave (pairs.map (·.1) ++ [tail]) (pairs.map (·.2)) = catL pairs ++ tail := by
  induction pairs with
  | nil => rfl
  | cons gp rest ih =>
    rw [catL_cons]
    simp only [List.map_cons, List.cons_append, interleave, ih, List.append_assoc]

private theorem layout_of_pairs {sepc : Char → Bool} {s : Str} {pairs : List (Str × Str)} {tail : Str}
    (hs : s = catL pairs ++ tail) (ht : ∀ c ∈ tail, sepc c = true)
    (hg : ∀ gp ∈ pairs, ∀ c ∈ gp.1, sepc c = true) :
    Layout sepc s (pairs.map (·.1) ++ [tail]) (pairs.map (·.2)) where
  count := by simp
  text := by rw [interleave_pairs]; exact hs
  sep := by
    intro g hg' c hc
    rcases List.mem_append.mp hg' with h1 | h1
    · obtain ⟨gp, hgp, rfl⟩ := List.mem_map.mp h1
      exact hg gp hgp c hc
    · simp only [List.mem_singleton] at h1
      subst h1
      exact ht c hc

/-- In a layout whose pieces are empty or start with a non-separator character, the offset that
    `find` recovers for a non-empty piece is its true offset (an empty piece may be found early). -/
private theorem Layout.found {sepc : Char → Bool} {s : Str} {gaps pieces : List Str}
    (h : Layout sepc s gaps pieces) (hp : ∀ p ∈ pieces, ∀ c ∈ p.head?, sepc c = false)
    (j : Nat) (p : Str) (hj : pieces[j]? = some p) :
    ∃ e, (AStr.pieceOffsets s 0 pieces 0)[j]? = some (e, p.length) ∧
      (p ≠ [] → e = trueOff gaps pieces j) := by
  obtain ⟨e, he, h1⟩ := pieceOffsets_early sepc s gaps pieces [] 0 h.count h.text (Nat.le_refl _)
    (region_empty _ _ _) h.sep hp j p hj
  exact ⟨e, he, fun hne => (h1 hne).trans (Nat.zero_add _)⟩

/-- If moreover every piece is non-empty, and starts with a non-separator character or has an empty
    gap before it, `find` recovers the true offset of every piece. -/
private theorem Layout.found_nonempty {sepc : Char → Bool} {s : Str} {gaps pieces : List Str}
    (h : Layout sepc s gaps pieces) (hne : ∀ p ∈ pieces, p ≠ [])
    (hp : ∀ (j : Nat) (p : Str), pieces[j]? = some p →
      (∀ c ∈ p.head?, sepc c = false) ∨ gaps[j]? = some [])
    (j : Nat) (p : Str) (hj : pieces[j]? = some p) :
    (AStr.pieceOffsets s 0 pieces 0)[j]? = some (trueOff gaps pieces j, p.length) := by
  have := pieceOffsets_exact sepc s gaps pieces [] h.count h.text h.sep hne hp j p hj
  rwa [List.length_nil, Nat.zero_add] at this

/-- The true offset of a NON-EMPTY piece does not depend on the layout chosen: it is the one `find`
    recovers, which depends on `s` and the pieces only.  (Empty pieces have no determined position:
    `"a\n\nb"` is `a ++ "\n" ++ "" ++ "\n" ++ b` and also `a ++ "\n\n" ++ "" ++ "" ++ b`.) -/
theorem Layout.trueOff_unique {sepc : Char → Bool} {s : Str} {gaps gaps' pieces : List Str}
    (h : Layout sepc s gaps pieces) (h' : Layout sepc s gaps' pieces)
    (hp : ∀ p ∈ pieces, ∀ c ∈ p.head?, sepc c = false) (j : Nat) (p : Str)
    (hj : pieces[j]? = some p) (hne : p ≠ []) : trueOff gaps pieces j = trueOff gaps' pieces j := by
  obtain ⟨e, he, h1⟩ := h.found hp j p hj
  obtain ⟨e', he', h2⟩ := h'.found hp j p hj
  rw [he, Option.some.injEq, Prod.mk.injEq] at he'
  rw [← h1 hne, ← h2 hne, he'.1]

/-- The same for whitespace splitting, where a piece may start with a separator character when the
    gap before it is empty (the unsplit rest of `rsplit(None, m)`). -/
theorem Layout.trueOff_unique_nonempty {sepc : Char → Bool} {s : Str} {gaps gaps' pieces : List Str}
    (h : Layout sepc s gaps pieces) (h' : Layout sepc s gaps' pieces)
    (hne : ∀ p ∈ pieces, p ≠ [])
    (hp : ∀ (j : Nat) (p : Str), pieces[j]? = some p →
      (∀ c ∈ p.head?, sepc c = false) ∨ gaps[j]? = some [])
    (hp' : ∀ (j : Nat) (p : Str), pieces[j]? = some p →
      (∀ c ∈ p.head?, sepc c = false) ∨ gaps'[j]? = some [])
    (j : Nat) (hj : j < pieces.length) : trueOff gaps pieces j = trueOff gaps' pieces j := by
  have h1 := h.found_nonempty hne hp j _ (List.getElem?_eq_getElem hj)
  rw [h'.found_nonempty hne hp' j _ (List.getElem?_eq_getElem hj), Option.some.injEq,
    Prod.mk.injEq] at h1
  exact h1.1.symm

private theorem pieces_settings (x : AStr) (h : WF x) (gaps pieces : List Str)
    (hfound : ∀ (j : Nat) (p : Str), pieces[j]? = some p →
      ∃ e, (AStr.pieceOffsets x.s 0 pieces 0)[j]? = some (e, p.length) ∧
        (p ≠ [] → e = trueOff gaps pieces j))
    (j : Nat) (q : AStr) (hj : (x.piecesAt (AStr.pieceOffsets x.s 0 pieces 0))[j]? = some q) :
    (∀ k < q.len, act q k = act x (trueOff gaps pieces j + k)) ∧
    (q.len = 0 → q = { s := [], fmts := [] }) := by
  rw [piecesAt_getElem?] at hj
  cases hol : (AStr.pieceOffsets x.s 0 pieces 0)[j]? with
  | none => rw [hol] at hj; cases hj
  | some ol =>
    rw [hol, Option.map_some, Option.some.injEq] at hj
    subst hj
    refine ⟨fun k hk => ?_, getSlice_of_len_zero x _ _⟩
    have hjl : j < pieces.length := by
      have := (List.getElem?_eq_some_iff.mp hol).1
      rwa [pieceOffsets_length] at this
    obtain ⟨e, he, he2⟩ := hfound j _ (List.getElem?_eq_getElem hjl)
    rw [hol, Option.some.injEq] at he
    subst he
    have hn : pieces[j] ≠ [] := by
      intro h0
      rw [getSlice_nat_len] at hk
      simp only [h0, List.length_nil, Nat.add_zero] at hk
      omega
    rw [getSlice_from_act x h _ _ hk, he2 hn]

/-- `split(None, m)` / `rsplit(None, m)`: the gaps are whitespace only; every piece is non-empty and
    starts with a non-whitespace character — or has an empty gap before it (only the unsplit rest of
    `rsplit(None, m)`, a prefix of the text, may begin with whitespace); and the `j`-th piece reports
    the settings of the receiver at its TRUE offset `|g₀| + |p₀| + … + |gⱼ|` -/
theorem splitWs_settings (x : AStr) (h : WF x) (m : Int) (r : Bool) (ps : List AStr)
    (hps : x.splitGen none m r = .ok ps) :
    ∃ gaps : List Str, Layout Py.isSpace x.s gaps (ps.map (·.s)) ∧
      ∀ (j : Nat) (p : AStr), ps[j]? = some p →
        p.len ≠ 0 ∧ ((∀ c ∈ p.s.head?, Py.isSpace c = false) ∨ gaps[j]? = some []) ∧
        ∀ k < p.len, act p k = act x (trueOff gaps (ps.map (·.s)) j + k) := by
  obtain ⟨pairs, tail, hs, htail, hpairs, hstrs⟩ := ws_layout x.s m r
  have htext : ps.map (·.s) = pairs.map (·.2) := by
    rw [C10.splitWs_text x m r ps hps, hstrs]
  simp only [AStr.splitGen, Except.ok.injEq] at hps
  rw [hstrs] at hps
  subst hps
  rw [htext]
  have hlay := layout_of_pairs hs htail (fun gp hgp => (hpairs gp hgp).2.1)
  have hne : ∀ p ∈ pairs.map (·.2), p ≠ [] := fun p hp => by
    obtain ⟨gp, hgp, rfl⟩ := List.mem_map.mp hp
    exact (hpairs gp hgp).1
  have hhead : ∀ (j : Nat) (p : Str), (pairs.map (·.2))[j]? = some p →
      (∀ c ∈ p.head?, Py.isSpace c = false) ∨ (pairs.map (·.1) ++ [tail])[j]? = some [] := by
    intro j p hj
    rw [List.getElem?_map, Option.map_eq_some_iff] at hj
    obtain ⟨gp, hgp, rfl⟩ := hj
    rw [List.getElem?_append_left (by
      rw [List.length_map]; exact (List.getElem?_eq_some_iff.mp hgp).1),
      List.getElem?_map, hgp, Option.map_some, Option.some.injEq]
    exact (hpairs gp (List.mem_of_getElem? hgp)).2.2
  refine ⟨_, hlay, fun j p hj => ?_⟩
  have hp : (pairs.map (·.2))[j]? = some p.s := by
    rw [← htext, List.getElem?_map, hj]
    rfl
  exact ⟨fun h0 => hne p.s (List.mem_of_getElem? hp) (List.eq_nil_of_length_eq_zero h0),
    hhead j p.s hp,
    (pieces_settings x h _ _ (fun j p hj =>
      ⟨_, hlay.found_nonempty hne hhead j p hj, fun _ => rfl⟩) j p hj).1⟩

/-- the separator characters of `splitlines(keepends)`: the line breaks — or nothing at all when
    the line breaks are kept in the pieces -/
def lineSep (keepends : Bool) (c : Char) : Bool := !keepends && Py.isLineBreak c

theorem lineSep_eq : lineSep = PiecesL.lineSep := rfl

/-- `splitlines(keepends)`: the gaps consist of line-break characters only (`\r\n` included; all
    gaps are empty when `keepends`).  Every NON-EMPTY line reports the settings of the receiver at its
    TRUE offset in this layout; an EMPTY line (which the code may locate early, see the example
    `"a\n\nb"` below) has no characters and an empty table. -/
theorem splitlines_settings (x : AStr) (h : WF x) (keepends : Bool) :
    ∃ gaps : List Str, Layout (lineSep keepends) x.s gaps ((x.splitlines keepends).map (·.s)) ∧
      (∀ t ∈ (x.splitlines keepends).map (·.s), ∀ c ∈ t, lineSep keepends c = false) ∧
      ∀ (j : Nat) (p : AStr), (x.splitlines keepends)[j]? = some p →
        (∀ k < p.len, act p k = act x (trueOff gaps ((x.splitlines keepends).map (·.s)) j + k)) ∧
        (p.len = 0 → p = { s := [], fmts := [] }) := by
  obtain ⟨pairs, tail, hs, htail, hpairs, hstrs⟩ := lines_layout x.s keepends
  have htext : (x.splitlines keepends).map (·.s) = pairs.map (·.2) := by
    rw [C10.splitlines_text, hstrs]
  rw [htext]
  have hlay := layout_of_pairs hs htail (fun gp hgp => (hpairs gp hgp).1)
  have hlines : ∀ t ∈ pairs.map (·.2), ∀ c ∈ t, lineSep keepends c = false := by
    intro t ht
    obtain ⟨gp, hgp, rfl⟩ := List.mem_map.mp ht
    exact (hpairs gp hgp).2
  refine ⟨_, hlay, hlines, fun j p hj => ?_⟩
  unfold AStr.splitlines at hj
  rw [hstrs] at hj
  exact pieces_settings x h _ _
    (hlay.found fun p hp c hc => hlines p hp c (List.mem_of_mem_head? hc)) j p hj

theorem splitlines_wf (x : AStr) (h : WF x) (keepends : Bool) : ∀ p ∈ x.splitlines keepends, WF p :=
  piecesAt_wf x h _

/-! ## case conversions -/

/-- a case conversion that preserves the length keeps the settings at every position (the table is
    left alone; without the length hypothesis the equation still holds, but the positions no longer
    correspond to the same characters — see the `ß` example below) -/
theorem case_settings (x : AStr) (t : Str) (_ht : t.length = x.len) :
    ∀ k, act (x.mapText t) k = act x k :=
  fun _ => rfl

theorem mapText_wf (x : AStr) (h : WF x) (t : Str) (ht : t.length = x.len) : WF (x.mapText t) :=
  PiecesL.mapText_wf x h t ht

/-! ## `assign_str` with a shorter text -/

theorem assignStr_shorter (x : AStr) (h : WF x) (t : Str) (ht : t.length < x.len) :
    ∀ k < t.length, act (x.assignStr t) k = act x k := by
  intro k hk
  rw [assignStr_shorter_eq x t ht]
  show act (x.getSlice none (some (t.length : Int))) k = act x k
  exact getSlice_to_act x h _ (by rw [assignStr_shorter_slice_len x t ht]; exact hk)

/-- the settings of the removed characters are dropped: nothing is active from the new end on -/
theorem assignStr_shorter_closed (x : AStr) (h : WF x) (t : Str) (ht : t.length < x.len) :
    ∀ j ≥ t.length, act (x.assignStr t) j = [] := by
  intro j hj
  rw [assignStr_shorter_eq x t ht]
  show act (x.getSlice none (some (t.length : Int))) j = []
  rcases Nat.eq_zero_or_pos t.length with h0 | h0
  · rw [getSlice_of_len_zero x _ _ (by rw [assignStr_shorter_slice_len x t ht]; exact h0)]
    simp [act, active, activeFrom]
  · have e : x.getSlice none (some (t.length : Int)) = x.getRange 0 t.length := by
      unfold AStr.getSlice
      rw [StrLikeL.sliceIdx_ofNat, Nat.min_eq_left (by omega)]
      rfl
    rw [e]
    exact C04.getRange_closed x h h0 (by omega) j (by omega)

theorem assignStr_wf_shorter (x : AStr) (h : WF x) (t : Str) (ht : t.length < x.len) :
    WF (x.assignStr t) := by
  rw [assignStr_shorter_eq x t ht]
  exact PiecesL.mapText_wf _ (C04.getSlice_wf x h _ _) t (assignStr_shorter_slice_len x t ht).symm

/-! ## Non-vacuity: non-uniformly formatted values -/

section Examples

def red : Setting := ⟨1, "31".toList⟩
def blue : Setting := ⟨2, "34".toList⟩

/-- the red run ends INSIDE the run of `b`s -/
def exS : AStr :=
  { s := "xabbbb".toList, fmts := [(0, { add := [red] }), (3, { rem := [red] })] }

theorem exS_wf : WF exS := wf_of_finite (by decide +kernel)

/-- red on one blank and the `a` -/
def exT : AStr :=
  { s := "  ab ".toList, fmts := [(1, { add := [red] }), (3, { rem := [red] })] }

theorem exT_wf : WF exT := wf_of_finite (by decide +kernel)

/-- red up to and including the `b` -/
def exW : AStr :=
  { s := " a  b c ".toList, fmts := [(0, { add := [red] }), (5, { rem := [red] })] }

theorem exW_wf : WF exW := wf_of_finite (by decide +kernel)

/-- red on everything but the `b` -/
def exL : AStr :=
  { s := "a\r\n\nb".toList, fmts := [(0, { add := [red] }), (4, { rem := [red] })] }

theorem exL_wf : WF exL := wf_of_finite (by decide +kernel)

example : (exT.stripGen none true true false).s = "ab".toList ∧
    act (exT.stripGen none true true false) 0 = [red] ∧
    act (exT.stripGen none true true false) 1 = [] := by decide +kernel
example : act (exT.stripGen none true true false) 1 = act exT (2 + 1) :=
  strip_settings exT exT_wf none true true false 1 (by decide)
/-- `rstrip` only: offset 0, the leading blanks stay (the second one is red) -/
example : (exT.stripGen none false true false).s = "  ab".toList ∧
    act (exT.stripGen none false true false) 0 = [] ∧
    act (exT.stripGen none false true false) 1 = [red] := by decide +kernel
/-- hypothesis of `strip_unchanged` is satisfiable (nothing to strip, `inplace`) -/
example : (exS.stripGen none true true true).len = exS.len ∧ exS.stripGen none true true true = exS := by
  decide +kernel

example : Py.startsWith exS.s "xa".toList = true := by decide +kernel
example : (exS.removeprefix "xa".toList).s = "bbbb".toList ∧
    act (exS.removeprefix "xa".toList) 0 = [red] ∧ act (exS.removeprefix "xa".toList) 1 = [] := by
  decide +kernel
example : act (exS.removeprefix "xa".toList) 1 = act exS (2 + 1) :=
  removeprefix_settings exS exS_wf "xa".toList (by decide) 1 (by decide)
example : Py.startsWith exS.s "ab".toList = false ∧ exS.removeprefix "ab".toList = exS := by decide +kernel
example : Py.endsWith exS.s "ab".toList = false ∧ exS.removesuffix "ab".toList = exS := by decide +kernel
example : (exS.removesuffix "bb".toList).s = "xabb".toList ∧
    act (exS.removesuffix "bb".toList) 2 = [red] ∧ act (exS.removesuffix "bb".toList) 3 = [] := by
  decide +kernel

/-! partition / rpartition: `"x" | "ab" | "bbb"`; the last piece starts unstyled -/
example : Py.find exS.s "ab".toList 0 = some 1 ∧ Py.rfind exS.s "b".toList = some 5 := by decide +kernel
example : (exS.partitionGen "ab".toList false).2.2.s = "bbb".toList ∧
    act (exS.partitionGen "ab".toList false).1 0 = [red] ∧
    act (exS.partitionGen "ab".toList false).2.1 1 = [red] ∧
    act (exS.partitionGen "ab".toList false).2.2 0 = [] := by decide +kernel
example : act (exS.partitionGen "ab".toList false).2.2 0 = act exS (1 + 2 + 0) :=
  (partition_settings exS exS_wf "ab".toList false 1 (by decide)).2.2.2 0 (by decide)
/-- the hypotheses of `partition_settings_first` / `rpartition_settings_last` are satisfiable -/
example : act (exS.partitionGen "ab".toList false).2.2 0 = act exS (1 + 2 + 0) :=
  (partition_settings_first exS exS_wf "ab".toList 1 (by decide) (by decide) (by decide)).2.2 0
    (by decide)
example : act (exS.partitionGen "b".toList true).1 3 = act exS 3 :=
  (rpartition_settings_last exS exS_wf "b".toList 5 (by decide) (by decide) (fun j h1 h2 => by
    have : j = 6 := by
      have : exS.len = 6 := by decide
      omega
    subst this
    decide)).1 3 (by decide)
example : act (exS.partitionGen "b".toList true).1 2 = [red] ∧
    act (exS.partitionGen "b".toList true).1 3 = [] ∧
    act (exS.partitionGen "b".toList true).2.1 0 = [] := by decide +kernel
example : Py.find exS.s "q".toList 0 = none ∧ exS.partitionGen "q".toList false = (exS, {}, {}) := by
  decide +kernel

/-! split at `"ab"`: the pieces are `"x"` (offset 0) and `"bbb"` (offset 3 = 1 + 2); `"bbb"` also
    occurs at offset 2, where red is still on — the piece must report nothing on its first character -/
example : ∃ ps, exS.splitGen (some "ab".toList) (-1) false = .ok ps ∧ ps.map (·.s) = ["x".toList, "bbb".toList] ∧
    ∃ p, ps[1]? = some p ∧ act p 0 = [] ∧ ∃ q, ps[0]? = some q ∧ act q 0 = [red] :=
  ⟨_, rfl, by decide, _, rfl, by decide, _, rfl, by decide⟩
example : Py.find exS.s "bbb".toList 0 = some 2 ∧ act exS 2 = [red] ∧ act exS 3 = [] := by decide +kernel
example (ps : List AStr) (hps : exS.splitGen (some "ab".toList) (-1) false = .ok ps) (p : AStr)
    (hp : ps[1]? = some p) (hk : 0 < p.len) :
    act p 0 = act exS (((ps.take 1).map (fun q => q.len + 2)).sum + 0) :=
  split_settings exS exS_wf "ab".toList (by decide) (-1) false ps hps 1 p hp 0 hk
example : ∃ ps, exS.splitGen (some "b".toList) 2 true = .ok ps ∧
    ps.map (·.s) = ["xabb".toList, [], []] ∧ ∃ p, ps[0]? = some p ∧ act p 2 = [red] ∧ act p 3 = [] :=
  ⟨_, rfl, by decide, _, rfl, by decide⟩

/-! whitespace splitting: `" a  b c "` is `" " a "  " b " " c " "`; true offsets 1, 4, 6 -/
example : Layout Py.isSpace exW.s [" ".toList, "  ".toList, " ".toList, " ".toList]
    ["a".toList, "b".toList, "c".toList] := ⟨by decide +kernel, by decide +kernel, by decide +kernel⟩
example : trueOff [" ".toList, "  ".toList, " ".toList, " ".toList] ["a".toList, "b".toList, "c".toList] 1 = 4 ∧
    trueOff [" ".toList, "  ".toList, " ".toList, " ".toList] ["a".toList, "b".toList, "c".toList] 2 = 6 := by
  decide +kernel
example : ∃ ps, exW.splitGen none (-1) false = .ok ps ∧
    ps.map (·.s) = ["a".toList, "b".toList, "c".toList] ∧
    ps.map (fun p => act p 0) = [[red], [red], []] := ⟨_, rfl, by decide +kernel, by decide +kernel⟩
/-- `rsplit(None, 1)`: the unsplit rest `" a  b"` is a prefix of the text and starts with a blank -/
example : ∃ ps, exW.splitGen none 1 true = .ok ps ∧ ps.map (·.s) = [" a  b".toList, "c".toList] ∧
    ps.map (fun p => act p 0) = [[red], []] ∧ ps.map (fun p => act p 4) = [[red], []] :=
  ⟨_, rfl, by decide, by decide, by decide⟩
example : Layout Py.isSpace exW.s [[], " ".toList, " ".toList] [" a  b".toList, "c".toList] :=
  ⟨by decide +kernel, by decide +kernel, by decide +kernel⟩

/-! splitlines: `"a\r\n\nb"`; the empty line is located early (offset 1 instead of 3) but has no
    characters; `b` is found at its true offset 4 -/
example : AStr.pieceOffsets exL.s 0 (Py.splitlines exL.s false) 0 = [(0, 1), (1, 0), (4, 1)] := by decide +kernel
example : Layout (lineSep false) exL.s [[], "\r\n".toList, "\n".toList, []] ["a".toList, [], "b".toList] :=
  ⟨by decide +kernel, by decide +kernel, by decide +kernel⟩
example : trueOff [[], "\r\n".toList, "\n".toList, []] ["a".toList, [], "b".toList] 1 = 3 ∧
    trueOff [[], "\r\n".toList, "\n".toList, []] ["a".toList, [], "b".toList] 2 = 4 := by decide +kernel
example : (exL.splitlines false).map (·.s) = ["a".toList, [], "b".toList] ∧
    (exL.splitlines false).map (fun p => act p 0) = [[red], [], []] ∧
    (exL.splitlines false)[1]? = some { s := [], fmts := [] } := by decide +kernel
/-- an empty line has no determined position (two layouts, offsets 3 and 4), `b` has (offset 4) -/
example : Layout (lineSep false) exL.s [[], "\r\n\n".toList, [], []] ["a".toList, [], "b".toList] ∧
    trueOff [[], "\r\n\n".toList, [], []] ["a".toList, [], "b".toList] 1 = 4 ∧
    trueOff [[], "\r\n\n".toList, [], []] ["a".toList, [], "b".toList] 2 = 4 :=
  ⟨⟨by decide +kernel, by decide +kernel, by decide +kernel⟩, by decide +kernel, by decide +kernel⟩
/-- `keepends`: no gaps at all -/
example : Layout (lineSep true) exL.s [[], [], [], []] ["a\r\n".toList, "\n".toList, "b".toList] :=
  ⟨by decide +kernel, by decide +kernel, by decide +kernel⟩
example : (exL.splitlines true).map (·.s) = ["a\r\n".toList, "\n".toList, "b".toList] ∧
    (exL.splitlines true).map (fun p => act p 0) = [[red], [red], []] := by decide +kernel

example : "XABBBB".toList.length = exS.len ∧ act (exS.mapText "XABBBB".toList) 2 = [red] ∧
    act (exS.mapText "XABBBB".toList) 3 = [] := by decide +kernel
example : WF (exS.mapText "XABBBB".toList) := mapText_wf exS exS_wf _ (by decide +kernel)
/-- what the property excludes: `'aßb'.upper() == 'ASSB'` is longer; the table stays, so the second
    `S` reports the settings of the old `b` and the new `B` reports nothing -/
example :
    let x : AStr :=
      { s := "aßb".toList,
        fmts := [(1, { add := [red] }), (2, { add := [blue], rem := [red] }), (3, { rem := [blue] })] }
    "ASSB".toList.length ≠ x.len ∧ act (x.mapText "ASSB".toList) 1 = [red] ∧
      act (x.mapText "ASSB".toList) 2 = [blue] ∧ act (x.mapText "ASSB".toList) 3 = [] := by decide +kernel

example : "XY".toList.length < exS.len := by decide +kernel
example : exS.assignStr "XY".toList = { s := "XY".toList, fmts := [(0, { add := [red] }), (2, { rem := [red] })] } := by
  decide +kernel
example : act (exS.assignStr "XY".toList) 1 = act exS 1 :=
  assignStr_shorter exS exS_wf _ (by decide +kernel) 1 (by decide +kernel)
example : act (exS.assignStr "XY".toList) 2 = [] :=
  assignStr_shorter_closed exS exS_wf _ (by decide +kernel) 2 (by decide +kernel)
example : WF (exS.assignStr "XY".toList) := assignStr_wf_shorter exS exS_wf _ (by decide +kernel)
example : exS.assignStr "wxyz".toList =
    { s := "wxyz".toList, fmts := [(0, { add := [red] }), (3, { rem := [red] })] } := by decide +kernel

end Examples

end C11

#print axioms C11.strip_settings
#print axioms C11.strip_at
#print axioms C11.strip_unchanged
#print axioms C11.strip_wf
#print axioms C11.removeprefix_settings
#print axioms C11.removeprefix_absent
#print axioms C11.removesuffix_settings
#print axioms C11.removesuffix_absent
#print axioms C11.removeprefix_wf
#print axioms C11.removesuffix_wf
#print axioms C11.partition_settings
#print axioms C11.partition_settings_first
#print axioms C11.rpartition_settings_last
#print axioms C11.partition_absent
#print axioms C11.partition_wf
#print axioms C11.split_settings
#print axioms C11.split_wf
#print axioms C11.Layout.piece_at
#print axioms C11.Layout.trueOff_unique
#print axioms C11.Layout.trueOff_unique_nonempty
#print axioms C11.splitWs_settings
#print axioms C11.splitlines_settings
#print axioms C11.splitlines_wf
#print axioms C11.case_settings
#print axioms C11.mapText_wf
#print axioms C11.assignStr_shorter
#print axioms C11.assignStr_shorter_closed
#print axioms C11.assignStr_wf_shorter
