import AnsiProofs.Props.C06d
import AnsiProofs.Props.C09c
import AnsiModel.Generated.Methods.GetItemCore
import AnsiProofs.Lemmas.StrLit
/-
  Property C04, part c — the *generated* (statement-by-statement translated) body of
  `AnsiString.__getitem__` (`Gen.getItemCore` of `AnsiModel/Generated/Methods/GetItemCore.lean`: the statements
  after `new_s._s = self._s[val]`) computes exactly what the hand-written model says
  (`AStr.getRange`, `AnsiModel/Slice.lean`) on values whose table is sorted; the outcomes `Exc.key`
  (the fetch `self._fmts[idx]` of the iterator) and `Exc.outside` (a negative key `idx - st`, `None`
  where the list `previous_settings` is needed) never happen there.

  The proof describes one round of the `for` loop on the loop state (`L.round`), shows that the rounds
  are the model's `AStr.getLoop` (`L.round_getLoop`), and rewrites the translated loop into these rounds
  by `ObjL.foldlM_keysAsc`.
-/

namespace C04c
namespace L
open ObjL

/-- the state of the translated loop:
    `(previous_settings, new_s, settings_initialized, current_settings, done)` -/
abbrev S := Option (List Setting) × AStr × Bool × List Setting × Bool

/-- one round of the `for` loop of `__getitem__`; once `done` (Python's `break`) is set nothing changes -/
def round (st en n : Nat) : S → Nat × Point → S
  | (o, ns, init, cur, true), _ => (o, ns, init, cur, true)
  | (o, ns, init, cur, false), (k, p) =>
    let cur' := stepPoint cur p
    if k > n ∨ k > en then (o, ns, init, cur', true)
    else if k = en then
      (o, { ns with fmts := if p.rem.isEmpty then ns.fmts else ns.fmts.set (k - st) { rem := p.rem } },
        init, cur', true)
    else if k = st then
      (some cur', { ns with fmts := if cur'.isEmpty then ns.fmts else ns.fmts.set 0 { add := cur' } },
        true, cur', false)
    else if k > st then
      (some cur',
        { ns with fmts :=
            (if !init ∧ !(o.getD []).isEmpty then ns.fmts.set 0 { add := o.getD [] } else ns.fmts).set (k - st) p },
        true, cur', false)
    else (some cur', ns, init, cur', false)

/-- the text of `new_s` is not touched, `previous_settings` is read as the list it holds (`None` as `[]`) -/
theorem round_getLoop (st en n : Nat) :
    ∀ (B : Fmts) (o : Option (List Setting)) (ns : AStr) (init : Bool) (cur : List Setting),
      ∃ o' f' init' c' d',
        B.foldl (round st en n) (o, ns, init, cur, false) = (o', { s := ns.s, fmts := f' }, init', c', d') ∧
        (o'.getD [], init', f') = AStr.getLoop st en n (o.getD []) init ns.fmts (replayFrom cur B) := by
  intro B
  induction B with
  | nil => intro o ns init cur; exact ⟨o, ns.fmts, init, cur, false, rfl, rfl⟩
  | cons kp B ih =>
    intro o ns init cur
    obtain ⟨k, p⟩ := kp
    have hdone : ∀ o ns init cur, B.foldl (round st en n) (o, ns, init, cur, true) = (o, ns, init, cur, true) :=
      fun _ _ _ _ => foldl_fixed (fun _ => rfl) B
    rw [List.foldl_cons, round, replayFrom, AStr.getLoop]
    by_cases h1 : k > n ∨ k > en
    · rw [if_pos h1, if_pos h1, hdone]
      exact ⟨_, _, _, _, _, rfl, rfl⟩
    rw [if_neg h1, if_neg h1]
    by_cases h2 : k = en
    · rw [if_pos h2, if_pos h2, hdone]
      exact ⟨_, _, _, _, _, rfl, rfl⟩
    rw [if_neg h2, if_neg h2]
    by_cases h3 : k = st
    · rw [if_pos h3, if_pos h3]
      exact ih (some (stepPoint cur p)) _ true (stepPoint cur p)
    rw [if_neg h3, if_neg h3]
    by_cases h4 : k > st
    · rw [if_pos h4, if_pos h4]
      exact ih (some (stepPoint cur p)) _ true (stepPoint cur p)
    · rw [if_neg h4, if_neg h4]
      exact ih (some (stepPoint cur p)) ns init (stepPoint cur p)

theorem truthy_none : Py.truthyOptList (none : Option (List Setting)) = false := rfl
theorem truthy_some (l : List Setting) : Py.truthyOptList (some l) = !l.isEmpty := rfl
theorem optGet_some (l : List Setting) : Py.optGet (some l) = (.ok l : Except Exc _) := rfl

/-- `if not settings_initialized and previous_settings:` with `previous_settings` used as a list under it:
    the variable read as the list it holds -/
theorem guard_optGet {β : Type} (b : Bool) (o : Option (List Setting)) (f : List Setting → Except Exc β)
    (e : Except Exc β) :
    (if (b && Py.truthyOptList o) = true then (Py.optGet o).bind f else e) =
      if (b && !(o.getD []).isEmpty) = true then f (o.getD []) else e := by
  cases o
  · cases b <;> rfl
  · rfl

end L

open L C06d.L ObjL

/-- the method was translated (it did not fall outside the translator's fragment) -/
theorem translated : Gen.getItemCoreOk = true := by decide

set_option linter.unusedSimpArgs false in
/-- C04: with `new_s._s = self._s[st:en]` already assigned, the statements of `__getitem__` translated
    from the source end normally with exactly the model's `getRange` -/
theorem getItemCore_is_code (x : AStr) (hs : SortedKeys x.fmts) (st en : Nat) :
    Gen.getItemCore x { s := pySlice x.s st en, fmts := [] } (st : Int) (en : Int) =
      .ok (x.getRange st en) := by
  unfold Gen.getItemCore AStr.getRange
  cases htext : (pySlice x.s st en).isEmpty with
  | true =>
    have : pySlice x.s st en = [] := by simpa using htext
    simp [this]
  | false =>
    have hse : st ≤ en := by
      have h := congrArg List.length (show pySlice x.s st en = (x.s.take en).drop st from rfl)
      have hne : (pySlice x.s st en).length ≠ 0 := by
        intro h0; rw [List.length_eq_zero_iff.mp h0] at htext; cases htext
      rw [List.length_drop, List.length_take] at h
      omega
    simp only [htext, length_eq_zero_dec, length_ne_zero_dec, length_pos_dec, Bool.not_false, Bool.not_true,
      Bool.false_eq_true, if_false]
    rw [foldlM_keysAsc hs (round := round st en x.len) ?spec]
    case spec =>
      intro s k p hg
      obtain ⟨o, ⟨t, F⟩, init, cur, d⟩ := s
      cases d
      case true => rfl
      -- the fetch and the iterator; the comparisons of `int`s as comparisons of the naturals
      simp only [get_of_get? hg, bind_ok, C09c.iter_step_is_code, round, AStr.len, gt_iff_lt, Int.ofNat_lt,
        Int.natCast_inj, guard_optGet, Bool.or_eq_true, decide_eq_true_eq, Bool.false_eq_true, if_false]
      -- branch by branch: the assignments `new_s._fmts[..] = ..` succeed, an `if` statement around one
      -- is an `if` around the table
      by_cases h1 : x.s.length < k ∨ en < k
      · rw [if_pos h1, if_pos h1]
      rw [if_neg h1, if_neg h1]
      by_cases h2 : k = en
      · rw [if_pos h2, if_pos h2]
        simp only [set_sub _ _ _ _ (h2 ▸ hse), bind_ok, ite_ok, ite_bnot, ite_astr]
      rw [if_neg h2, if_neg h2]
      by_cases h3 : k = st
      · rw [if_pos h3, if_pos h3]
        simp only [set_zero, bind_ok, ite_ok, ite_bnot, ite_astr]
      rw [if_neg h3, if_neg h3]
      by_cases h4 : st < k
      · rw [if_pos h4, if_pos h4]
        simp only [set_zero, set_sub _ _ _ _ (Nat.le_of_lt h4), bind_ok, ite_ok, ite_astr, Bool.and_eq_true]
      · rw [if_neg h4, if_neg h4]
    obtain ⟨o', f', init', c', d', hl, hr⟩ :=
      round_getLoop st en x.len x.fmts none { s := pySlice x.s st en, fmts := [] } false []
    have hr' : AStr.getLoop st en x.len [] false [] (replay x.fmts) = (o'.getD [], init', f') := hr.symm
    rw [hl, hr']
    simp only [bind_ok, htext, length_eq_zero_dec, length_ne_zero_dec, length_pos_dec, Bool.not_false,
      Bool.not_true, Bool.false_eq_true, if_false]
    cases o' with
    | none => simp [truthy_none, bind_ok]
    | some l =>
      simp only [truthy_some, optGet_some, Option.getD_some, set_zero, has_nat, set_nat, get_nat, modifyAt_nat,
        find_lt_zero, ensure_eq, Fmts.contains_ensure_self, bind_ok, ite_ok, ite_bnot, ite_astr, Bool.and_eq_true]

/-- in particular no `KeyError` from the fetch of the point of a key, no negative key `idx - st`, no
    `None` where the list `previous_settings` is needed -/
theorem getItemCore_never_outside (x : AStr) (hs : SortedKeys x.fmts) (st en : Nat) (err : Exc) :
    Gen.getItemCore x { s := pySlice x.s st en, fmts := [] } (st : Int) (en : Int) ≠ .error err := by
  rw [getItemCore_is_code x hs st en]
  intro h; cases h

/-! ## Non-vacuity -/

/-- "abcdef", object 0 (`31`) from 0 to 6, object 1 (`1`) from 2 to 4 -/
def x0 : AStr :=
  { s := "abcdef".toList,
    fmts := [(0, { add := [⟨0, "31".toList⟩] }), (2, { add := [⟨1, "1".toList⟩] }),
             (4, { rem := [⟨1, "1".toList⟩] }), (6, { rem := [⟨0, "31".toList⟩] })] }

theorem x0_sorted : SortedKeys x0.fmts := by unfold SortedKeys; decide

example : SortedKeys x0.fmts := x0_sorted

example : Gen.getItemCore x0 { s := pySlice x0.s 1 5, fmts := [] } 1 5 = .ok (x0.getRange 1 5) :=
  getItemCore_is_code x0 x0_sorted 1 5
example : Gen.getItemCore x0 { s := pySlice x0.s 2 4, fmts := [] } 2 4 = .ok (x0.getRange 2 4) :=
  getItemCore_is_code x0 x0_sorted 2 4
example : Gen.getItemCore x0 { s := pySlice x0.s 3 3, fmts := [] } 3 3 = .ok (x0.getRange 3 3) :=
  getItemCore_is_code x0 x0_sorted 3 3
example : Gen.getItemCore x0 { s := pySlice x0.s 0 6, fmts := [] } 0 6 = .ok (x0.getRange 0 6) :=
  getItemCore_is_code x0 x0_sorted 0 6
example : Gen.getItemCore x0 { s := pySlice x0.s 3 9, fmts := [] } 3 9 = .ok (x0.getRange 3 9) :=
  getItemCore_is_code x0 x0_sorted 3 9

/-- the values themselves: the settings active at the cut are started at 0, the ones still running at
    the end are stopped at the new length -/
example : Gen.getItemCore x0 { s := pySlice x0.s 1 5, fmts := [] } 1 5 = .ok
    { s := "bcde".toList,
      fmts := [(0, { add := [⟨0, "31".toList⟩] }), (1, { add := [⟨1, "1".toList⟩] }),
               (3, { rem := [⟨1, "1".toList⟩] }), (4, { rem := [⟨0, "31".toList⟩] })] } :=
  (getItemCore_is_code x0 x0_sorted 1 5).trans
    (congrArg Except.ok (by simp only [x0, strLitToList]; decide +kernel))

example : Gen.getItemCore x0 { s := pySlice x0.s 3 5, fmts := [] } 3 5 = .ok
    { s := "de".toList,
      fmts := [(0, { add := [⟨0, "31".toList⟩, ⟨1, "1".toList⟩] }), (1, { rem := [⟨1, "1".toList⟩] }),
               (2, { rem := [⟨0, "31".toList⟩] })] } :=
  (getItemCore_is_code x0 x0_sorted 3 5).trans
    (congrArg Except.ok (by simp only [x0, strLitToList]; decide +kernel))

example : Gen.getItemCore x0 { s := pySlice x0.s 3 3, fmts := [] } 3 3 = .ok { s := [], fmts := [] } :=
  (getItemCore_is_code x0 x0_sorted 3 3).trans
    (congrArg Except.ok (by simp only [x0, strLitToList]; decide +kernel))

/-- the hypothesis `SortedKeys` is needed: on a table out of order the fetch of the point meets `Exc.key` -/
example : Gen.getItemCore { s := "abc".toList, fmts := [(2, {}), (0, {})] }
    { s := "abc".toList, fmts := [] } 0 3 = .error .key := by
  simp only [strLitToList]; decide +kernel

end C04c

#print axioms C04c.translated
#print axioms C04c.getItemCore_is_code
#print axioms C04c.getItemCore_never_outside
