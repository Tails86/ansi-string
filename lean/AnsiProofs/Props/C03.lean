import AnsiProofs.Lemmas.RoundTrip
/-
  Property C03 — "For every reachable value s with well-formed settings, AnsiString(str(s)) has the
  same text and the same effective style on every character as s.  simplify() never changes the
  text or any character's effective style, afterwards is_formatting_parsable() is True and invalid
  settings are gone, and it is idempotent: a second simplify() leaves str(s) unchanged, and a
  simplified value renders to a fixed point (str(AnsiString(str(s))) == str(s))."

  `x.str` = `str(x)`; `(AStr.setAnsi r nid).1` = `AnsiString(r)` (new objects get the identities
  `nid, nid+1, …`); `x.simplify nid` = the value after `x.simplify()`; `den x` as in `C01.lean`;
  `WF` the history invariant every reachable value satisfies; `GroupSettings x` = every setting
  text is one SGR parameter group ("well-formed settings"); `NoEsc x.s` = the base text contains
  no ESC.

  Everything is proved for ALL values (no size bound).  The display-level clauses are theorems.
  The two byte-level clauses of the last sentence are FALSE (known finding D26): section 7 proves
  their negations on a concrete reachable value.
-/

open Term Eff RoundTripL

namespace C03

/-! ## 1 — a rendering is a well-formed input for a terminal -/

/-- every SGR sequence the renderer emits has decimal parameters only (`;`-joins of group texts,
    `0` and clear codes); text without ESC contributes no sequence.  (`SortedKeys` is not needed.) -/
theorem render_wellFormed (x : AStr) (o rs re : Bool) (hg : GroupSettings x) (hne : NoEsc x.s)
    (_hs : SortedKeys x.fmts) : Term.wellFormed (Render.render x o rs re) = true :=
  (passes_render hg hne o rs re).wellFormed

theorem str_wellFormed (x : AStr) (hg : GroupSettings x) (hne : NoEsc x.s) :
    Term.wellFormed x.str = true := by
  rw [C01.str_eq_render]
  exact (passes_render hg hne true false true).wellFormed

/-- a group text contains no terminator character, so "well-formed settings" implies
    `is_formatting_valid()` -/
theorem group_valid (x : AStr) (hg : GroupSettings x) : x.isFormattingValid = true :=
  groupSettings_valid hg

/-! ## 2 — the round trip `AnsiString(str(s))` -/

theorem roundtrip_text (x : AStr) (nid : Nat) (hw : WF x) (hg : GroupSettings x) (hne : NoEsc x.s) :
    (AStr.setAnsi x.str nid).1.s = x.s := by
  rw [C02.parse_text, C15b.str_strip x hw.sorted (groupSettings_valid hg) hne]

/-- same effective style on every character: the two values have the same denotation -/
theorem roundtrip_display (x : AStr) (nid : Nat) (hw : WF x) (hg : GroupSettings x) (hne : NoEsc x.s) :
    den (AStr.setAnsi x.str nid).1 = den x := by
  rw [C02b.parse_style_den _ _ (str_wellFormed x hg hne), C01.str_display x hw hg hne]

theorem eff_of_den_eq {y x : AStr} (h : den y = den x) (i : Nat) (hi : i < x.s.length) :
    eff (act y i) = eff (act x i) := by
  have hlen : y.s.length = x.s.length := by
    have := congrArg List.length h
    simpa [den] using this
  have := congrArg (fun l => l[i]?.map (·.2)) h
  simpa [den, hi, hlen] using this

theorem roundtrip_style (x : AStr) (nid : Nat) (hw : WF x) (hg : GroupSettings x) (hne : NoEsc x.s)
    (i : Nat) (hi : i < x.s.length) :
    eff (act (AStr.setAnsi x.str nid).1 i) = eff (act x i) :=
  eff_of_den_eq (roundtrip_display x nid hw hg hne) i hi

/-- the re-parsed value is a reachable value with well-formed settings again -/
theorem roundtrip_wf (x : AStr) (nid : Nat) :
    WF (AStr.setAnsi x.str nid).1 ∧ FreshFrom (AStr.setAnsi x.str nid).1 (AStr.setAnsi x.str nid).2 ∧
    GroupSettings (AStr.setAnsi x.str nid).1 :=
  ⟨C02.setAnsi_wf _ _, C02.setAnsi_fresh _ _, setAnsi_group _ _⟩

/-! ### non-vacuity: `"abc"`, red on `[0,3)`, blue on `[1,2)`, bold on `[1,3)` — conflicting colours -/

def ex : AStr :=
  { s := "abc".toList
    fmts := [(0, { add := [⟨1, "31".toList⟩] }),
             (1, { add := [⟨2, "34".toList⟩, ⟨3, "1".toList⟩] }),
             (2, { rem := [⟨2, "34".toList⟩] }),
             (3, { rem := [⟨1, "31".toList⟩, ⟨3, "1".toList⟩] })] }

theorem ex_wf : WF ex := wf_of_finite (by decide +kernel)

theorem ex_group : GroupSettings ex := by unfold GroupSettings; decide +kernel
theorem ex_noEsc : NoEsc ex.s := by unfold NoEsc; decide +kernel

example : WF ex ∧ GroupSettings ex ∧ NoEsc ex.s ∧ SortedKeys ex.fmts :=
  ⟨ex_wf, ex_group, ex_noEsc, ex_wf.sorted⟩

/-- the rendering: blue overrides red on `b`, red shows again on `c` -/
example : ex.str = "\x1b[31ma\x1b[34;1mb\x1b[31mc\x1b[m".toList := by
  -- the kernel is slow at evaluating `String.toList` on a long literal: spell it out first
  simp only [strLitToList]
  decide +kernel
example : Term.wellFormed ex.str = true := str_wellFormed ex ex_group ex_noEsc

/-- the re-parsed value: different objects, a different table (red is stopped at 1 and started again
    at 2), the same settings per character up to what is overridden -/
theorem ex_parsed : (AStr.setAnsi ex.str 10).1 =
    { s := "abc".toList
      fmts := [(0, { add := [⟨10, "31".toList⟩] }),
               (1, { add := [⟨11, "34".toList⟩, ⟨12, "1".toList⟩], rem := [⟨10, "31".toList⟩] }),
               (2, { add := [⟨13, "31".toList⟩], rem := [⟨11, "34".toList⟩] }),
               (3, { rem := [⟨12, "1".toList⟩, ⟨13, "31".toList⟩] })] } := by decide +kernel

example : (AStr.setAnsi ex.str 10).1 =
    { s := "abc".toList
      fmts := [(0, { add := [⟨10, "31".toList⟩] }),
               (1, { add := [⟨11, "34".toList⟩, ⟨12, "1".toList⟩], rem := [⟨10, "31".toList⟩] }),
               (2, { add := [⟨13, "31".toList⟩], rem := [⟨11, "34".toList⟩] }),
               (3, { rem := [⟨12, "1".toList⟩, ⟨13, "31".toList⟩] })] } := ex_parsed

example : (List.range 3).map (fun i => texts (act ex i)) =
    [["31".toList], ["31".toList, "34".toList, "1".toList], ["31".toList, "1".toList]] := by decide +kernel
example : (List.range 3).map (fun i => texts (act (AStr.setAnsi ex.str 10).1 i)) =
    [["31".toList], ["34".toList, "1".toList], ["1".toList, "31".toList]] := by
  rw [ex_parsed]
  decide +kernel

example : (den ex).map (fun ct => (ct.1, ct.2.toList)) =
    [('a', [(.fg, [31])]), ('b', [(.boldness, [1]), (.fg, [34])]), ('c', [(.boldness, [1]), (.fg, [31])])] := by
  decide +kernel
example : (den (AStr.setAnsi ex.str 10).1).map (fun ct => (ct.1, ct.2.toList)) =
    [('a', [(.fg, [31])]), ('b', [(.boldness, [1]), (.fg, [34])]), ('c', [(.boldness, [1]), (.fg, [31])])] := by
  rw [roundtrip_display ex 10 ex_wf ex_group ex_noEsc]
  decide +kernel
example : den (AStr.setAnsi ex.str 10).1 = den ex := roundtrip_display ex 10 ex_wf ex_group ex_noEsc

/-! ## 3 — `simplify()`: text and display -/

/-- the value with the invalid settings (those containing a terminator character) taken out of
    every start and stop marker -/
def dropInvalid (x : AStr) : AStr :=
  { x with fmts := dropF (fun s => SettingTxt.valid s.txt) x.fmts }

/-- `simplify()` is: drop the invalid settings, render, parse -/
theorem simplify_eq (x : AStr) (nid : Nat) :
    x.simplify nid = (AStr.setAnsi (dropInvalid x).str nid).1 := rfl

theorem dropInvalid_text (x : AStr) : (dropInvalid x).s = x.s := rfl

theorem dropInvalid_wf (x : AStr) (hw : WF x) : WF (dropInvalid x) := drop_wf hw SettingTxt.valid

theorem dropInvalid_act (x : AStr) (hw : WF x) (i : Nat) :
    act (dropInvalid x) i = (act x i).filter (fun s => SettingTxt.valid s.txt) :=
  drop_act hw SettingTxt.valid i

theorem dropInvalid_valid (x : AStr) : ∀ s ∈ (dropInvalid x).fmts.settings, SettingTxt.valid s.txt = true :=
  fun _ hs => (settings_dropF hs).2

/-- the valid settings of the value are well-formed (group texts) -/
def GroupAfterDrop (x : AStr) : Prop :=
  ∀ s ∈ x.fmts.settings, SettingTxt.valid s.txt = true → isGroupTxt s.txt = true

theorem groupAfterDrop_of_group (x : AStr) (hg : GroupSettings x) : GroupAfterDrop x :=
  fun s hs _ => hg s hs

theorem dropInvalid_group (x : AStr) (hg : GroupAfterDrop x) : GroupSettings (dropInvalid x) :=
  fun s hs => hg s (settings_dropF hs).1 (settings_dropF hs).2

theorem dropInvalid_of_group (x : AStr) (hg : GroupSettings x) : dropInvalid x = x := by
  unfold dropInvalid
  rw [dropF_all (fun s hs => RenderL.valid_of_group (hg s hs))]

theorem simplify_of_group (x : AStr) (nid : Nat) (hg : GroupSettings x) :
    x.simplify nid = (AStr.setAnsi x.str nid).1 := by
  rw [simplify_eq, dropInvalid_of_group x hg]

theorem simplify_text (x : AStr) (nid : Nat) (hw : WF x) (hg : GroupAfterDrop x) (hne : NoEsc x.s) :
    (x.simplify nid).s = x.s := by
  rw [simplify_eq]
  exact roundtrip_text (dropInvalid x) nid (dropInvalid_wf x hw) (dropInvalid_group x hg) hne

/-- `simplify()` shows every character with the style of its valid settings -/
theorem simplify_display (x : AStr) (nid : Nat) (hw : WF x) (hg : GroupAfterDrop x) (hne : NoEsc x.s) :
    den (x.simplify nid) = den (dropInvalid x) := by
  rw [simplify_eq]
  exact roundtrip_display (dropInvalid x) nid (dropInvalid_wf x hw) (dropInvalid_group x hg) hne

theorem simplify_style (x : AStr) (nid : Nat) (hw : WF x) (hg : GroupAfterDrop x) (hne : NoEsc x.s)
    (i : Nat) (hi : i < x.s.length) :
    eff (act (x.simplify nid) i) = eff ((act x i).filter (fun s => SettingTxt.valid s.txt)) := by
  rw [← dropInvalid_act x hw i]
  exact eff_of_den_eq (simplify_display x nid hw hg hne) i hi

/-- **for a value with well-formed settings `simplify()` changes neither the text nor any
    character's effective style** -/
theorem simplify_display_group (x : AStr) (nid : Nat) (hw : WF x) (hg : GroupSettings x) (hne : NoEsc x.s) :
    (x.simplify nid).s = x.s ∧ den (x.simplify nid) = den x := by
  have h1 := simplify_text x nid hw (groupAfterDrop_of_group x hg) hne
  have h2 := simplify_display x nid hw (groupAfterDrop_of_group x hg) hne
  rw [dropInvalid_of_group x hg] at h2
  exact ⟨h1, h2⟩

/-! ## 4 — the simplified value is a reachable value again -/

theorem simplify_wf (x : AStr) (nid : Nat) : WF (x.simplify nid) := C02.setAnsi_wf _ _

/-! ## 5 — afterwards `is_formatting_parsable()` is True and invalid settings are gone
    (unconditional: no assumption on `x`, nor on the string that is parsed) -/

/-- every value made by `set_ansi_str` is parsable, whatever the input string: every setting put
    into the table is a value of `current_settings`, i.e. a text that `settings_to_dict` filed
    under a known *apply* code; such a text is a complete parameter group -/
theorem setAnsi_parsable : ∀ (r : Str) (nid : Nat), (AStr.setAnsi r nid).1.isFormattingParsable = true :=
  RoundTripL.setAnsi_parsable

theorem simplify_parsable (x : AStr) (nid : Nat) : (x.simplify nid).isFormattingParsable = true :=
  RoundTripL.setAnsi_parsable _ _

theorem simplify_valid (x : AStr) (nid : Nat) : (x.simplify nid).isFormattingValid = true :=
  RoundTripL.setAnsi_valid _ _

theorem simplify_settings (x : AStr) (nid : Nat) : ∀ s ∈ (x.simplify nid).fmts.settings,
    SettingTxt.parsable s.txt = true ∧ SettingTxt.valid s.txt = true ∧ isGroupTxt s.txt = true := by
  intro s hs
  have h := setAnsi_canon _ _ s hs
  exact ⟨h.1, parsable_valid h.1, group_of_canon h⟩

theorem simplify_group (x : AStr) (nid : Nat) : GroupSettings (x.simplify nid) := setAnsi_group _ _

/-- an input that is not well-formed for a terminal (`+1`, a negative number, a lone `38`, a
    non-number, a final byte other than `m`): the parsed value is parsable all the same -/
example : Term.wellFormed "\x1b[+1;-3;38;?;31ma\x1b[2Jb\x1b[38;5;300;4mc".toList = false ∧
    (AStr.setAnsi "\x1b[+1;-3;38;?;31ma\x1b[2Jb\x1b[38;5;300;4mc".toList 0).1 =
    { s := "a\x1b[2Jbc".toList
      fmts := [(0, { add := [⟨0, "1".toList⟩, ⟨1, "31".toList⟩] }),
               (6, { add := [⟨2, "4".toList⟩] }),
               (7, { rem := [⟨0, "1".toList⟩, ⟨1, "31".toList⟩, ⟨2, "4".toList⟩] })] } := by
  simp only [strLitToList]
  decide +kernel

/-! ## 6 — idempotence at the display level -/

theorem dropInvalid_simplified (x : AStr) (nid : Nat) : dropInvalid (x.simplify nid) = x.simplify nid :=
  dropInvalid_of_group _ (simplify_group x nid)

/-- so simplifying it again is re-parsing its rendering: the two byte-level clauses of the
    property ("a second `simplify()` leaves `str(s)` unchanged", "a simplified value renders to a
    fixed point") say the same thing -/
theorem simplify_simplified (x : AStr) (nid nid' : Nat) :
    (x.simplify nid).simplify nid' = (AStr.setAnsi (x.simplify nid).str nid').1 :=
  simplify_of_group _ nid' (simplify_group x nid)

theorem simplify_idem_display_gen (x : AStr) (nid nid' : Nat) (hne : NoEsc (x.simplify nid).s) :
    ((x.simplify nid).simplify nid').s = (x.simplify nid).s ∧
    den ((x.simplify nid).simplify nid') = den (x.simplify nid) :=
  simplify_display_group (x.simplify nid) nid' (simplify_wf x nid) (simplify_group x nid) hne

/-- **idempotence, display level**: for a reachable value whose valid settings are well-formed and
    whose text contains no ESC, a second `simplify()` leaves the text and every character's
    effective style unchanged -/
theorem simplify_idem_display (x : AStr) (nid nid' : Nat) (hw : WF x) (hg : GroupAfterDrop x)
    (hne : NoEsc x.s) :
    ((x.simplify nid).simplify nid').s = (x.simplify nid).s ∧
    den ((x.simplify nid).simplify nid') = den (x.simplify nid) := by
  apply simplify_idem_display_gen
  rw [simplify_text x nid hw hg hne]
  exact hne

/-- the rendering of a simplified value, re-parsed, is display-equal to it (the display-level
    reading of "a simplified value renders to a fixed point") -/
theorem simplified_roundtrip_display (x : AStr) (nid nid' : Nat) (hw : WF x) (hg : GroupAfterDrop x)
    (hne : NoEsc x.s) :
    Term.run Term.default (AStr.setAnsi (x.simplify nid).str nid').1.str =
      Term.run Term.default (x.simplify nid).str := by
  have hne' : NoEsc (x.simplify nid).s := by rw [simplify_text x nid hw hg hne]; exact hne
  have hne'' : NoEsc (AStr.setAnsi (x.simplify nid).str nid').1.s := by
    rw [roundtrip_text _ nid' (simplify_wf x nid) (simplify_group x nid) hne']; exact hne'
  rw [C01.str_display _ (C02.setAnsi_wf _ _) (setAnsi_group _ _) hne'',
    C01.str_display _ (simplify_wf x nid) (simplify_group x nid) hne',
    roundtrip_display _ nid' (simplify_wf x nid) (simplify_group x nid) hne']

/-! ### non-vacuity: a value with an invalid setting (`"A"`, a final byte) next to valid ones -/

def exBad : AStr :=
  { s := "abc".toList
    fmts := [(0, { add := [⟨1, "31".toList⟩, ⟨2, "A".toList⟩] }),
             (1, { add := [⟨3, "34".toList⟩] }),
             (2, { rem := [⟨2, "A".toList⟩, ⟨3, "34".toList⟩] }),
             (3, { rem := [⟨1, "31".toList⟩] })] }

theorem exBad_wf : WF exBad := wf_of_finite (by decide +kernel)

theorem exBad_gad : GroupAfterDrop exBad := by unfold GroupAfterDrop; decide +kernel

theorem exBad_noEsc : NoEsc exBad.s := by unfold NoEsc; decide +kernel

example : WF exBad ∧ GroupAfterDrop exBad ∧ NoEsc exBad.s ∧ exBad.isFormattingValid = false :=
  ⟨exBad_wf, exBad_gad, exBad_noEsc, by decide +kernel⟩

example : dropInvalid exBad =
    { s := "abc".toList
      fmts := [(0, { add := [⟨1, "31".toList⟩] }), (1, { add := [⟨3, "34".toList⟩] }),
               (2, { rem := [⟨3, "34".toList⟩] }), (3, { rem := [⟨1, "31".toList⟩] })] } := by decide +kernel

example : exBad.simplify 10 =
    { s := "abc".toList
      fmts := [(0, { add := [⟨10, "31".toList⟩] }),
               (1, { add := [⟨11, "34".toList⟩], rem := [⟨10, "31".toList⟩] }),
               (2, { add := [⟨12, "31".toList⟩], rem := [⟨11, "34".toList⟩] }),
               (3, { rem := [⟨12, "31".toList⟩] })] } := by decide +kernel

example : (den (exBad.simplify 10)).map (fun ct => (ct.1, ct.2.toList)) =
    [('a', [(.fg, [31])]), ('b', [(.fg, [34])]), ('c', [(.fg, [31])])] := by
  rw [simplify_display exBad 10 exBad_wf exBad_gad exBad_noEsc]
  decide +kernel

example : den ((exBad.simplify 10).simplify 20) = den (exBad.simplify 10) :=
  (simplify_idem_display exBad 10 20 exBad_wf exBad_gad exBad_noEsc).2

example : (ex.simplify 10).s = ex.s ∧ den (ex.simplify 10) = den ex :=
  simplify_display_group ex 10 ex_wf ex_group ex_noEsc

/-! ## 7 — the byte-level clauses are FALSE (known_findings D26)

    The claims of the property:

      theorem simplify_idem_bytes (x : AStr) (nid nid' : Nat) (hw : WF x) … :
          ((x.simplify nid).simplify nid').str = (x.simplify nid).str            -- false; see known_findings D26
      theorem simplified_fixed_point (x : AStr) (nid nid' : Nat) (hw : WF x) … :
          (AStr.setAnsi (x.simplify nid).str nid').1.str = (x.simplify nid).str   -- false; see known_findings D26

    Witness: `"ab"`, blue on `a`, the multi-code setting `"1;31"` on `b`.  The value is reachable
    (`WF`), all its settings are valid, but `"1;31"` is not parsable, so the first rendering is not
    optimised and resets before `b`: `set_ansi_str` then files bold before the colour.  The second
    rendering (now optimised, no reset) is read on top of the blue entry, which the red one
    replaces *in place*: the colour now comes first.  The third rendering differs from the second
    in the order of the two codes.  (All three are display-equal, by section 6.) -/

def x0 : AStr :=
  { s := "ab".toList
    fmts := [(0, { add := [⟨1, "34".toList⟩] }),
             (1, { add := [⟨2, "1;31".toList⟩], rem := [⟨1, "34".toList⟩] }),
             (2, { rem := [⟨2, "1;31".toList⟩] })] }

theorem x0_wf : WF x0 := wf_of_finite (by decide +kernel)

theorem x0_noEsc : NoEsc x0.s := by unfold NoEsc; decide +kernel

theorem x0_valid : x0.isFormattingValid = true := by decide +kernel

example : x0.isFormattingValid = true ∧ x0.isFormattingParsable = false ∧ NoEsc x0.s :=
  ⟨x0_valid, by decide +kernel, x0_noEsc⟩

-- the three renderings; each simplified value is the previous rendering, parsed
example : x0.str = "\x1b[34ma\x1b[0;1;31mb\x1b[m".toList := by
  simp only [strLitToList]
  decide +kernel

theorem x0_str1 : (x0.simplify 10).str = "\x1b[34ma\x1b[1;31mb\x1b[m".toList := by
  simp only [strLitToList]
  decide +kernel

theorem x0_str2 : ((x0.simplify 10).simplify 20).str = "\x1b[34ma\x1b[31;1mb\x1b[m".toList := by
  rw [simplify_simplified, x0_str1]
  simp only [strLitToList]
  decide +kernel

example : (x0.simplify 10).str = "\x1b[34ma\x1b[1;31mb\x1b[m".toList := x0_str1
example : ((x0.simplify 10).simplify 20).str = "\x1b[34ma\x1b[31;1mb\x1b[m".toList := x0_str2

/-- **a second `simplify()` changes `str(s)`** -/
theorem simplify_idem_bytes_false : ((x0.simplify 10).simplify 20).str ≠ (x0.simplify 10).str := by
  rw [x0_str1, x0_str2]
  simp only [strLitToList]
  decide +kernel

/-- **a simplified value does not render to a fixed point** -/
theorem simplified_fixed_point_false :
    (AStr.setAnsi (x0.simplify 10).str 20).1.str ≠ (x0.simplify 10).str := by
  rw [← simplify_simplified]
  exact simplify_idem_bytes_false

theorem not_simplify_idem_bytes :
    ¬ (∀ (x : AStr) (nid nid' : Nat), WF x → x.isFormattingValid = true → NoEsc x.s →
        ((x.simplify nid).simplify nid').str = (x.simplify nid).str) :=
  fun h => simplify_idem_bytes_false (h x0 10 20 x0_wf x0_valid x0_noEsc)

/-- the third simplify is stable on this witness -/
example : (((x0.simplify 10).simplify 20).simplify 30).str = ((x0.simplify 10).simplify 20).str := by
  rw [simplify_simplified, x0_str2]
  simp only [strLitToList]
  decide +kernel

/-! ### all settings parsable does not help

    The weaker statement

      theorem simplify_idem_bytes_partial (x : AStr) (nid nid' : Nat) (hw : WF x) (hne : NoEsc x.s)
          (hp : x.isFormattingParsable = true) :
          ((x.simplify nid).simplify nid').str = (x.simplify nid).str

    is false as well.  Witness `x1` = `"abc"` after `apply_formatting(['1','31','4','3'], 0, 1)`,
    `apply_formatting(['32','1'], 1, 2)`, `apply_formatting(['33','2'], 2, 3)`: every setting is a
    single known code, so every rendering is optimised.  At `b` the optimiser keeps the reset form
    `0;32;1` (the alternative `24;23;32` is longer); `set_ansi_str` reads it into a fresh dict in the
    order colour, bold, but puts only the changed colour behind the kept bold: the value reports
    `1, 32`, the next rendering says `0;1;32`, and the dict of the *next* parse has the order bold,
    colour.  The pair replaced at `c` is emitted in dict order: `33;2` the first time, `2;33` the
    second.  What a proof of idempotence would need — the order of `current_settings` in
    `set_ansi_str` being a function of the value parsed, not of the string — does not hold. -/

def x1 : AStr :=
  { s := "abc".toList
    fmts := [(0, { add := [⟨1, "1".toList⟩, ⟨2, "31".toList⟩, ⟨3, "4".toList⟩, ⟨4, "3".toList⟩] }),
             (1, { add := [⟨5, "32".toList⟩, ⟨6, "1".toList⟩],
                   rem := [⟨1, "1".toList⟩, ⟨2, "31".toList⟩, ⟨3, "4".toList⟩, ⟨4, "3".toList⟩] }),
             (2, { add := [⟨7, "33".toList⟩, ⟨8, "2".toList⟩], rem := [⟨5, "32".toList⟩, ⟨6, "1".toList⟩] }),
             (3, { rem := [⟨7, "33".toList⟩, ⟨8, "2".toList⟩] })] }

/-- `x1` is what three `apply_formatting` calls on the plain text produce -/
example :
    ((({ s := "abc".toList, fmts := [] } : AStr).applyFormatting
        (freshSettings 1 ["1".toList, "31".toList, "4".toList, "3".toList]) (some 0) (some 1) true).applyFormatting
        (freshSettings 5 ["32".toList, "1".toList]) (some 1) (some 2) true).applyFormatting
        (freshSettings 7 ["33".toList, "2".toList]) (some 2) (some 3) true = x1 := by decide +kernel

theorem x1_wf : WF x1 := wf_of_finite (by decide +kernel)

theorem x1_group : GroupSettings x1 := by unfold GroupSettings; decide +kernel
theorem x1_noEsc : NoEsc x1.s := by unfold NoEsc; decide +kernel
theorem x1_parsable : x1.isFormattingParsable = true := by decide +kernel

example : x1.isFormattingParsable = true ∧ GroupSettings x1 ∧ NoEsc x1.s :=
  ⟨x1_parsable, x1_group, x1_noEsc⟩

theorem x1_str : x1.str = "\x1b[1;31;4;3ma\x1b[0;32;1mb\x1b[33;2mc\x1b[m".toList := by
  simp only [strLitToList]
  decide +kernel

theorem x1_str1 : (x1.simplify 10).str = "\x1b[1;31;4;3ma\x1b[0;1;32mb\x1b[33;2mc\x1b[m".toList := by
  rw [simplify_of_group x1 10 x1_group, x1_str]
  simp only [strLitToList]
  decide +kernel

theorem x1_str2 :
    ((x1.simplify 10).simplify 20).str = "\x1b[1;31;4;3ma\x1b[0;1;32mb\x1b[2;33mc\x1b[m".toList := by
  rw [simplify_simplified, x1_str1]
  simp only [strLitToList]
  decide +kernel

example : x1.str = "\x1b[1;31;4;3ma\x1b[0;32;1mb\x1b[33;2mc\x1b[m".toList := x1_str
example : (x1.simplify 10).str = "\x1b[1;31;4;3ma\x1b[0;1;32mb\x1b[33;2mc\x1b[m".toList := x1_str1
example : ((x1.simplify 10).simplify 20).str = "\x1b[1;31;4;3ma\x1b[0;1;32mb\x1b[2;33mc\x1b[m".toList :=
  x1_str2

theorem simplify_idem_bytes_partial_false :
    ¬ (∀ (x : AStr) (nid nid' : Nat), WF x → NoEsc x.s → GroupSettings x → x.isFormattingParsable = true →
        ((x.simplify nid).simplify nid').str = (x.simplify nid).str) := by
  intro h
  have := h x1 10 20 x1_wf x1_noEsc x1_group x1_parsable
  rw [x1_str1, x1_str2] at this
  revert this
  simp only [strLitToList]
  decide +kernel

/-! ### what remains true at the byte level

    A value without formatting is a fixed point of `simplify()` and of rendering.  For formatted
    values the display-level theorems of section 6 are what holds. -/

theorem simplify_plain (s : Str) (nid : Nat) (hne : NoEsc s) :
    ({ s := s, fmts := [] } : AStr).simplify nid = { s := s, fmts := [] } := by
  rw [simplify_eq]
  show (AStr.setAnsi s nid).1 = _
  rw [C02.parse_plain s nid hne]

theorem simplify_idem_bytes_partial (s : Str) (nid nid' : Nat) (hne : NoEsc s) :
    ((({ s := s, fmts := [] } : AStr).simplify nid).simplify nid').str =
      (({ s := s, fmts := [] } : AStr).simplify nid).str := by
  rw [simplify_plain s nid hne, simplify_plain s nid' hne]

example : NoEsc "plain [1m text".toList := by
  unfold NoEsc
  simp only [strLitToList]
  decide +kernel

end C03

#print axioms C03.render_wellFormed
#print axioms C03.str_wellFormed
#print axioms C03.group_valid
#print axioms C03.roundtrip_text
#print axioms C03.roundtrip_display
#print axioms C03.roundtrip_style
#print axioms C03.roundtrip_wf
#print axioms C03.simplify_eq
#print axioms C03.dropInvalid_wf
#print axioms C03.dropInvalid_act
#print axioms C03.dropInvalid_valid
#print axioms C03.simplify_text
#print axioms C03.simplify_display
#print axioms C03.simplify_style
#print axioms C03.simplify_display_group
#print axioms C03.simplify_wf
#print axioms C03.setAnsi_parsable
#print axioms C03.simplify_parsable
#print axioms C03.simplify_valid
#print axioms C03.simplify_settings
#print axioms C03.simplify_group
#print axioms C03.simplify_idem_display_gen
#print axioms C03.simplify_idem_display
#print axioms C03.simplified_roundtrip_display
#print axioms C03.simplify_idem_bytes_false
#print axioms C03.simplified_fixed_point_false
#print axioms C03.not_simplify_idem_bytes
#print axioms C03.simplify_idem_bytes_partial_false
#print axioms C03.simplify_idem_bytes_partial
