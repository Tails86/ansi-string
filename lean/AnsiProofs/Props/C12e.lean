import AnsiProofs.Props.C12d
import AnsiProofs.Props.C12c
import AnsiProofs.Props.C12b
import AnsiProofs.Props.C01b
import AnsiProofs.Props.C06
import AnsiProofs.Lemmas.Scrub
import AnsiProofs.Lemmas.Pad
import AnsiProofs.Lemmas.Apply
import AnsiModel.Generated.Methods.ApplyStringFormatCode
import AnsiModel.Generated.Methods.ToStrCode
/-
  Property C12, part e — `_apply_string_format` and the whole `to_str`, from the source.

  `Gen.applyStringFormatCode` and `Gen.toStrCode` are `AnsiString._apply_string_format` and
  `AnsiString.to_str` translated statement by statement on every run (harness/pyobj.py).  They call the
  translated `ljust`/`rjust`/`center` (C12c, C12b), the translated regular expressions (C12d), the
  translated rendering loop (C01b) and the hand-modelled `apply_formatting` (`AStr.applyRaw`, an
  external of the translation).  The theorems say that they are the model's `Render.applyStringFormat`
  and `AStr.toStr` on every value whose table is kept in ascending order.

  `namespace C12e.L` holds what does not depend on the shape of the generated text: `Except` plumbing,
  the primitives of `AnsiModel/Obj.lean` on the values they meet here, what the groups of the three
  justification patterns and of the spec pattern can be, preservation of `SortedKeys`.  The theorems
  over `Gen.*` rewrite the regular expressions by C12d and split on what the model looks at.
-/
namespace C12e
namespace L
open PadL PadL.Rx Render

theorem bind_ok {ε α β : Type} (a : α) (f : α → Except ε β) : (Except.ok a).bind f = f a := rfl

theorem bind_error {ε α β : Type} (e : ε) (f : α → Except ε β) :
    (Except.error e : Except ε α).bind f = .error e := rfl

theorem bind_ok_right {ε α : Type} (a : Except ε α) : a.bind .ok = a := by cases a <;> rfl

theorem liftPy_ok {α : Type} (a : α) : Obj.liftPy (.ok a : Except PyErr α) = .ok a := rfl

theorem liftPy_error {α : Type} (e : PyErr) : Obj.liftPy (.error e : Except PyErr α) = .error (.py e) := rfl

theorem liftPy_pure {α : Type} (a : α) : Obj.liftPy (pure a : Except PyErr α) = .ok a := rfl

theorem liftPy_bind {α β : Type} (a : Except PyErr α) (f : α → Except PyErr β) :
    Obj.liftPy (a >>= f) = (Obj.liftPy a).bind (fun v => Obj.liftPy (f v)) := by cases a <;> rfl

theorem liftPy_map {α β : Type} (a : Except PyErr α) (f : α → β) :
    Obj.liftPy (f <$> a) = (Obj.liftPy a).bind (fun v => .ok (f v)) := by cases a <;> rfl

theorem liftPy_ite {α : Type} (c : Prop) [Decidable c] (a b : Except PyErr α) :
    Obj.liftPy (if c then a else b) = if c then Obj.liftPy a else Obj.liftPy b := by split <;> rfl

/-! ## the primitives of the translation on the values met here -/

theorem optGet_some {α : Type} (a : α) : Py.optGet (some a) = .ok a := rfl

theorem getIdx_one {α : Type} (a b : α) (l : List α) : Py.getIdx (a :: b :: l) 1 = .ok b := by
  simp [Py.getIdx]

theorem listSlice_one (c : Char) (r : Str) : Py.listSlice (c :: r) (some 1) none = r := by
  simp [Py.listSlice, Py.listIdx]

theorem pyInt_digits {ds : Str} (h : ∀ c ∈ ds, Py.isDigit c = true) (hne : ds ≠ []) :
    Py.pyInt ds = .ok (Py.digitsVal ds : Int) := by
  unfold Py.pyInt
  rw [Eff.int_digits hne h]

/-- `not match.group(2) or match.group(2) == '+'` -/
theorem extend_eq (g2 : Option Str) :
    ((!(Py.truthyOptStr g2)) || (g2 == some ([Char.ofNat 43] : Str))) =
      ((g2.getD []).isEmpty || (g2.getD []) == ['+']) := by
  cases g2 with
  | none => rfl
  | some s => cases s <;> simp [Py.truthyOptStr]

/-- the fill character the model reads off group 1 -/
def fillOf (caps : Re.Caps) : Char :=
  match Re.group caps 1 with
  | some (c :: _) => c
  | _ => ' '

/-- `match.group(1) or ' '` is one character when group 1 is `(.?)` -/
theorem optStrOr_fill {caps : Re.Caps} (h : ∀ g, Re.group caps 1 = some g → g.length ≤ 1) :
    Py.optStrOr (Re.group caps 1) ([Char.ofNat 32] : Str) = [fillOf caps] := by
  unfold fillOf Py.optStrOr
  cases hg : Re.group caps 1 with
  | none => rfl
  | some g =>
    have := h g hg
    match g, this with
    | [], _ => rfl
    | [c], _ => rfl

/-! ## `SortedKeys` is kept by everything `_apply_string_format` does -/

theorem ite_ind {α} {P : α → Prop} {c : Prop} [Decidable c] {a b : α} (ha : P a) (hb : P b) :
    P (if c then a else b) := by
  split
  · exact ha
  · exact hb

/-- every step of `apply_formatting` is an `ensure` or a `modify` -/
theorem sorted_applyFormatting {x : AStr} (hs : SortedKeys x.fmts) (N : List Setting)
    (st en : Option Int) (top : Bool) : SortedKeys (x.applyFormatting N st en top).fmts := by
  unfold AStr.applyFormatting
  dsimp only
  refine ite_ind (P := fun y : AStr => SortedKeys y.fmts) hs
    (ite_ind (P := fun y : AStr => SortedKeys y.fmts) hs ?_)
  apply _root_.Fmts.sorted_modify
  apply _root_.Fmts.sorted_ensure
  have h1 := _root_.Fmts.sorted_modify (_root_.Fmts.sorted_ensure hs (sliceIdx x.len st 0))
    (sliceIdx x.len st 0)
  exact ite_ind (h1 _) (ite_ind (h1 _) (_root_.Fmts.sorted_modify (h1 _) _ _))

theorem sorted_applyRaw {x y : AStr} (hs : SortedKeys x.fmts) {nid : Nat} {a : SArg}
    {st en : Option Int} {top : Bool} (h : x.applyRaw nid a st en top = .ok y) : SortedKeys y.fmts := by
  rcases applyRaw_spec x y nid a st en top h with e | ⟨ts, -, e⟩
  · rw [e]; exact hs
  · rw [e]; exact sorted_applyFormatting hs _ _ _ _

theorem sorted_ljust {x : AStr} (hs : SortedKeys x.fmts) (w : Int) (c : Char) (e : Bool) :
    SortedKeys (x.ljust w c e).fmts := by
  by_cases h : 0 < (w - (x.len : Int)).toNat
  · cases e
    · rw [AStr.ljust_fmts_plain]; exact hs
    · rw [AStr.ljust_fmts_ext hs c h]; exact sorted_padExt hs _ _ _
  · rw [AStr.ljust_noop' c e (by omega)]; exact hs

theorem sorted_rjust {x : AStr} (hs : SortedKeys x.fmts) (w : Int) (c : Char) (e : Bool) :
    SortedKeys (x.rjust w c e).fmts := by
  rw [AStr.rjust_fmts]; exact sorted_shiftKeys hs _ _

theorem sorted_center {x : AStr} (hs : SortedKeys x.fmts) (w : Int) (c : Char) (e : Bool) :
    SortedKeys (x.center w c e).fmts := by
  by_cases h : 0 < (w - (x.len : Int)).toNat
  · cases e
    · rw [AStr.center_fmts_plain]; exact sorted_shiftKeys hs _ _
    · rw [AStr.center_fmts_ext x c h]; exact sorted_padExt hs _ _ _
  · rw [AStr.center_noop' c e (by omega)]; exact hs

/-! ## what the groups of the three justification patterns can be -/

/-- group 3 is a run of digits, group 1 (when it took part) at most one character -/
def Good (caps : Re.Caps) : Prop :=
  (∃ ds, Re.group caps 3 = some ds ∧ ∀ c ∈ ds, Py.isDigit c = true) ∧
  (∀ g, Re.group caps 1 = some g → g.length ≤ 1)

theorem good_toCaps (f g : Option Char) (X : Char) {ds : Str} (hds : ds.all Py.isDigit = true) :
    Good (toCaps (f, g, X, ds)) := by
  refine ⟨⟨ds, rfl, List.all_eq_true.mp hds⟩, ?_⟩
  intro g1 hg
  cases hg
  cases f <;> simp

theorem good_aligned {X : Char} (hX : X ≠ '\n') {s : Str} {caps : Re.Caps}
    (h : alignedRef X s = some caps) : Good caps := by
  rw [alignedRef_eq hX] at h
  obtain ⟨p, hp, rfl⟩ := Option.map_eq_some_iff.mp h
  obtain ⟨f, g, ds, rfl, -, -, -, hds, -⟩ := alignedForms_inv hp
  exact good_toCaps f g X hds

theorem good_reAligned {X : Char} (hX : X ≠ '\n') {s : Str} {caps : Re.Caps}
    (h : Re.matchStart (reAligned X) s = some caps) : Good caps := by
  rw [matchStart_reAligned] at h; exact good_aligned hX h

theorem good_reLeft {s : Str} {caps : Re.Caps} (h : Re.matchStart reLeft s = some caps) : Good caps := by
  rw [matchStart_reLeft] at h
  unfold leftRef at h
  simp only [Option.or_eq_some_iff] at h
  rcases h with h | ⟨_, h⟩
  · exact good_aligned (by decide) h
  · unfold try0 at h
    split at h
    · rename_i hok
      cases h
      rw [tw_eq hok]
      rw [okTail_eq] at hok
      exact ⟨⟨_, rfl, List.all_eq_true.mp hok⟩, fun g hg => by cases hg⟩
    · cases h

/-! ## the spec pattern of `to_str`: group 1 always takes part -/

def Has (n : Nat) (caps : Re.Caps) : Prop := (Re.group caps n).isSome = true

theorem has_cap {n : Nat} {c : Re.Caps} (m : Nat) (t : Str) (h : Has n c) :
    Has n ((m, t) :: c.filter (·.1 != m)) := by
  unfold Has Re.group at *
  by_cases hm : m = n
  · simp [hm]
  · have hm' : (m == n) = false := by simpa using hm
    simp only [List.find?_cons, hm', Option.isSome_map, List.find?_isSome] at h ⊢
    obtain ⟨x, hx, hxn⟩ := h
    refine ⟨x, List.mem_filter.mpr ⟨hx, ?_⟩, hxn⟩
    have : x.1 = n := by simpa using hxn
    simp [this]; exact fun e => hm e.symm

/-- whatever the matcher answers comes from the continuation, called on captures that still have
    every property the capture steps keep -/
theorem m_inv {α} (P : Re.Caps → Prop)
    (hP : ∀ n t c, P c → P ((n, t) :: c.filter (·.1 != n))) :
    ∀ (r : Re) (s : Str) (caps : Re.Caps) (k : Str → Re.Caps → Option α) (a : α),
      P caps → Re.m r s caps k = some a → ∃ rest c', P c' ∧ k rest c' = some a := by
  intro r
  induction r with
  | cls p =>
    intro s caps k a hc h
    cases s with
    | nil => simp [Re.m] at h
    | cons c rest =>
      simp only [Re.m] at h
      split at h
      · exact ⟨_, _, hc, h⟩
      · cases h
  | star p =>
    intro s caps k a hc h
    simp only [Re.m] at h
    generalize (s.takeWhile p).length = n at h
    induction n with
    | zero => rw [Re.m.go.eq_1] at h; exact ⟨_, _, hc, h⟩
    | succ n ih =>
      rw [Re.m.go.eq_2] at h
      split at h
      · rename_i b hb; cases h; exact ⟨_, _, hc, hb⟩
      · exact ih h
  | opt r ih =>
    intro s caps k a hc h
    rw [Re.m] at h
    split at h
    · rename_i b hb; cases h; exact ih _ _ _ _ hc hb
    · exact ⟨_, _, hc, h⟩
  | cap n r ih =>
    intro s caps k a hc h
    rw [Re.m] at h
    obtain ⟨rest, c', hc', hk⟩ := ih _ _ _ _ hc h
    exact ⟨rest, _, hP _ _ _ hc', hk⟩
  | seq x y ihx ihy =>
    intro s caps k a hc h
    rw [Re.m] at h
    obtain ⟨rest, c', hc', hk⟩ := ihx _ _ _ _ hc h
    exact ihy _ _ _ _ hc' hk
  | alt x y ihx ihy =>
    intro s caps k a hc h
    rw [Re.m] at h
    split at h
    · rename_i b hb; cases h; exact ihx _ _ _ _ hc hb
    · exact ihy _ _ _ _ hc h
  | eps =>
    intro s caps k a hc h
    rw [Re.m] at h
    exact ⟨_, _, hc, h⟩
  | eos =>
    intro s caps k a hc h
    rw [Re.m] at h
    split at h
    · exact ⟨_, _, hc, h⟩
    · cases h

/-- `(^.?[-\+]?[<>\^]?[0-9]*)(:.*)?$`: a match has its group 1 -/
theorem reSpec_group1 {s : Str} {caps : Re.Caps} (h : Re.matchStart reSpec s = some caps) :
    ∃ g1, Re.group caps 1 = some g1 := by
  unfold Re.matchStart reSpec at h
  rw [Re.m, Re.m] at h
  obtain ⟨rest, c', -, hk⟩ := m_inv (fun _ => True) (fun _ _ _ _ => trivial) _ _ _ _ _ trivial h
  have h1 : Has 1 ((1, s.take (s.length - rest.length)) :: c'.filter (·.1 != 1)) := by
    unfold Has Re.group; simp
  obtain ⟨_, c'', hc'', hk'⟩ := m_inv (Has 1) (fun n t c hc => has_cap n t hc) _ _ _ _ _ h1 hk
  cases hk'
  exact Option.isSome_iff_exists.mp hc''

/-! ## the model's `applyJust` with the three things it reads off the match named -/

def padOf (j : Just) (obj : AStr) (w : Int) (fill : Char) (extend : Bool) : AStr :=
  match j with
  | .left => obj.ljust w fill extend
  | .right => obj.rjust w fill extend
  | .center => obj.center w fill extend

/-- the settings go on before the padding when the fill is not to carry them (`extend` false), after it when
    it is; `padJ` is this with `settings` read as `applyJust` reads it -/
def padCore (obj : AStr) (nid : Nat) (fill : Char) (extend : Bool) (j : Just) (num : Str)
    (st : SArg) (doApply : Bool) : Except PyErr AStr := do
  let obj ← if !extend ∧ doApply then obj.applyRaw nid st none none else pure obj
  let obj := if num.isEmpty then obj else padOf j obj (Py.digitsVal num) fill extend
  if extend ∧ doApply then obj.applyRaw nid st none none else pure obj

def padJ (obj : AStr) (nid : Nat) (fill : Char) (extend : Bool) (j : Just) (num : Str)
    (settings : Option Str) : Except PyErr AStr :=
  padCore obj nid fill extend j num (.str (settings.getD []))
    (match settings with | some s => !s.isEmpty | none => false)

theorem applyJust_eq (obj : AStr) (nid : Nat) (caps : Re.Caps) (j : Just) (settings : Option Str) :
    applyJust obj nid caps j settings =
      padJ obj nid (fillOf caps) (((Re.group caps 2).getD []).isEmpty || (Re.group caps 2).getD [] == ['+']) j
        ((Re.group caps 3).getD []) settings := rfl

theorem sorted_padCore {x y : AStr} (hs : SortedKeys x.fmts) {nid : Nat} {c : Char} {e : Bool} {j : Just}
    {ds : Str} {a : SArg} {d : Bool} (h : padCore x nid c e j ds a d = .ok y) : SortedKeys y.fmts := by
  -- the pad keeps the order whatever it is applied to
  have hp : ∀ z : AStr, SortedKeys z.fmts →
      SortedKeys (if ds.isEmpty then z else padOf j z (Py.digitsVal ds) c e).fmts := by
    intro z hz
    split
    · exact hz
    · cases j
      · exact sorted_ljust hz _ _ _
      · exact sorted_rjust hz _ _ _
      · exact sorted_center hz _ _ _
  unfold padCore at h
  cases e <;> cases d <;>
    simp only [Bool.not_true, Bool.not_false, Bool.false_eq_true, and_self, and_true, and_false, if_true, if_false, bind, Except.bind, pure, Except.pure] at h
  · cases h; exact hp x hs
  · split at h
    · cases h
    · rename_i z hz; cases h; exact hp z (sorted_applyRaw hs hz)
  · cases h; exact hp x hs
  · exact sorted_applyRaw (hp x hs) h

theorem sorted_applyStringFormat {x y : AStr} (hs : SortedKeys x.fmts) {nid : Nat} {fmt : Str}
    {settings : Option Str} (h : applyStringFormat x nid fmt settings = .ok y) : SortedKeys y.fmts := by
  unfold applyStringFormat at h
  simp only [applyJust_eq] at h
  repeat' split at h
  all_goals first | exact sorted_padCore hs h | cases h

theorem sorted_applySpec {x y : AStr} (hs : SortedKeys x.fmts) {nid : Nat} {spec : Str}
    (h : applySpec x nid spec = .ok y) : SortedKeys y.fmts := by
  rw [applySpec_eq] at h
  generalize specParts spec = parts at h
  obtain ⟨p1, p2⟩ := parts
  simp only [] at h
  split at h
  · exact sorted_applyStringFormat hs h
  · split at h
    · split at h
      · cases h; exact hs
      · exact sorted_applyRaw hs h
    · cases h; exact hs

/-! ## the rendering loop (C01b) with `optimize` resolved, alone and behind a call that keeps the order -/

theorem render_plain (y : AStr) (hy : SortedKeys y.fmts) (a : AStr) (rs re : Bool) :
    Gen.renderCore a y false rs re = .ok (render y false rs re) := by
  simpa using C01b.renderCore_is_code y hy a false rs re

/-- `if optimize: optimize = obj.is_formatting_parsable()` before the loop -/
theorem render_ite (y : AStr) (hy : SortedKeys y.fmts) (a : AStr) (o rs re : Bool) :
    (if o = true then Gen.renderCore a y y.isFormattingParsable rs re else Gen.renderCore a y o rs re) =
      .ok (render y o rs re) := by
  cases o
  · exact render_plain y hy a rs re
  · simpa using C01b.renderCore_is_code y hy a true rs re

theorem render_ite_bind {a : Except PyErr AStr} (ha : ∀ y, a = .ok y → SortedKeys y.fmts) (s : AStr)
    (o rs re : Bool) :
    (Obj.liftPy a).bind (fun obj =>
        if o = true then Gen.renderCore s obj obj.isFormattingParsable rs re else Gen.renderCore s obj o rs re) =
      (Obj.liftPy a).bind (fun obj => .ok (render obj o rs re)) := by
  cases a with
  | error e => rfl
  | ok y => exact render_ite y (ha y rfl) s o rs re

end L
open L Render

/-- both methods were translated (neither fell outside the translator's fragment) -/
theorem translated : Gen.applyStringFormatCodeOk = true ∧ Gen.toStrCodeOk = true := by decide

set_option linter.unusedSimpArgs false   -- the same `simp` set serves every branch

/-- `_apply_string_format`, as translated, on a sorted table: the value or the Python exception of the
    model's `applyStringFormat`, and never an outcome the model cannot hold -/
theorem applyStringFormat_is_code (x : AStr) (hs : SortedKeys x.fmts) (fmt : Str) (settings : Option Str)
    (nid : Nat) :
    Gen.applyStringFormatCode x fmt settings nid = Obj.liftPy (Render.applyStringFormat x nid fmt settings) := by
  unfold Gen.applyStringFormatCode Render.applyStringFormat
  simp only [C12d.left_is_code, C12d.right_is_code, C12d.center_is_code]
  have hgood : ∀ caps, Re.matchStart reLeft fmt = some caps ∨ Re.matchStart (reAligned '>') fmt = some caps ∨
      Re.matchStart (reAligned '^') fmt = some caps → Good caps := by
    rintro caps (h | h | h)
    · exact good_reLeft h
    · exact good_reAligned (by decide) h
    · exact good_reAligned (by decide) h
  cases h1 : Re.matchStart reLeft fmt
  cases h2 : Re.matchStart (reAligned '>') fmt
  cases h3 : Re.matchStart (reAligned '^') fmt
  · simp [liftPy_error]
  -- one goal for each pattern, once it has matched
  all_goals
    rename_i caps
    obtain ⟨⟨ds, hds, hdig⟩, hg1⟩ := hgood caps (by simp [*])
    simp only [applyJust_eq, Option.isSome_some, Option.isSome_none, Bool.false_eq_true, ↓reduceIte, optGet_some,
      bind_ok, hds, extend_eq, optStrOr_fill hg1, Option.getD_some]
    generalize fillOf _ = c
    generalize (((Re.group _ 2).getD []).isEmpty || (Re.group _ 2).getD [] == ['+']) = e
    -- settings to apply first; none, or the empty text, last
    rcases settings with _ | _ | ⟨a, st⟩
    rotate_right
    · cases e
      · -- formatting not extended: `apply_formatting` first; when it ends normally the table is sorted again
        cases hA : x.applyRaw nid (.str (a :: st)) none none with
        | error err => simp [Py.truthyOptStr, optGet_some, bind_error, liftPy_error, hA, padJ, padCore, bind, Except.bind]
        | ok y =>
          have hy := sorted_applyRaw hs hA
          by_cases hne : ds = [] <;>
            simp [Py.truthyOptStr, optGet_some, bind_ok, liftPy_ok, hne, hA, pyInt_digits hdig, padJ, padCore,
              padOf, C12c.ljust_is_code, C12b.rjust_is_code _ hy, C12b.center_is_code _ hy, bind, pure,
              Except.pure, Except.bind]
      · by_cases hne : ds = [] <;>
          simp [Py.truthyOptStr, optGet_some, bind_ok, bind_ok_right, hne, pyInt_digits hdig, padJ, padCore,
            padOf, C12c.ljust_is_code, C12b.rjust_is_code _ hs, C12b.center_is_code _ hs, bind, pure,
            Except.pure]
    all_goals
      by_cases hne : ds = [] <;>
        simp [Py.truthyOptStr, bind_ok, liftPy_ok, hne, pyInt_digits hdig, padJ, padCore, padOf,
          C12c.ljust_is_code, C12b.rjust_is_code _ hs, C12b.center_is_code _ hs, bind, pure, Except.pure]

theorem toStr_is_code (x : AStr) (hs : SortedKeys x.fmts) (spec : Option Str) (opt rs re : Bool) (nid : Nat) :
    Gen.toStrCode x spec opt rs re nid = Obj.liftPy (x.toStr spec opt rs re nid) := by
  unfold Gen.toStrCode AStr.toStr
  simp only [ObjL.getIdx_zero, getIdx_one, bind_ok, List.length_cons, List.length_nil, Nat.zero_add,
    Int.natCast_one, gt_iff_lt, Int.lt_irrefl, decide_false, Bool.false_eq_true, if_false, Nat.reduceAdd,
    Int.reduceLT, decide_true, if_true]
  -- the cases the model distinguishes: no spec or the empty one (last); a non-empty spec the splitter does not
  -- match (last); one it matches, by what its groups are
  rcases spec with _ | _ | ⟨c0, sp⟩
  rotate_right
  rw [PadL.Rx.applySpec_eq]
  unfold PadL.Rx.specParts
  simp only [C12d.spec_is_code]
  cases hm : Re.matchStart reSpec (c0 :: sp)
  rotate_left
  rename_i caps
  obtain ⟨g1, hg1⟩ := reSpec_group1 hm
  -- the branches for no spec and for no match go before the groups are looked at
  simp only [Py.truthyOptStr, Option.getD_some, hm, Option.isSome_some, Bool.not_true, Bool.false_eq_true, ↓reduceIte,
    optGet_some, bind_ok, hg1]
  rcases hg2 : Re.group caps 2 with _ | _ | ⟨c2, rest⟩ <;> by_cases h1 : g1 = []
  all_goals
    simp [Py.truthyOptStr, optGet_some, bind_ok, bind_error, listSlice_one, applyStringFormat_is_code x hs,
      render_ite x hs,
      render_ite_bind (fun y h => sorted_applyStringFormat hs h),
      render_ite_bind (fun y h => sorted_applyRaw hs h),
      liftPy_bind, liftPy_map, liftPy_ok, liftPy_error, liftPy_pure, *] <;>
    -- no settings to apply, or nothing to render
    (try (split <;> simp [liftPy_ok, bind_ok]))

/-! ## Corollaries: the outcomes the model cannot hold do not occur -/

theorem applyStringFormat_never_outside (x : AStr) (hs : SortedKeys x.fmts) (fmt : Str) (settings : Option Str)
    (nid : Nat) :
    Gen.applyStringFormatCode x fmt settings nid ≠ .error .key ∧
    Gen.applyStringFormatCode x fmt settings nid ≠ .error .outside := by
  rw [applyStringFormat_is_code x hs]
  cases Render.applyStringFormat x nid fmt settings <;> exact ⟨nofun, nofun⟩

theorem toStr_never_outside (x : AStr) (hs : SortedKeys x.fmts) (spec : Option Str) (opt rs re : Bool) (nid : Nat) :
    Gen.toStrCode x spec opt rs re nid ≠ .error .key ∧ Gen.toStrCode x spec opt rs re nid ≠ .error .outside := by
  rw [toStr_is_code x hs]
  cases x.toStr spec opt rs re nid <;> exact ⟨nofun, nofun⟩

/-- with no format spec nothing is raised at all -/
theorem toStr_none_ok (x : AStr) (hs : SortedKeys x.fmts) (opt rs re : Bool) (nid : Nat) :
    ∃ t, Gen.toStrCode x none opt rs re nid = .ok t := by
  rw [toStr_is_code x hs]
  unfold AStr.toStr
  simp only []
  split
  · exact ⟨_, rfl⟩
  · exact ⟨_, rfl⟩

/-! ## Non-vacuity: "abcd", object 0 (`31`) from 0 to 4, object 1 (`1`) from 2 to 4 -/

def x0 : AStr :=
  { s := "abcd".toList,
    fmts := [(0, { add := [⟨0, "31".toList⟩] }), (2, { add := [⟨1, "1".toList⟩] }),
             (4, { rem := [⟨0, "31".toList⟩, ⟨1, "1".toList⟩] })] }

theorem x0_sorted : SortedKeys x0.fmts := by unfold SortedKeys x0; decide

example : Gen.toStrCode x0 none true false true 7 = Obj.liftPy (x0.toStr none true false true 7) :=
  toStr_is_code x0 x0_sorted _ _ _ _ _
example : Gen.toStrCode x0 (some ">8:blue".toList) true false true 7 =
    Obj.liftPy (x0.toStr (some ">8:blue".toList) true false true 7) := toStr_is_code x0 x0_sorted _ _ _ _ _
example : Gen.toStrCode x0 (some "*-^9:[4".toList) false true false 7 =
    Obj.liftPy (x0.toStr (some "*-^9:[4".toList) false true false 7) := toStr_is_code x0 x0_sorted _ _ _ _ _
example : Gen.toStrCode x0 (some "x".toList) true false true 7 = .error (.py .valueError) := by decide +kernel
-- a ValueError that comes from the settings (`":nope"` agrees too, but there the kernel would search the
-- whole table of names, decoding every literal; a negative code is refused before that)
example : Gen.toStrCode x0 (some ":-5".toList) true false true 7 = .error (.py .valueError) := by decide +kernel
example : x0.toStr (some ":-5".toList) true false true 7 = .error .valueError := by decide +kernel
example : Gen.toStrCode x0 (some "".toList) true false true 7 = Gen.toStrCode x0 none true false true 7 := by
  rw [toStr_is_code x0 x0_sorted, toStr_is_code x0 x0_sorted]
  rfl
example : Gen.toStrCode x0 (some "6".toList) false false false 7 =
    Obj.liftPy (x0.toStr (some "6".toList) false false false 7) := toStr_is_code x0 x0_sorted _ _ _ _ _
example : Gen.applyStringFormatCode x0 "*-^9".toList (some "[4".toList) 7 =
    Obj.liftPy (Render.applyStringFormat x0 7 "*-^9".toList (some "[4".toList)) :=
  applyStringFormat_is_code x0 x0_sorted _ _ _
example : (Gen.applyStringFormatCode x0 "_+<7".toList none 7).toOption.map (·.s) = some "abcd___".toList := by
  decide +kernel
example : Gen.applyStringFormatCode x0 "+5".toList none 7 = .error (.py .valueError) := by decide +kernel

end C12e

#print axioms C12e.translated
#print axioms C12e.applyStringFormat_is_code
#print axioms C12e.toStr_is_code
#print axioms C12e.applyStringFormat_never_outside
#print axioms C12e.toStr_never_outside
#print axioms C12e.toStr_none_ok
