import AnsiProofs.Lemmas.Apply
/-
  Property C06 — `apply_formatting(settings, start, end, topmost)`.

  "apply_formatting never changes the text; characters outside the slice-normalised range
  [start, end) keep their settings and precedence exactly, and every character inside gains exactly
  the given settings in addition to all it had before.  …  An empty range or an empty settings list
  is a no-op."  Here the new settings are placed in the precedence order of each character; what is
  displayed then (the clauses on topmost=False / topmost=True) is in C06b.

  Notation: `x` the value before, `N` the freshly created setting objects (`FreshN x N`: their
  identities are new and pairwise different), `st = sliceIdx x.len start 0`,
  `en = sliceIdx x.len end_ x.len` the slice-normalised bounds, `act y i` the settings character
  `i` of `y` reports, lowest precedence first (the last one wins).

  Everything is proved for all values, all settings lists and all bounds (no size limit).
-/

/-! ### the bounds are Python's slice normalisation -/

theorem apply_bounds_none (n d : Nat) : sliceIdx n none d = d := rfl

theorem apply_bounds (n : Nat) (d : Nat) :
    sliceIdx n none d = d ∧
    (∀ v : Int, v < 0 → sliceIdx n (some v) d = ((n : Int) + v).toNat) ∧
    (∀ v : Int, v ≥ 0 → sliceIdx n (some v) d = min v.toNat n) :=
  ⟨rfl, fun v h => by simp [sliceIdx, h], fun v h => by simp [sliceIdx, Int.not_lt.mpr h]⟩

example : sliceIdx 6 (some (-2)) 0 = 4 ∧ sliceIdx 6 (some (-9)) 0 = 0 ∧ sliceIdx 6 (some 9) 6 = 6 := by
  decide

/-! ### the text is never changed -/

theorem apply_text (x : AStr) (N : List Setting) (start end_ : Option Int) (top : Bool) :
    (x.applyFormatting N start end_ top).s = x.s := by
  by_cases h : sliceIdx x.len start 0 ≥ x.len ∨ sliceIdx x.len end_ x.len ≤ sliceIdx x.len start 0
  · rw [applyFormatting_skip x N start end_ top h]
  by_cases hN : N = []
  · rw [hN, applyFormatting_nil]
  cases top with
  | true => rw [applyFormatting_top x N start end_ h hN]
  | false => rw [applyFormatting_bot x N start end_ h hN]

/-! ### an empty range or an empty settings list is a no-op -/

theorem apply_noop (x : AStr) (N : List Setting) (start end_ : Option Int) (top : Bool)
    {st en : Nat} (hst : st = sliceIdx x.len start 0) (hen : en = sliceIdx x.len end_ x.len)
    (h : st ≥ x.len ∨ en ≤ st ∨ N = []) : x.applyFormatting N start end_ top = x := by
  subst hst hen
  rcases h with h | h | h
  · exact applyFormatting_skip x N start end_ top (Or.inl h)
  · exact applyFormatting_skip x N start end_ top (Or.inr h)
  · rw [h, applyFormatting_nil]

theorem apply_cases (x : AStr) (N : List Setting) (start end_ : Option Int) (top : Bool)
    {st en : Nat} (hst : st = sliceIdx x.len start 0) (hen : en = sliceIdx x.len end_ x.len) :
    x.applyFormatting N start end_ top = x ∨ (st < x.len ∧ st < en ∧ N ≠ []) := by
  by_cases h : st ≥ x.len ∨ en ≤ st ∨ N = []
  · exact Or.inl (apply_noop x N start end_ top hst hen h)
  · exact Or.inr ⟨Nat.lt_of_not_le fun a => h (Or.inl a), Nat.lt_of_not_le fun a => h (Or.inr (Or.inl a)),
      fun e => h (Or.inr (Or.inr e))⟩

/-! The value of the non-vacuity checks: text `abcdef`, red (`31`, object 0) on `[0,4)`, green
    (`32`, object 1) on `[2,6)` — two overlapping, conflicting settings — and two new objects
    bold (`1`) and blue (`34`). -/

def exX : AStr :=
  { s := "abcdef".toList
    fmts := [(0, { add := [⟨0, "31".toList⟩] }), (2, { add := [⟨1, "32".toList⟩] }),
             (4, { rem := [⟨0, "31".toList⟩] }), (6, { rem := [⟨1, "32".toList⟩] })] }

def exN : List Setting := [⟨5, "1".toList⟩, ⟨6, "34".toList⟩]

theorem exX_wf : WF exX := wf_of_finite (by decide +kernel)

theorem exN_fresh : FreshN exX exN := ⟨by decide, by decide⟩

-- reversed range, empty settings list, start at the end of the text
example : exX.applyFormatting exN (some 4) (some 2) true = exX ∧
    exX.applyFormatting [] (some 1) (some 5) false = exX ∧
    exX.applyFormatting exN (some 6) none true = exX :=
  ⟨apply_noop _ _ _ _ _ rfl rfl (by decide +kernel), applyFormatting_nil _ _ _ _,
    apply_noop _ _ _ _ _ rfl rfl (by decide +kernel)⟩

/-! ### outside the range nothing changes -/

theorem apply_outside (x : AStr) (N : List Setting) (start end_ : Option Int) (top : Bool)
    {st en : Nat} (hst : st = sliceIdx x.len start 0) (hen : en = sliceIdx x.len end_ x.len)
    (hw : WF x) (hf : FreshN x N) (i : Nat) (hi : i < st ∨ en ≤ i) :
    act (x.applyFormatting N start end_ top) i = act x i := by
  rcases apply_cases x N start end_ top hst hen with h | ⟨h1, h2, hN⟩
  · rw [h]
  · obtain ⟨hs', hu, _⟩ := apply_upd (top := top) hw hf hst hen h1 h2 hN
    unfold act
    rw [active_eq_before hw.sorted, active_eq_before hs']
    rcases hi with hi | hi
    · exact hu.before_le hi
    · exact hu.before_gt (Nat.lt_succ_of_le hi)

-- range [1,3), characters 0 and 3
example : WF exX ∧ FreshN exX exN ∧ ((0 : Nat) < sliceIdx exX.len (some 1) 0 ∨ sliceIdx exX.len (some 3) exX.len ≤ 3) :=
  ⟨exX_wf, exN_fresh, by decide +kernel⟩
example : act (exX.applyFormatting exN (some 1) (some 3) true) 3 = act exX 3 :=
  apply_outside _ _ _ _ _ rfl rfl exX_wf exN_fresh 3 (by decide +kernel)

/-! ### inside the range, topmost=True: exactly the new settings are gained, as one block,
    everything else keeps its relative order -/

theorem apply_inside_top (x : AStr) (N : List Setting) (start end_ : Option Int)
    {st en : Nat} (hst : st = sliceIdx x.len start 0) (hen : en = sliceIdx x.len end_ x.len)
    (hw : WF x) (hf : FreshN x N) (i : Nat) (h1 : st ≤ i) (h2 : i < en) (h3 : st < x.len) :
    ∃ p q, act x i = p ++ q ∧ act (x.applyFormatting N start end_ true) i = p ++ N ++ q := by
  by_cases hN : N = []
  · rw [hN, applyFormatting_nil]
    exact ⟨act x i, [], by simp, by simp⟩
  · obtain ⟨_, hs', hu, _⟩ := apply_topUpd hw hf hst hen h3 (Nat.lt_of_le_of_lt h1 h2) hN
    unfold act
    rw [active_eq_before hw.sorted, active_eq_before hs']
    exact hu.toBlock.ins (Nat.lt_succ_of_le h1) h2

/-! ### topmost=True: the new settings come last (they win) on every character of the range up to
    which no other setting begins … -/

theorem apply_top_until (x : AStr) (N : List Setting) (start end_ : Option Int)
    {st en : Nat} (hst : st = sliceIdx x.len start 0) (hen : en = sliceIdx x.len end_ x.len)
    (hw : WF x) (hf : FreshN x N) (i : Nat) (h1 : st ≤ i) (h2 : i < en) (h3 : st < x.len)
    (hquiet : ∀ k, st < k → k ≤ i → (x.fmts.getD k).add = []) :
    act (x.applyFormatting N start end_ true) i = act x i ++ N := by
  by_cases hN : N = []
  · rw [hN, applyFormatting_nil]; simp
  · obtain ⟨_, hs', hu, _⟩ := apply_topUpd hw hf hst hen h3 (Nat.lt_of_le_of_lt h1 h2) hN
    unfold act
    rw [active_eq_before hw.sorted, active_eq_before hs']
    exact hu.upto (Nat.lt_succ_of_le h1) h2 (fun j a b => hquiet j a (Nat.le_of_lt_succ b))

/-! ### … so always on the first character of the range -/

theorem apply_top_first (x : AStr) (N : List Setting) (start end_ : Option Int)
    {st en : Nat} (hst : st = sliceIdx x.len start 0) (hen : en = sliceIdx x.len end_ x.len)
    (hw : WF x) (hf : FreshN x N) (h1 : st < x.len) (h2 : st < en) :
    act (x.applyFormatting N start end_ true) st = act x st ++ N :=
  apply_top_until x N start end_ hst hen hw hf st (Nat.le_refl _) h2 h1
    fun _ a b => absurd a (Nat.not_lt_of_le b)

/-! ### inside the range, topmost=False: the new settings come first (lowest precedence);
    everything that was there stays on top, in its old order -/

theorem apply_inside_bottom (x : AStr) (N : List Setting) (start end_ : Option Int)
    {st en : Nat} (hst : st = sliceIdx x.len start 0) (hen : en = sliceIdx x.len end_ x.len)
    (hw : WF x) (hf : FreshN x N) (i : Nat) (h1 : st ≤ i) (h2 : i < en) (h3 : st < x.len) :
    act (x.applyFormatting N start end_ false) i = N ++ act x i := by
  by_cases hN : N = []
  · rw [hN, applyFormatting_nil]; simp
  · obtain ⟨_, hs', hu, _⟩ := apply_botUpd hw hf hst hen h3 (Nat.lt_of_le_of_lt h1 h2) hN
    unfold act
    rw [active_eq_before hw.sorted, active_eq_before hs']
    exact hu.inside (Nat.lt_succ_of_le h1) h2

-- range [1,5) of `abcdef`, which the start of green (index 2) and the end of red (index 4) both
-- fall into; index 1 satisfies `hquiet` of `apply_top_until`
example : WF exX ∧ FreshN exX exN ∧ sliceIdx exX.len (some 1) 0 ≤ 3 ∧ 3 < sliceIdx exX.len (some 5) exX.len ∧
    sliceIdx exX.len (some 1) 0 < exX.len := ⟨exX_wf, exN_fresh, by decide +kernel⟩
example : ∀ k, sliceIdx exX.len (some 1) 0 < k → k ≤ 1 → (exX.fmts.getD k).add = [] := by
  intro k a b
  have : sliceIdx exX.len (some 1) 0 = 1 := by decide +kernel
  omega
example : act exX 3 = [⟨0, "31".toList⟩, ⟨1, "32".toList⟩] ∧
    act (exX.applyFormatting exN (some 1) (some 5) true) 3 = [⟨0, "31".toList⟩] ++ exN ++ [⟨1, "32".toList⟩] ∧
    act (exX.applyFormatting exN (some 1) (some 5) true) 1 = [⟨0, "31".toList⟩] ++ exN ∧
    act (exX.applyFormatting exN (some 1) (some 5) false) 3 = exN ++ [⟨0, "31".toList⟩, ⟨1, "32".toList⟩] := by
  decide +kernel

/-! ### the history invariant is kept -/

theorem apply_wf (x : AStr) (N : List Setting) (start end_ : Option Int) (top : Bool)
    (hw : WF x) (hf : FreshN x N) : WF (x.applyFormatting N start end_ top) := by
  rcases apply_cases x N start end_ top rfl rfl with h | ⟨h1, h2, hN⟩
  · rw [h]; exact hw
  · exact (apply_upd hw hf rfl rfl h1 h2 hN).2.2

example : WF (exX.applyFormatting exN (some 1) (some 5) false) := apply_wf _ _ _ _ _ exX_wf exN_fresh

/-! ### the objects `apply_formatting` creates are fresh; the raw entry point -/

theorem freshSettings_fresh (x : AStr) (nid : Nat) (ts : List Str) (h : FreshFrom x nid) :
    FreshN x (freshSettings nid ts) := by
  constructor
  · intro s hs t ht
    have h1 : s.id ∈ (freshSettings nid ts).map (·.id) := List.mem_map.mpr ⟨s, hs, rfl⟩
    rw [freshSettings_ids, List.mem_range'_1] at h1
    have := h t ht
    omega
  · rw [freshSettings_ids]
    exact List.nodup_range'

example : FreshFrom exX 5 := by unfold FreshFrom; decide +kernel
example : freshSettings 5 ["1".toList, "34".toList] = exN := by decide +kernel

/-- `apply_formatting` as called: either nothing happens, or the scrubbed settings are turned into
    fresh objects and applied.  (An error result carries no value at all: `Except.error` has no
    state component, so "an error leaves the value unchanged" is built into the type and
    needs no theorem.) -/
theorem applyRaw_spec (x y : AStr) (nid : Nat) (a : SArg) (start end_ : Option Int) (top : Bool)
    (h : x.applyRaw nid a start end_ top = .ok y) :
    y = x ∨ ∃ ts, Scrub.scrub a = .ok ts ∧ y = x.applyFormatting (freshSettings nid ts) start end_ top := by
  unfold AStr.applyRaw at h
  simp only at h
  split at h
  · left; cases h; rfl
  · right
    cases hs : Scrub.scrub a with
    | error e => simp [hs, bind, Except.bind] at h
    | ok ts =>
      refine ⟨ts, rfl, ?_⟩
      simp only [hs, bind, Except.bind, pure, Except.pure] at h
      cases h; rfl

example : (exX.applyRaw 5 (.list [.int 1, .int 34]) (some 1) (some 5) true).toOption =
    some (exX.applyFormatting exN (some 1) (some 5) true) := by decide +kernel

#print axioms apply_bounds
#print axioms apply_text
#print axioms apply_noop
#print axioms apply_outside
#print axioms apply_inside_top
#print axioms apply_top_first
#print axioms apply_top_until
#print axioms apply_inside_bottom
#print axioms apply_wf
#print axioms freshSettings_fresh
#print axioms applyRaw_spec
