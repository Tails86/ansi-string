import AnsiProofs.Props.C04b
import AnsiModel.Render
/-
  Property C17, part b — the guards of `find_settings` and `ansi_settings_at`, from the source.

  `Gen.findGuard` / `Gen.settingsAtGuard` are the leading parts of the two methods translated statement
  by statement (harness/pyint.py, prefix mode): an inverted range answers `(None, None)`
  at once; an index outside the text answers `[]`.  The theorems tie them to the model's hand-written
  `findRaw` and `ansiSettingsAt`.
-/
namespace C17b

theorem find_guard_is_code (n : Nat) (a1 a2 : Bool) (s e : Option Int) (r1 r2 : Bool) :
    Gen.findGuard (n : Int) a1 a2 s e r1 r2 = if sliceIdx n e n < sliceIdx n s 0 then 1 else 0 := by
  unfold Gen.findGuard
  simp only [C04b.start_is_code, (C04b.sliceIdx_is_code n e n).2]
  generalize sliceIdx n s 0 = a
  generalize sliceIdx n e n = b
  -- both sides are one `if`: the code's test `(b : Int) < (a : Int)` against the model's `b < a`
  grind

/-- an inverted range is answered with `(None, None)` before the settings are even looked at … -/
theorem findRaw_returns (x : AStr) (a : SArg) (s e : Option Int) (rev : Bool) (a1 a2 r1 r2 : Bool)
    (h : Gen.findGuard (x.len : Int) a1 a2 s e r1 r2 = 1) : x.findRaw a s e rev = .ok (none, none) := by
  rw [find_guard_is_code] at h
  unfold AStr.findRaw
  exact if_pos (C04b.guard_one h)

/-- … and otherwise the settings are scrubbed and searched for -/
theorem findRaw_goes_on (x : AStr) (a : SArg) (s e : Option Int) (rev : Bool) (a1 a2 r1 r2 : Bool)
    (h : Gen.findGuard (x.len : Int) a1 a2 s e r1 r2 = 0) :
    x.findRaw a s e rev = (do let ts ← Scrub.scrub a; pure (x.findSettings ts s e rev)) := by
  rw [find_guard_is_code] at h
  unfold AStr.findRaw
  exact if_neg (C04b.guard_zero h)

theorem settingsAt_guard_is_code (n : Nat) (idx : Int) :
    Gen.settingsAtGuard (n : Int) idx = if 0 ≤ idx ∧ idx < n then 0 else 1 := by
  unfold Gen.settingsAtGuard
  -- the same `if` with its condition written `idx ≥ 0 ∧ idx < n` in the code
  grind

theorem ansiSettingsAt_returns (x : AStr) (idx : Int) (h : Gen.settingsAtGuard (x.len : Int) idx = 1) :
    x.ansiSettingsAt idx = [] := by
  rw [settingsAt_guard_is_code, ← ite_not] at h
  exact if_neg (C04b.guard_one h)

theorem ansiSettingsAt_goes_on (x : AStr) (idx : Int) (h : Gen.settingsAtGuard (x.len : Int) idx = 0) :
    x.ansiSettingsAt idx = active x.fmts idx.toNat := by
  rw [settingsAt_guard_is_code, ← ite_not] at h
  exact if_pos (Decidable.not_not.mp (C04b.guard_zero h))

example : Gen.findGuard 5 false true (some 3) (some 2) false false = 1 := by decide
example : Gen.findGuard 5 false true (some 3) (some 3) false false = 0 := by decide
example : Gen.settingsAtGuard 5 5 = 1 := by decide
example : Gen.settingsAtGuard 5 (-1) = 1 := by decide
example : Gen.settingsAtGuard 5 4 = 0 := by decide

end C17b
