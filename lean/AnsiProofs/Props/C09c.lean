import AnsiProofs.Props.C05c
import AnsiModel.Replay
import AnsiProofs.Lemmas.Obj
import AnsiModel.Generated.Methods.IterStep
/-
  Property C09, part c — one step of `_AnsiSettingsIterator`, from the source.

  Everything that reads a value — rendering, `settings_at`, slicing, removal, `find_settings`, `+=` —
  replays the change-point table through `_AnsiSettingsIterator.__next__`; the model's `stepPoint`
  (and `stepOk`, the library's own `WITH_ASSERTIONS` self-check) is what all replay lemmas stand on.
  `Gen.iterStep` is the body of `__next__` after the point has been fetched, translated statement by
  statement (harness/pyobj.py): the loop over `settings.rem` that looks each stop marker
  up *by identity* (`_find_setting_reference`) and deletes it at the index found, then the extension
  by `settings.add`.
-/
namespace C09c

theorem translated : Gen.iterStepOk = true := by decide

/-- `del l[i]` at the index `_find_setting_reference` found is the model's `eraseId` -/
theorem del_found {c : List Setting} {s : Setting} (h : hasId c s.id = true) :
    Py.delIdx c (Gen.findSettingReference s c) = .ok (eraseId c s.id) := by
  rw [C05c.find_reference_index]
  unfold eraseId
  rw [List.eraseP_eq_eraseIdx]
  cases hf : c.findIdx? (fun x => x.id == s.id) with
  | none =>
    obtain ⟨t, ht, e⟩ := List.any_eq_true.mp h
    rw [List.findIdx?_eq_none_iff.mp hf t ht] at e
    cases e
  | some i => exact ObjL.delIdx_nat (List.findIdx?_eq_some_iff_getElem.mp hf).1

/-- one round of the loop, whatever it looks like: delete the marker found by identity, or — nothing
    found — leave the list (`strict = false`) / raise (`strict = true`) -/
private def RoundSpec (strict : Bool) (f : List Setting → Setting → Except Exc (List Setting)) : Prop :=
  ∀ c s, f c s = if hasId c s.id then .ok (eraseId c s.id)
                 else if strict then .error (.py .valueError) else .ok c

private theorem fold_spec (strict : Bool) (f : List Setting → Setting → Except Exc (List Setting))
    (hf : RoundSpec strict f) (rem cur : List Setting) :
    List.foldlM f cur rem =
      if strict && !stepOk cur rem then .error (.py .valueError)
      else .ok (rem.foldl (fun c s => eraseId c s.id) cur) := by
  induction rem generalizing cur with
  | nil => simp [stepOk]; rfl
  | cons s rest ih =>
    rw [List.foldlM_cons, List.foldl_cons, hf cur s, stepOk_cons]
    cases h : hasId cur s.id with
    | true => exact ih _
    | false =>
      rw [eraseId_of_not_hasId h]
      cases strict with
      | true => rfl
      | false => exact ih cur

/-- `strict`: the self-check `WITH_ASSERTIONS` is on -/
theorem iter_step (cur : List Setting) (p : Point) (strict : Bool) :
    Gen.iterStep cur p strict =
      if strict && !stepOk cur p.rem then .error (.py .valueError) else .ok (stepPoint cur p) := by
  unfold Gen.iterStep stepPoint
  rw [fold_spec strict _ ?spec]
  · cases strict && !stepOk cur p.rem <;> simp [Except.bind]
  · intro c s
    have hf := C05c.find_reference_is_code s c
    cases h : hasId c s.id with
    | true =>
      have hp : Gen.findSettingReference s c ≥ 0 := of_decide_eq_true (hf.trans h)
      simp [hp, del_found h, Except.bind]
    | false =>
      have hn : ¬ Gen.findSettingReference s c ≥ 0 := of_decide_eq_false (hf.trans h)
      simp [hn]

/-- with the self-check off (as shipped) `__next__` never raises -/
theorem iter_step_is_code (cur : List Setting) (p : Point) :
    Gen.iterStep cur p false = .ok (stepPoint cur p) :=
  iter_step cur p false

/-- with `WITH_ASSERTIONS` on, `__next__` raises exactly when the model's `stepOk` fails: a stop marker is
    not the same object as an active setting -/
theorem iter_step_asserting (cur : List Setting) (p : Point) :
    Gen.iterStep cur p true =
      if stepOk cur p.rem then .ok (stepPoint cur p) else .error (.py .valueError) := by
  rw [iter_step]
  cases stepOk cur p.rem <;> rfl

/-- equal value is not enough: a stop marker with the value of an active setting but another identity
    removes nothing (and trips the self-check) -/
example : Gen.iterStep [⟨1, "31".toList⟩] { rem := [⟨2, "31".toList⟩] } false = .ok [⟨1, "31".toList⟩] := by decide +kernel
example : Gen.iterStep [⟨1, "31".toList⟩] { rem := [⟨2, "31".toList⟩] } true = .error (.py .valueError) := by decide +kernel
example : Gen.iterStep [⟨1, "31".toList⟩, ⟨2, "1".toList⟩] { rem := [⟨1, "31".toList⟩], add := [⟨3, "4".toList⟩] } true =
    .ok [⟨2, "1".toList⟩, ⟨3, "4".toList⟩] := by decide +kernel

end C09c

#print axioms C09c.iter_step_is_code
#print axioms C09c.iter_step_asserting
