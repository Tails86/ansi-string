import AnsiProofs.Lemmas.Concat
/-
  Property C05 — concatenation (`__iadd__`, `__add__`, `join`).

  `a b : AStr`, `c := a.iadd b` (the model of `a += b`; `a + b` is `a.copy() += b`, the same
  function of the values; `join(x1, …, xn)` is the left fold of `iadd`).

  * the text of `c` is `a.s ++ b.s`;
  * every character of `a` keeps exactly its settings (same objects, same order);
  * every character of `b` keeps its setting texts in the same order (objects that were merged at
    the seam are re-targeted to the objects of `a`, which carry the same text);
  * no disjointness of identities is assumed: `a.iadd a` and operands sharing objects are covered;
  * `WF` is preserved (for operands whose shared identities carry the same text, `CoherentPair`).
-/

open ConcatL

namespace C05

/-! ## 1 — text -/

theorem iadd_text (a b : AStr) : (a.iadd b).s = a.s ++ b.s := rfl

/-! ## 2 — a plain `str` operand -/

theorem iadd_plain (a : AStr) (t : Str) :
    a.iadd { s := t, fmts := [] } = { s := a.s ++ t, fmts := a.fmts } := rfl

/-- characters of an appended plain `str` have no settings -/
theorem iadd_plain_right (a : AStr) (t : Str) (ha : WF a) :
    ∀ j, a.len ≤ j → act (a.iadd { s := t, fmts := [] }) j = [] := by
  intro j hj
  rw [iadd_plain]
  exact wf_active_ge ha hj

/-! ## 3 — the characters of the left operand keep their settings (objects and order) -/

theorem iadd_left (a b : AStr) (ha : WF a) (hb : WF b) {i : Nat} (hi : i < a.len) :
    act (a.iadd b) i = act a i := by
  unfold act
  obtain ⟨P0, c1, c2, _⟩ := iadd_sem ha hb
  rw [active_eq_activeFn _ c1, active_eq_activeFn _ ha.sorted]
  exact prevAct_congr (i + 1) (fun j hj => c2 j (by omega))

/-! ## 4 — the characters of the right operand keep their setting texts, in the same order -/

/-- no hypothesis on the identities of `a` and `b`: they may share objects; nor on `k`: beyond the end of
    `b` both sides are empty -/
theorem iadd_right_all (a b : AStr) (ha : WF a) (hb : WF b) (k : Nat) :
    texts (act (a.iadd b) (a.len + k)) = texts (act b k) := by
  unfold act
  obtain ⟨P0, c1, _, _, _, _, _, c7, c8, _⟩ := iadd_sem ha hb
  rw [active_eq_activeFn _ c1, wf_act hb]
  show texts (prevAct _ (a.len + (k + 1))) = _
  rw [(c8 (k + 1) (by omega)).eq]
  apply texts_map_subst
  intro p hp y hy e
  obtain ⟨h1, h2, _, _⟩ := c7 p (pendAt_subset hp)
  rw [← h1]
  exact hb.coherent p.1 (Fmts.mem_settings_of_toFun (Or.inl h2)) y (wf_mem_prev_settings hy) e

theorem iadd_right (a b : AStr) (ha : WF a) (hb : WF b) {k : Nat} (_hk : k < b.len) :
    texts (act (a.iadd b) (a.len + k)) = texts (act b k) :=
  iadd_right_all a b ha hb k

theorem iadd_self_right (a : AStr) (ha : WF a) {k : Nat} (hk : k < a.len) :
    texts (act (a.iadd a) (a.len + k)) = texts (act a k) :=
  iadd_right a a ha ha hk

theorem iadd_self_left (a : AStr) (ha : WF a) {i : Nat} (hi : i < a.len) :
    act (a.iadd a) i = act a i :=
  iadd_left a a ha ha hi

/-! ## 5 — the invariant is preserved -/

/-- `CoherentPair a b`: identities shared between `a` and `b` carry the same text (true in every
    store, identities being object identities) -/
theorem iadd_wf (a b : AStr) (ha : WF a) (hb : WF b) (hc : CoherentPair a b) : WF (a.iadd b) := by
  obtain ⟨P0, c1, c2, c3, c4, c5, c6, c7, c8, c9⟩ := iadd_sem ha hb
  have hbound : ∀ kp ∈ (a.iadd b).fmts, kp.1 ≤ (a.iadd b).len := by
    intro kp hkp
    rw [iadd_len]
    rcases c3 kp hkp with h | ⟨kp', h1, h2⟩
    · have := ha.bound kp h; omega
    · have := hb.bound kp' h1; omega
  refine ⟨c1, hbound, ?_, ?_, ?_, ?_, ?_⟩
  · intro kp hkp hk
    rw [← Fmts.toFun_of_mem c1 (show (kp.1, kp.2) ∈ (a.iadd b).fmts from hkp), hk, iadd_len]
    by_cases hbl : b.len = 0
    · rw [hbl, Nat.add_zero]
      apply List.eq_nil_iff_forall_not_mem.mpr
      intro s hs
      have := c4 s hs
      have h0 := wf_addEnd hb
      rw [hbl] at h0
      rw [h0] at this; cases this
    · rw [Nat.add_comm, c6 _ (by omega)]
      exact wf_addEnd hb
  · exact (replayOk_iff c1).mpr c9
  · intro i
    rw [active_eq_activeFn _ c1]
    by_cases h : i < a.len
    · rw [← prevAct_succ_eq_activeFn, prevAct_congr (i + 1) (fun j hj => c2 j (by omega))]
      exact wf_nodup_prev ha _
    · obtain ⟨m, rfl⟩ := Nat.exists_eq_add_of_le (Nat.le_of_not_lt h)
      exact (c8 (m + 1) (by omega)).nodup
  · rw [active_eq_activeFn _ c1, iadd_len]
    show prevAct _ (a.len + (b.len + 1)) = []
    rw [(c8 (b.len + 1) (by omega)).eq, wf_closed_ge hb b.len (Nat.le_refl _)]
    rfl
  · intro s hs t ht e
    rcases mem_iadd_settings ha hb hs with h1 | h1 <;> rcases mem_iadd_settings ha hb ht with h2 | h2
    · exact ha.coherent s h1 t h2 e
    · exact hc s h1 t h2 e
    · exact (hc t h2 s h1 e.symm).symm
    · exact hb.coherent s h1 t h2 e

theorem iadd_self_wf (a : AStr) (ha : WF a) : WF (a.iadd a) :=
  iadd_wf a a ha ha ha.coherent

/-! ## 6 — `join` -/

theorem join_nil : AStr.join [] = {} := rfl

theorem join_fold (x : AStr) (rest : List AStr) : AStr.join (x :: rest) = rest.foldl AStr.iadd x := rfl

theorem join_pair (a b : AStr) : AStr.join [a, b] = a.iadd b := rfl

/-! ## 7 — empty operands -/

theorem iadd_empty_right (a : AStr) : a.iadd {} = a := by
  cases a
  simp [AStr.iadd]

theorem iadd_empty_left (b : AStr) (hb : WF b) :
    ∀ k, texts (act (({} : AStr).iadd b) k) = texts (act b k) := by
  intro k
  have := iadd_right_all {} b wf_empty hb k
  simpa [AStr.len, act] using this

/-! ## non-vacuity -/

def r1 : Setting := ⟨1, "31".toList⟩   -- red, object 1
def r2 : Setting := ⟨2, "31".toList⟩   -- red, object 2
def b3 : Setting := ⟨3, "34".toList⟩   -- blue, object 3

/-- `'ab'` red -/
def aRed : AStr := { s := "ab".toList, fmts := [(0, { add := [r1] }), (2, { rem := [r1] })] }
/-- `'c'` red (another object with the same text) -/
def cRed : AStr := { s := "c".toList, fmts := [(0, { add := [r2] }), (1, { rem := [r2] })] }
/-- `'c'` blue -/
def cBlue : AStr := { s := "c".toList, fmts := [(0, { add := [b3] }), (1, { rem := [b3] })] }

theorem aRed_wf : WF aRed := wf_of_finite (by decide +kernel)

theorem cRed_wf : WF cRed := wf_of_finite (by decide +kernel)

theorem cBlue_wf : WF cBlue := wf_of_finite (by decide +kernel)

/-- the hypotheses of `iadd_left`, `iadd_right`, `iadd_wf` hold on concrete values -/
example : WF aRed ∧ WF cRed ∧ CoherentPair aRed cRed ∧ 1 < aRed.len ∧ 0 < cRed.len :=
  ⟨aRed_wf, cRed_wf, by decide +kernel, by decide, by decide⟩
example : WF aRed ∧ WF cBlue ∧ CoherentPair aRed cBlue := ⟨aRed_wf, cBlue_wf, by decide +kernel⟩

/-- merge at the seam: one run, the right operand's stop marker is re-targeted to object 1 -/
example : aRed.iadd cRed =
    { s := "abc".toList, fmts := [(0, { add := [r1] }), (3, { rem := [r1] })] } := by decide +kernel
example : act (aRed.iadd cRed) 2 = [r1] ∧ act cRed 0 = [r2] ∧
    texts (act (aRed.iadd cRed) (aRed.len + 0)) = texts (act cRed 0) :=
  ⟨by decide +kernel, by decide +kernel, iadd_right aRed cRed aRed_wf cRed_wf (by decide)⟩

/-- different styles at the seam: no merge -/
example : aRed.iadd cBlue =
    { s := "abc".toList,
      fmts := [(0, { add := [r1] }), (2, { add := [b3], rem := [r1] }), (3, { rem := [b3] })] } := by
  decide +kernel
example : act (aRed.iadd cBlue) 1 = [r1] ∧ act (aRed.iadd cBlue) 2 = [b3] := by decide +kernel

/-- a value concatenated with itself (operands share every object): merged into one run -/
example : aRed.iadd aRed =
    { s := "abab".toList, fmts := [(0, { add := [r1] }), (4, { rem := [r1] })] } := by decide +kernel
example : act (aRed.iadd aRed) 3 = [r1] ∧ WF (aRed.iadd aRed) := ⟨by decide +kernel, iadd_self_wf aRed aRed_wf⟩

example : act (aRed.iadd { s := "xy".toList, fmts := [] }) 1 = [r1] ∧
    act (aRed.iadd { s := "xy".toList, fmts := [] }) 2 = [] :=
  ⟨by decide +kernel, iadd_plain_right aRed _ aRed_wf 2 (by decide)⟩

/-! ### operands sharing an object that starts again later (known_findings D32)

  `x = 'a'` red (object 1); `y = 'cead'` with red (object 7) on `[0,4)`, blue on `[1,4)` and the
  object 1 of `x` again on `[2,3)`.  Merging the outer red of `y` into object 1 would make object 1
  active twice; `__iadd__` refuses the merge (object 1 starts again in `y` at key 2). -/

def r7 : Setting := ⟨7, "31".toList⟩
def xa : AStr := { s := "a".toList, fmts := [(0, { add := [r1] }), (1, { rem := [r1] })] }
def yb : AStr :=
  { s := "cead".toList,
    fmts := [(0, { add := [r7] }), (1, { add := [b3] }), (2, { add := [r1] }), (3, { rem := [r1] }),
             (4, { rem := [b3, r7] })] }

theorem xa_wf : WF xa := wf_of_finite (by decide +kernel)

theorem yb_wf : WF yb := wf_of_finite (by decide +kernel)

/-- the operands share object 1, and the theorems apply to them -/
example : WF xa ∧ WF yb ∧ CoherentPair xa yb ∧ hasId yb.fmts.settings r1.id = true ∧ 3 < yb.len :=
  ⟨xa_wf, yb_wf, by decide +kernel, by decide +kernel, by decide⟩
example : WF (xa.iadd yb) := iadd_wf xa yb xa_wf yb_wf (by decide +kernel)

example : texts (act (xa.iadd yb) (xa.len + 3)) = ["31".toList, "34".toList] ∧
    texts (act yb 3) = ["31".toList, "34".toList] := by decide +kernel

example : (xa.iadd yb).fmts =
    [(0, { add := [r1] }), (1, { add := [r7], rem := [r1] }), (2, { add := [b3] }), (3, { add := [r1] }),
     (4, { rem := [r1] }), (5, { rem := [b3, r7] })] := by decide +kernel

/-- the self-concatenation witness: object 1 is used twice inside the value -/
def g2 : Setting := ⟨2, "31".toList⟩
def ax : AStr :=
  { s := "abcde".toList,
    fmts := [(0, { add := [g2] }), (1, { add := [b3] }), (2, { add := [r1] }), (3, { rem := [r1] }),
             (4, { add := [r1], rem := [b3, g2] }), (5, { rem := [r1] })] }

theorem ax_wf : WF ax := wf_of_finite (by decide +kernel)

example : WF ax ∧ 3 < ax.len := ⟨ax_wf, by decide⟩
example : WF (ax.iadd ax) := iadd_self_wf ax ax_wf

example : texts (act (ax.iadd ax) (ax.len + 3)) = texts (act ax 3) ∧
    texts (act ax 3) = ["31".toList, "34".toList] := ⟨iadd_self_right ax ax_wf (by decide), by decide +kernel⟩

end C05
