import AnsiModel.StrLike
import AnsiModel.Obj
import AnsiModel.Generated.Methods.Split
import AnsiModel.Generated.Methods.Splitlines
import AnsiModel.Generated.Methods.Partition
import AnsiModel.Generated.Methods.Rpartition
import AnsiProofs.Lemmas.StrLike
import AnsiProofs.Props.C11d
import AnsiProofs.Lemmas.Obj

/-
  Property C11, part e — the *generated* (statement-by-statement translated) bodies of
  `AnsiString._split` (behind `split`/`rsplit`), `splitlines`, `partition` and `rpartition` compute
  exactly what the hand-written model says (`AStr.splitGen`, `AStr.splitlines`, `AStr.partitionGen`);
  the only exception is `str`'s ValueError for an empty separator, nothing falls outside the model's
  representation (`Py.optGet sep` is only reached under `sep is not None`).

  The one place where code and model are written differently is the offset recovery
  `idx = self._s.find(s, idx)`: the code keeps Python's `-1` (`Py.findInt`, start clamped by
  `Py.listIdx`), the model writes `(Py.find s p idx).getD 0` over naturals.  The two agree as long as
  every `find` of the recovery succeeds (`L.FindsAll`), and that is a theorem about what `str.split`,
  `str.rsplit` and `str.splitlines` return (each piece occurs at or after the running offset:
  `StrLikeL.Occ`, from `joinSep sep pieces = s` resp. `StrLikeL.InOrder pieces s`), so all four
  equalities are unconditional.

  `namespace C11e.L` mentions no `Gen.*`: `FindsAll` and why it holds for the five splitters
  (`finds_pySplit`, `finds_splitlines`); the two loops as folds of *any* step function meeting a
  one-clause spec (`fold_offsets0`: "append `(find, len)`, advance by `len + gap`"; `fold_slices0`:
  "append the slice"); `findInt`/`rfindInt` versus `find`/`rfind`.  The theorems over `Gen.*` rewrite
  with the fold lemmas; the spec clauses are side goals.
-/

namespace C11e
namespace L
open StrLikeL
open ObjL (bind_ok)

theorem bind_error {ε α β : Type} (e : ε) (f : α → Except ε β) : (Except.error e : Except ε α).bind f = .error e :=
  rfl

/-! ## every `find` of the offset recovery succeeds -/

/-- the hypothesis the model takes for granted ("find() cannot fail for a piece of s") -/
def FindsAll (s : Str) (gap : Nat) : List Str → Nat → Prop
  | [], _ => True
  | p :: rest, idx => ∃ a, Py.find s p idx = some a ∧ FindsAll s gap rest (a + p.length + gap)

/-- pieces that occur in order (each at or after the running offset) are all found — possibly earlier
    than where they came from, which only moves the running offset back -/
theorem findsAll_of_occ {s : Str} {gap : Nat} {ps : List Str} {idx : Nat} (h : Occ s gap ps idx) :
    FindsAll s gap ps idx := by
  induction ps generalizing idx with
  | nil => trivial
  | cons p rest ih =>
    obtain ⟨t, h1, h2, h3, h4⟩ := h
    obtain ⟨j, hf, _, hj2, _⟩ := find_of_match s p idx t h2 h1 h3
    exact ⟨j, hf, ih (Occ_mono h4 (by omega))⟩

/-- the `len(sep)` added to the running offset (`0` when `sep is None`) -/
def gapOf : Option Str → Nat
  | none => 0
  | some sp => sp.length

theorem finds_pySplit {s : Str} {sep : Option Str} {m : Int} {r : Bool} {ps : List Str}
    (h : Py.pySplit s sep m r = .ok ps) : FindsAll s (gapOf sep) ps 0 := by
  apply findsAll_of_occ
  unfold Py.pySplit at h
  rcases sep with _ | _ | ⟨c, cs⟩
  · cases h
    exact (wsPieces_sub s m r).occ s [] rfl
  · cases h
  · cases h
    exact (sepPieces_laid s (c :: cs) m r).2

theorem finds_splitlines (s : Str) (keep : Bool) : FindsAll s 0 (Py.splitlines s keep) 0 :=
  findsAll_of_occ ((splitlines_sub s keep).occ s [] rfl)

theorem splitGen_of_ok {x : AStr} {sep : Option Str} {m : Int} {r : Bool} {ps : List Str}
    (h : Py.pySplit x.s sep m r = .ok ps) :
    x.splitGen sep m r = .ok (x.piecesAt (AStr.pieceOffsets x.s (gapOf sep) ps 0)) := by
  unfold Py.pySplit at h
  rcases sep with _ | _ | ⟨c, cs⟩
  · cases h; rfl
  · cases h
  · cases h; rfl

theorem splitGen_of_error {x : AStr} {sep : Option Str} {m : Int} {r : Bool} {e : Exc}
    (h : Py.pySplit x.s sep m r = .error e) :
    e = .py .valueError ∧ x.splitGen sep m r = .error .valueError := by
  unfold Py.pySplit at h
  rcases sep with _ | _ | ⟨c, cs⟩
  · cases h
  · cases h; exact ⟨rfl, rfl⟩
  · cases h

/-! ## `findInt`/`rfindInt` versus `find`/`rfind` -/

theorem findInt_of_find {s p : Str} {k a : Nat} (h : Py.find s p k = some a) :
    Py.findInt s p (k : Int) = (a : Int) := by
  obtain ⟨h1, h2, -, -⟩ := (find_some_iff _ _ _ _).mp h
  unfold Py.findInt
  rw [ObjL.listIdx_nat, Nat.min_eq_left (by omega), h]

theorem findInt_zero (s p : Str) :
    Py.findInt s p 0 = match Py.find s p 0 with | some i => (i : Int) | none => -1 := by
  unfold Py.findInt
  have : Py.listIdx s.length 0 = 0 := by simp [Py.listIdx]
  rw [this]
  cases Py.find s p 0 <;> rfl

/-- however the code tests the sign of the result of `find` -/
theorem nat_nonneg (i : Nat) : (i : Int) ≥ 0 := by omega
theorem nat_ne_neg_one (i : Nat) : (i : Int) ≠ -1 := by omega

/-! ## the two loops -/

/-- where the running offset ends up (the code keeps it, nobody reads it) -/
def endOffset (s : Str) (gap : Nat) : List Str → Nat → Nat
  | [], idx => idx
  | p :: rest, idx => endOffset s gap rest ((Py.find s p idx).getD 0 + p.length + gap)

/-- the model's offsets as the code holds them -/
def castOffs (l : List (Nat × Nat)) : List (Int × Int) := l.map (fun ol => ((ol.1 : Int), (ol.2 : Int)))

/-- `for s in str_splits: idx = self._s.find(s, idx); split_idx_len.append((idx, len(s))); idx += len(s) + gap` -/
theorem fold_offsets0 {s : Str} {gap : Nat}
    (f : Int × List (Int × Int) → Str → Except Exc (Int × List (Int × Int)))
    (hf : ∀ i acc p, f (i, acc) p =
      .ok (Py.findInt s p i + (p.length : Int) + (gap : Int), acc ++ [(Py.findInt s p i, (p.length : Int))]))
    (ps : List Str) (h : FindsAll s gap ps 0) :
    List.foldlM f ((0 : Int), []) ps =
      .ok (((endOffset s gap ps 0 : Nat) : Int), castOffs (AStr.pieceOffsets s gap ps 0)) := by
  -- from any offset `k`, with any list collected so far
  have aux : ∀ (ps : List Str) (k : Nat) (acc : List (Int × Int)), FindsAll s gap ps k →
      List.foldlM f ((k : Int), acc) ps =
        .ok (((endOffset s gap ps k : Nat) : Int), acc ++ castOffs (AStr.pieceOffsets s gap ps k)) := by
    intro ps
    induction ps with
    | nil => intro k acc _; simp [List.foldlM, pure, Except.pure, endOffset, AStr.pieceOffsets, castOffs]
    | cons p rest ih =>
      intro k acc h
      obtain ⟨a, ha, hrest⟩ := h
      rw [List.foldlM_cons, hf, findInt_of_find ha]
      show List.foldlM f _ rest = _
      have hc : (a : Int) + (p.length : Int) + (gap : Int) = ((a + p.length + gap : Nat) : Int) := by
        omega
      rw [hc, ih _ _ hrest]
      simp [endOffset, AStr.pieceOffsets, castOffs, ha]
  simpa using aux ps 0 [] h

/-- `for idx, length in split_idx_len: ansi_str_splits.append(self[idx:idx+length])` -/
theorem fold_slices0 (x : AStr) (g : List AStr → Int × Int → Except Exc (List AStr))
    (hg : ∀ acc i n, g acc (i, n) = .ok (acc ++ [x.getSlice (some i) (some (i + n))]))
    (offs : List (Nat × Nat)) :
    List.foldlM g [] (castOffs offs) = .ok (x.piecesAt offs) := by
  rw [ObjL.foldlM_append (fun acc il _ => hg acc il.1 il.2)]
  simp [castOffs, AStr.piecesAt, List.flatMap_map, ← List.map_eq_flatMap]

end L

open L
open ObjL (bind_ok)

/-! ## `_split` -/

set_option linter.unusedSimpArgs false in
/-- the code under the hypothesis that is visible at the level of the loop: every `find` succeeds -/
theorem split_is_code_of_finds (x : AStr) (sep : Option Str) (maxsplit : Int) (r : Bool)
    (hfinds : ∀ ps, Py.pySplit x.s sep maxsplit r = .ok ps → FindsAll x.s (gapOf sep) ps 0) :
    Gen.split x sep maxsplit r =
      match x.splitGen sep maxsplit r with
      | .ok l => .ok l
      | .error e => .error (.py e) := by
  unfold Gen.split
  cases r <;> (try simp only [Bool.false_eq_true, if_true, if_false])
  all_goals
    cases h : Py.pySplit x.s sep maxsplit _ with
    | error e =>
      obtain ⟨he, hm⟩ := splitGen_of_error h
      rw [hm, he]; rfl
    | ok ps =>
      rw [splitGen_of_ok h, bind_ok]
      simp only []
      rw [fold_offsets0 (s := x.s) (gap := gapOf sep) _ ?hf _ (hfinds _ h), bind_ok]
      simp only []
      rw [fold_slices0 x _ ?hg, bind_ok]
      case hf => intros; cases sep <;> simp [Py.optGet, bind_ok, gapOf, Int.add_assoc]
      case hg => intros; rfl

theorem split_is_code (x : AStr) (sep : Option Str) (maxsplit : Int) (r : Bool) :
    Gen.split x sep maxsplit r =
      match x.splitGen sep maxsplit r with
      | .ok l => .ok l
      | .error e => .error (.py e) :=
  split_is_code_of_finds x sep maxsplit r (fun _ h => finds_pySplit h)

/-! ## `splitlines` -/

set_option linter.unusedSimpArgs false in
theorem splitlines_is_code (x : AStr) (keepends : Bool) :
    Gen.splitlines x keepends = .ok (x.splitlines keepends) := by
  unfold Gen.splitlines AStr.splitlines
  simp only []
  rw [fold_offsets0 (s := x.s) (gap := 0) _ ?hf _ (finds_splitlines _ _), bind_ok]
  simp only []
  rw [fold_slices0 x _ ?hg, bind_ok]
  case hf => intros; simp [Int.add_assoc]
  case hg => intros; rfl

/-! ## `partition` / `rpartition` -/

set_option linter.unusedSimpArgs false in
theorem partition_is_code (x : AStr) (sep : Str) : Gen.partition x sep = .ok (x.partitionGen sep false) := by
  unfold Gen.partition AStr.partitionGen
  rw [findInt_zero]
  cases Py.find x.s sep 0 <;> simp [ObjL.natCast_not_neg, nat_nonneg, nat_ne_neg_one]

set_option linter.unusedSimpArgs false in
theorem rpartition_is_code (x : AStr) (sep : Str) : Gen.rpartition x sep = .ok (x.partitionGen sep true) := by
  unfold Gen.rpartition AStr.partitionGen Py.rfindInt
  cases Py.rfind x.s sep <;> simp [ObjL.natCast_not_neg, nat_nonneg, nat_ne_neg_one]

/-- all four were translated (none fell outside the translator's fragment) -/
theorem translated :
    Gen.splitOk = true ∧ Gen.splitlinesOk = true ∧ Gen.partitionOk = true ∧ Gen.rpartitionOk = true := by
  decide

theorem split_never_outside (x : AStr) (sep : Option Str) (maxsplit : Int) (r : Bool) (err : Exc)
    (h : Gen.split x sep maxsplit r = .error err) : err = .py .valueError ∧ sep = some [] := by
  rw [split_is_code] at h
  rcases sep with _ | _ | ⟨c, cs⟩
  · cases h
  · cases h; exact ⟨rfl, rfl⟩
  · cases h

/-! ## Concrete values -/

def x0 : AStr :=
  { s := "ab c\nd c".toList,
    fmts := [(0, { add := [⟨0, "31".toList⟩] }), (3, { add := [⟨1, "1".toList⟩] }),
             (6, { rem := [⟨1, "1".toList⟩] }), (8, { rem := [⟨0, "31".toList⟩] })] }

example : Gen.split x0 none (-1) false =
    match x0.splitGen none (-1) false with | .ok l => .ok l | .error e => .error (.py e) := split_is_code ..
example : Gen.split x0 (some " ".toList) 1 true =
    match x0.splitGen (some " ".toList) 1 true with | .ok l => .ok l | .error e => .error (.py e) := split_is_code ..
example : Gen.split x0 (some "c".toList) (-1) false =
    match x0.splitGen (some "c".toList) (-1) false with | .ok l => .ok l | .error e => .error (.py e) :=
  split_is_code ..
example : (x0.splitGen (some "c".toList) (-1) false).toOption.map List.length = some 3 := by
  unfold x0
  simp -proj only [strLitToList]
  decide +kernel
example : Gen.split x0 (some []) (-1) false = .error (.py .valueError) ∧
    x0.splitGen (some []) (-1) false = .error .valueError := ⟨split_is_code .., rfl⟩
example : Gen.splitlines x0 true = .ok (x0.splitlines true) := splitlines_is_code ..
example : Gen.partition x0 " c".toList = .ok (x0.partitionGen " c".toList false) := partition_is_code ..
example : Gen.rpartition x0 " c".toList = .ok (x0.partitionGen " c".toList true) := rpartition_is_code ..
example : Gen.rpartition x0 "zz".toList = .ok (x0, {}, {}) := by
  unfold x0
  simp -proj only [strLitToList]
  decide +kernel

/-- the hypothesis of `split_is_code_of_finds` on a concrete value -/
example : ∀ ps, Py.pySplit x0.s (some " ".toList) 1 true = .ok ps → FindsAll x0.s (gapOf (some " ".toList)) ps 0 :=
  fun _ h => finds_pySplit h

/-- the value itself: four words with the table re-based -/
example : Gen.split x0 none (-1) false = .ok
    [ { s := "ab".toList, fmts := [(0, { add := [⟨0, "31".toList⟩] }), (2, { rem := [⟨0, "31".toList⟩] })] },
      { s := "c".toList,
        fmts := [(0, { add := [⟨0, "31".toList⟩, ⟨1, "1".toList⟩] }), (1, { rem := [⟨0, "31".toList⟩, ⟨1, "1".toList⟩] })] },
      { s := "d".toList,
        fmts := [(0, { add := [⟨0, "31".toList⟩, ⟨1, "1".toList⟩] }), (1, { rem := [⟨1, "1".toList⟩, ⟨0, "31".toList⟩] })] },
      { s := "c".toList, fmts := [(0, { add := [⟨0, "31".toList⟩] }), (1, { rem := [⟨0, "31".toList⟩] })] } ] := by
  unfold x0
  simp -proj only [strLitToList]
  decide +kernel

end C11e

#print axioms C11e.split_is_code
#print axioms C11e.split_is_code_of_finds
#print axioms C11e.splitlines_is_code
#print axioms C11e.partition_is_code
#print axioms C11e.rpartition_is_code
#print axioms C11e.translated
#print axioms C11e.split_never_outside
