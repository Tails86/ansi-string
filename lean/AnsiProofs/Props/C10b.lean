import AnsiProofs.Props.C13b
/-
  Property C10, part b — the delegating `AnsiString` methods, from the source.

  `Gen.ansiString` is generated from the AST of `class AnsiString`.  The query methods of C10
  ("return exactly what str returns for t") are, in the code, one-line delegations to the `str`
  method of the same name on the base text; the case methods rewrite only the text through the `str`
  method of the same name; `zfill`, `expandtabs`, `split`/`rsplit`, the `strip` family, `__str__`,
  `__format__` and `is_optimizable` are one-line calls of another method of the class — which is how
  the hand-written model defines them.  This file proves that the table says exactly that, and what
  a query delegation means for any `str` semantics.

  What the table says of one method is read off its entry by `C13b.lookup_map` (no name occurs
  twice: `C13b.names_nodup`); only `queries_delegate`, which runs a test on eighteen entries, is
  evaluated.
-/
namespace C10b
open Wrap C13b

/-- the query methods of the property statement -/
def queryNames : List String :=
  ["count", "find", "rfind", "index", "rindex", "endswith", "isalnum", "isalpha", "isascii", "isdecimal",
   "isdigit", "isidentifier", "islower", "isnumeric", "isprintable", "isspace", "istitle", "isupper"]

/-- `def m(self, p1, …, pn): return self._s.m(p1, …, pn)` — same name, same arguments, same order -/
def isQueryDelegation (m : WMethod) : Bool :=
  m.body == .strFwd m.name (m.params.map fun p => .param p.name) && m.params.all (·.kind == 0) && m.deco == ""

theorem queries_delegate : ∀ n ∈ queryNames, (lookup Gen.ansiString n).map isQueryDelegation = some true := by
  -- the test comes before the name: it fails at once on a body of another kind, and no name is read
  have h : ∀ n ∈ queryNames, ∃ m ∈ Gen.ansiString, isQueryDelegation m = true ∧ m.name = n := by
    decide +kernel
  intro n hn
  obtain ⟨m, hm, hq, rfl⟩ := h n hn
  rw [lookup_of_mem names_nodup.2 hm]
  exact congrArg some hq

/-- a query delegation returns what `str` returns: for any semantics `strCall` of the `str` methods,
    the method's answer on an object with base text `t` is `strCall name t [the caller's arguments]` -/
theorem query_sem {T V R : Type} (strCall : String → T → List V → R) (ev : String → (String → V) → V)
    (ρ : String → V) (t : T) (m : WMethod) (h : isQueryDelegation m = true) :
    interpStrFwd strCall ev ρ t m.body = some (strCall m.name t (m.params.map fun p => ρ p.name)) := by
  unfold isQueryDelegation at h
  simp only [Bool.and_eq_true, beq_iff_eq] at h
  rw [h.1.1]
  simp [interpStrFwd, List.map_map, Function.comp_def]

/-- the defaults of the bounds are Python's (`start=None`/`0`, `end=None`): same call, same meaning -/
theorem query_signatures :
    (lookup Gen.ansiString "find").map (·.params) = (lookup Gen.ansiString "rfind").map (·.params) ∧
    (lookup Gen.ansiString "find").map (·.params) = (lookup Gen.ansiString "index").map (·.params) ∧
    (lookup Gen.ansiString "find").map (·.params) = (lookup Gen.ansiString "rindex").map (·.params) ∧
    (lookup Gen.ansiString "find").map (·.params) = (lookup Gen.ansiString "count").map (·.params) := by
  have find := lookup_map names_nodup.2 (n := "find") (f := (·.params)) (by repeat constructor)
  exact ⟨find.trans (lookup_map names_nodup.2 (n := "rfind") (f := (·.params)) (by repeat constructor)).symm,
    find.trans (lookup_map names_nodup.2 (n := "index") (f := (·.params)) (by repeat constructor)).symm,
    find.trans (lookup_map names_nodup.2 (n := "rindex") (f := (·.params)) (by repeat constructor)).symm,
    find.trans (lookup_map names_nodup.2 (n := "count") (f := (·.params)) (by repeat constructor)).symm⟩

/-- `len(s)` is `len` of the base text -/
theorem len_delegates : (lookup Gen.ansiString "__len__").map (fun m => (m.params, m.body)) = some ([], .strLen) :=
  lookup_map names_nodup.2 (by repeat constructor)

def caseNames : List String := ["capitalize", "casefold", "lower", "upper", "swapcase", "title"]

/-- each case method is `obj = self if inplace else self.copy(); obj._s = obj._s.<same name>(); return obj`
    — the text becomes `str`'s answer and nothing else of the object is touched (C10 text clause,
    C11 "case conversions keep the settings at every position", C08 in-place switch) -/
theorem case_methods : ∀ n ∈ caseNames,
    (lookup Gen.ansiString n).map (fun m => (m.params, m.body)) =
      some ([⟨"inplace", 0, some "False"⟩], .caseMap n) := by
  intro n hn
  simp only [caseNames, List.mem_cons, List.mem_nil_iff, or_false] at hn
  rcases hn with rfl | rfl | rfl | rfl | rfl | rfl
  all_goals exact lookup_map names_nodup.2 (by repeat constructor)

/-- the `strip` family is `_strip` with the two side flags; `chars` and `inplace` passed on -/
theorem strip_family :
    (lookup Gen.ansiString "lstrip").map (·.body) = some (.viaSelf "_strip"
      [("chars", .param "chars"), ("inplace", .param "inplace"), ("do_lstrip", .const "True"), ("do_rstrip", .const "False")]) ∧
    (lookup Gen.ansiString "rstrip").map (·.body) = some (.viaSelf "_strip"
      [("chars", .param "chars"), ("inplace", .param "inplace"), ("do_lstrip", .const "False"), ("do_rstrip", .const "True")]) ∧
    (lookup Gen.ansiString "strip").map (·.body) = some (.viaSelf "_strip"
      [("chars", .param "chars"), ("inplace", .param "inplace"), ("do_lstrip", .const "True"), ("do_rstrip", .const "True")]) ∧
    (lookup Gen.ansiString "strip").map (·.params) = some [⟨"chars", 0, some "None"⟩, ⟨"inplace", 0, some "False"⟩] ∧
    (lookup Gen.ansiString "lstrip").map (·.params) = some [⟨"chars", 0, some "None"⟩, ⟨"inplace", 0, some "False"⟩] ∧
    (lookup Gen.ansiString "rstrip").map (·.params) = some [⟨"chars", 0, some "None"⟩, ⟨"inplace", 0, some "False"⟩] := by
  refine ⟨?_, ?_, ?_, ?_, ?_, ?_⟩
  all_goals exact lookup_map names_nodup.2 (by repeat constructor)

/-- `split`/`rsplit` are `_split` with the direction flag; `sep=None`, `maxsplit=-1` as for `str` -/
theorem split_family :
    (lookup Gen.ansiString "split").map (fun m => (m.params, m.body)) = some
      ([⟨"sep", 0, some "None"⟩, ⟨"maxsplit", 0, some "-1"⟩],
       .viaSelf "_split" [("sep", .param "sep"), ("maxsplit", .param "maxsplit"), ("r", .const "False")]) ∧
    (lookup Gen.ansiString "rsplit").map (fun m => (m.params, m.body)) = some
      ([⟨"sep", 0, some "None"⟩, ⟨"maxsplit", 0, some "-1"⟩],
       .viaSelf "_split" [("sep", .param "sep"), ("maxsplit", .param "maxsplit"), ("r", .const "True")]) :=
  ⟨lookup_map names_nodup.2 (by repeat constructor),
   lookup_map names_nodup.2 (by repeat constructor)⟩

theorem zfill_is_rjust_zero :
    (lookup Gen.ansiString "zfill").map (fun m => (m.params, m.body)) = some
      ([⟨"width", 0, none⟩, ⟨"inplace", 0, some "False"⟩],
       .viaSelf "rjust" [("width", .param "width"), ("fillchar", .const "'0'"), ("inplace", .param "inplace"),
         ("extend_formatting", .dflt "True")]) :=
  lookup_map names_nodup.2 (by repeat constructor)

/-- "expandtabs replaces each tab by exactly tabsize spaces": it *is* `replace('\t', ' ' * tabsize)` -/
theorem expandtabs_is_replace :
    (lookup Gen.ansiString "expandtabs").map (fun m => (m.params, m.body)) = some
      ([⟨"tabsize", 0, some "8"⟩, ⟨"inplace", 0, some "False"⟩],
       .viaSelf "replace" [("old", .const "'\\t'"), ("new", .other "' ' * tabsize"), ("count", .dflt "-1"),
         ("inplace", .param "inplace")]) :=
  lookup_map names_nodup.2 (by repeat constructor)

/-- `str(s)` is `format(s, None)` is `s.to_str(None)` with the default flags; `is_optimizable` is
    `is_formatting_parsable` -/
theorem render_entry_points :
    (lookup Gen.ansiString "__str__").map (fun m => (m.params, m.body)) = some
      ([], .viaSelf "__format__" [("__format_spec", .const "None")]) ∧
    (lookup Gen.ansiString "__format__").map (fun m => (m.params, m.body)) = some
      ([⟨"__format_spec", 0, none⟩], .viaSelf "to_str" [("format_spec", .param "__format_spec"),
        ("optimize", .dflt "True"), ("reset_start", .dflt "False"), ("reset_end", .dflt "True")]) ∧
    (lookup Gen.ansiString "is_optimizable").map (fun m => (m.params, m.body)) = some
      ([], .viaSelf "is_formatting_parsable" []) :=
  ⟨lookup_map names_nodup.2 (by repeat constructor),
   lookup_map names_nodup.2 (by repeat constructor),
   lookup_map names_nodup.2 (by repeat constructor)⟩

/-- non-vacuity: what `query_sem` says for `find` -/
example {T V R : Type} (strCall : String → T → List V → R) (ev : String → (String → V) → V)
    (ρ : String → V) (t : T) (m : WMethod) (hm : lookup Gen.ansiString "find" = some m) :
    interpStrFwd strCall ev ρ t m.body = some (strCall "find" t [ρ "sub", ρ "start", ρ "end"]) := by
  have hf := lookup_of_mem names_nodup.2 (m := ⟨"find", _, _, _⟩) (by repeat constructor)
  cases hf.symm.trans hm
  exact query_sem strCall ev ρ t _ (by decide +kernel)

end C10b
