import AnsiProofs.Lemmas.Scrub
/-
  Property C15 — `AnsiSetting.valid` is True exactly when the text contains no control-sequence
  terminator (0x40–0x7E); `parsable` exactly when the text is one complete known SGR parameter group
  other than reset; `is_formatting_valid()` / `is_formatting_parsable()` are their conjunction over
  the settings in use; AnsiFormat members, known non-reset codes and in-range helper results are
  valid and parsable.

  The declarative grammar `Grammar.group` is written with the *specification's* tokenizer functions
  (`Term.splitSemi`, `Term.trim`, `Term.isDigit`, `Term.decimal`, `Term.specEffect` of
  `AnsiSpec/Terminal.lean`), not with the model's primitives.
-/
open ScrubL

namespace C15

/-! ## `valid` -/

theorem valid_iff (t : Str) :
    SettingTxt.valid t = true ↔ ∀ c ∈ t, ¬ (0x40 ≤ c.toNat ∧ c.toNat ≤ 0x7E) := by
  have e1 : Gen.termLo = 0x40 := rfl
  have e2 : Gen.termHi = 0x7E := rfl
  simp only [SettingTxt.valid, isTerm, e1, e2, List.all_eq_true, Bool.not_eq_true', Bool.and_eq_false_iff,
    decide_eq_false_iff_not]
  constructor <;> intro h c hc <;> have := h c hc <;> omega

example : SettingTxt.valid "38;2;1;2;3".toList = true := by decide +kernel
example : SettingTxt.valid "1m".toList = false := by decide

/-! ## `parsable` ⇔ the grammar of one SGR parameter group -/

namespace Grammar

/-- the items of a setting text: split on `;`, ASCII whitespace stripped around each item -/
def items (t : Str) : List Str := (Term.splitSemi t).map Term.trim

/-- One complete known SGR parameter group other than reset:
    every item is a non-empty run of ASCII digits, every value is ≤ 255, the first value is a
    known parameter other than 0; 38/48/58 are followed by exactly `5;n` or `2;r;g;b`, every other
    code stands alone. -/
def group (t : Str) : Prop :=
  (∀ it ∈ items t, it ≠ [] ∧ ∀ c ∈ it, Term.isDigit c = true) ∧
  (∀ it ∈ items t, Term.decimal it ≤ 255) ∧
  ∃ first rest, (items t).map Term.decimal = first :: rest ∧
    first ≠ 0 ∧ Term.specEffect first ≠ none ∧
    (if first = 38 ∨ first = 48 ∨ first = 58 then
       (∃ n, rest = [5, n]) ∨ (∃ r g b, rest = [2, r, g, b])
     else rest = [])

end Grammar

theorem parsable_iff (t : Str) : SettingTxt.parsable t = true ↔ Grammar.group t := by
  have hit : Grammar.items t = ScrubL.items t := by
    simp only [Grammar.items, ScrubL.items, Eff.splitSemi_eq]; rfl
  rw [parsable_iff_items]
  unfold Grammar.group groupVals
  rw [hit]
  simp only [Eff.isdigit_iff, Eff.AllDigits, termIsDigit_eq, List.mem_map, forall_exists_index, and_imp,
    forall_apply_eq_imp_iff₂]
  exact Iff.rfl

/-- the table of `AnsiParam` agrees with the specification's code table on 0..255 -/
theorem known_codes_agree : ∀ c : Nat, c ≤ 255 → (ansiParam (c : Int) ≠ none ↔ Term.specEffect c ≠ none) := by
  intro c hc
  have := ansiParam_spec c
  cases h1 : ansiParam (c : Int) <;> cases h2 : Term.specEffect c <;> simp_all

theorem ctrl_fns : Gen.ctrlFns = [([38,5],1), ([38,2],3), ([48,5],1), ([48,2],3), ([58,5],1), ([58,2],3)] :=
  ctrlFns_eq

theorem parsable_valid (t : Str) (h : SettingTxt.parsable t = true) : SettingTxt.valid t = true := by
  rw [parsable_eq, Bool.and_eq_true] at h; exact h.1

example : SettingTxt.parsable "38;5;7".toList = true := by decide +kernel

-- non-vacuity of both directions
example : Grammar.group "38;2;1;2;3".toList := (parsable_iff _).1 (by decide +kernel)
example : Grammar.group " 1 ".toList := (parsable_iff _).1 (by decide +kernel)
example : ¬ Grammar.group "1 m".toList := fun h => absurd ((parsable_iff _).2 h) (by decide +kernel)
example : ¬ Grammar.group "0".toList := fun h => absurd ((parsable_iff _).2 h) (by decide +kernel)
example : ¬ Grammar.group "38;5".toList := fun h => absurd ((parsable_iff _).2 h) (by decide +kernel)
example : ¬ Grammar.group "38;5;256".toList := fun h => absurd ((parsable_iff _).2 h) (by decide +kernel)
example : ¬ Grammar.group "1;2".toList := fun h => absurd ((parsable_iff _).2 h) (by decide +kernel)
example : ¬ Grammar.group "".toList := fun h => absurd ((parsable_iff _).2 h) (by decide +kernel)

/-! ## `is_formatting_valid()` / `is_formatting_parsable()` -/

theorem formatting_valid_iff (x : AStr) :
    x.isFormattingValid = true ↔ ∀ kp ∈ x.fmts, ∀ s ∈ kp.2.add, SettingTxt.valid s.txt = true := by
  simp [AStr.isFormattingValid, List.all_eq_true]

theorem formatting_parsable_iff (x : AStr) :
    x.isFormattingParsable = true ↔ ∀ kp ∈ x.fmts, ∀ s ∈ kp.2.add, SettingTxt.parsable s.txt = true := by
  simp [AStr.isFormattingParsable, List.all_eq_true]

/-! ## Members, codes and helper results are valid and parsable -/

/-- every member text is canonical (`ScrubL.table_rows`, one linear pass), in particular parsable -/
theorem members_parsable : ∀ r ∈ Gen.formatTable, ∀ t ∈ r.2,
    SettingTxt.valid t = true ∧ SettingTxt.parsable t = true := by
  intro r hr t ht
  have hp := canonical_parsable ((row_facts hr).2 t ht)
  exact ⟨parsable_valid t hp, hp⟩

example : ("ALICE_BLUE".toList, ["38;2;240;248;255".toList]) ∈ Gen.formatTable := by
  unfold Gen.formatTable; exact List.mem_cons_self ..

theorem codes_parsable : ∀ c : Nat, c < 256 → c ≠ 0 → c ∉ [38, 48, 58] → ansiParam (c : Int) ≠ none →
    SettingTxt.parsable (Py.natStr c) = true := by
  intro c hc h0 hx hp
  rw [natStr_eq_joinNats, parsable_joinNats (by simp)]
  refine ⟨fun v hv => ?_, c, [], rfl, h0, (known_codes_agree c (by omega)).1 hp, ?_⟩
  · rw [List.mem_singleton.1 hv]; omega
  · rw [if_neg (by simpa using hx)]

example : (1 : Nat) < 256 ∧ (1 : Nat) ≠ 0 ∧ (1 : Nat) ∉ [38, 48, 58] ∧ ansiParam ((1 : Nat) : Int) ≠ none := by
  decide +kernel

/-- `38;…`, `48;…`, `58;…` followed by `5;n` or `2;r;g;b` with values in range -/
theorem ext_group_parsable {c : Nat} (hc : c = 38 ∨ c = 48 ∨ c = 58) {rest : List Nat}
    (hle : ∀ v ∈ rest, v ≤ 255) (hs : (∃ n, rest = [5, n]) ∨ (∃ r g b, rest = [2, r, g, b])) :
    SettingTxt.parsable (Scrub.joinNats (c :: rest)) = true := by
  rw [parsable_joinNats (by simp)]
  refine ⟨fun v hv => ?_, c, rest, rfl, by omega, ?_, by rw [if_pos hc]; exact hs⟩
  · rcases List.mem_cons.1 hv with rfl | hv
    · omega
    · exact hle v hv
  · rcases hc with rfl | rfl | rfl <;> decide

/-- the settings of a colour helper are its parameter group, after `4` or `21` for the two underline
    components (0 FOREGROUND, 1 BACKGROUND, 2 UNDERLINE, 3 DOUBLE_UNDERLINE) -/
theorem colorSettings_parsable {comp : Nat} {is24 : Bool} {args : List Nat} (hc : comp < 4)
    (h : ∀ c, c = 38 ∨ c = 48 ∨ c = 58 →
      SettingTxt.parsable (Scrub.joinNats (c :: (if is24 then 2 else 5) :: args)) = true) :
    ∀ t ∈ Scrub.colorSettings comp is24 args, SettingTxt.parsable t = true := by
  have u1 := codes_parsable 4 (by decide) (by decide) (by decide) (by decide +kernel)
  have u2 := codes_parsable 21 (by decide) (by decide) (by decide) (by decide +kernel)
  have : comp = 0 ∨ comp = 1 ∨ comp = 2 ∨ comp = 3 := by omega
  rcases this with rfl | rfl | rfl | rfl <;> simpa [colorSettings_eq, u1, u2] using h _ (by decide)

/-- `AnsiFormat.rgb(r, g, b, component)` with in-range components: every setting is parsable -/
theorem rgb_helper_parsable (comp r g b : Nat) (hc : comp < 4) (hr : r ≤ 255) (hg : g ≤ 255) (hb : b ≤ 255) :
    ∀ t ∈ Scrub.colorSettings comp true [r, g, b], SettingTxt.parsable t = true :=
  colorSettings_parsable hc fun _ hc' =>
    ext_group_parsable hc' (by simp; omega) (Or.inr ⟨r, g, b, rfl⟩)

example : (2 : Nat) < 4 ∧ (255 : Nat) ≤ 255 ∧ (0 : Nat) ≤ 255 := by decide
example : Scrub.colorSettings 2 true [255, 0, 7] = ["4".toList, "58;2;255;0;7".toList] := by decide +kernel

/-- `AnsiFormat.color256(n, component)` with `n ≤ 255` -/
theorem color256_helper_parsable (comp n : Nat) (hc : comp < 4) (hn : n ≤ 255) :
    ∀ t ∈ Scrub.colorSettings comp false [n], SettingTxt.parsable t = true :=
  colorSettings_parsable hc fun _ hc' =>
    ext_group_parsable hc' (by simp; omega) (Or.inl ⟨n, rfl⟩)

/-- out-of-range helper results are *not* parsable (the range condition is needed) -/
example : SettingTxt.parsable (Scrub.joinNats [38, 5, 256]) = false := by decide +kernel

end C15

#print axioms C15.valid_iff
#print axioms C15.parsable_iff
#print axioms C15.formatting_valid_iff
#print axioms C15.formatting_parsable_iff
#print axioms C15.members_parsable
#print axioms C15.codes_parsable
#print axioms C15.rgb_helper_parsable
#print axioms C15.color256_helper_parsable
