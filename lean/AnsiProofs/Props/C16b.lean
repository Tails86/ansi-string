import AnsiProofs.Props.C16
import AnsiModel.Generated.Wrappers
/-
  Property C16, part b — the loops of `format_matching` / `unformat_matching`, from the source.

  C16.lean states the property over the model's `formatMatching` / `unformatMatching`, which are
  *defined* as a fold of `apply_formatting` / `remove_formatting` over `takeCount count spans`.
  This file closes the gap to the code's loop: `Gen.formatMatchingLoop`, `Gen.unformatMatchingLoop`,
  `Gen.applyForMatch` are generated from the AST of the three methods, `loops_as_modelled` says what
  they contain, and `runMatchLoop_eq_fold` proves that the literal loop — mutable `count`, decrement
  when positive, `break` otherwise — is that fold.
-/
namespace C16b
open Wrap

/-- `elseBreak` does not matter: once `count` is 0 it stays 0. -/
theorem runMatchLoop_eq_fold {X E : Type} (eb : Bool) (step : X → Int × Int → Except E X) :
    ∀ (spans : List (Int × Int)) (count : Int) (x : X),
      runMatchLoop true eb step count spans x = (takeCount count spans).foldlM step x
  | [], count, x => by rw [MatchL.takeCount_nil]; rfl
  | s :: rest, count, x => by
    unfold runMatchLoop
    by_cases h0 : count = 0
    · subst h0
      -- the test fails: the loop breaks, or skips this match and every later one
      rw [if_neg (by omega)]
      cases eb with
      | true => rfl
      | false => exact runMatchLoop_eq_fold false step rest 0 x
    · rw [if_pos (by omega), MatchL.takeCount_cons h0, List.foldlM_cons]
      cases step x s with
      | error e => rfl
      | ok x' =>
        simp only [Bool.true_and, decide_eq_true_eq]
        exact runMatchLoop_eq_fold eb step rest _ x'

/-- without the decrement the loop would format *every* match for a positive `count` — the
    bookkeeping is not redundant -/
theorem without_decrement_differs :
    runMatchLoop (E := Unit) false true (fun (n : Nat) _ => .ok (n + 1)) 1 [(0, 1), (2, 3)] 0 = .ok 2 ∧
    runMatchLoop (E := Unit) true true (fun (n : Nat) _ => .ok (n + 1)) 1 [(0, 1), (2, 3)] 0 = .ok 1 :=
  ⟨rfl, rfl⟩

/-- the loops of the source are the ones modelled: both escape the spec unless `regex`, iterate `re.finditer(matchspec, self._s, IGNORECASE unless
    match_case)` — the matches are searched in the object's own base text —, test
    `count < 0 or count > 0`, decrement a positive count, and break otherwise;
    `format_matching` calls `apply_formatting_for_match(format, match)`, which is
    `apply_formatting(settings, match.start(group), match.end(group))` with `group=0`, topmost;
    `unformat_matching` first turns "no format / `None` among them" into `None` and calls
    `remove_formatting(format, match.start(0), match.end(0))`. -/
theorem loops_as_modelled :
    Gen.formatMatchingLoop = some
      { escapeUnlessRegex := true, noneMeansAll := false, matchVar := "match",
        finditerArgs := ["matchspec", "self._s", "re.IGNORECASE if not match_case else 0"],
        perMatchTest := "count < 0 or count > 0", stepTarget := "apply_formatting_for_match",
        stepArgs := [("settings", .param "format"), ("match_object", .other "match"), ("group", .dflt "0")],
        decrement := true, elseBreak := true } ∧
    Gen.unformatMatchingLoop = some
      { escapeUnlessRegex := true, noneMeansAll := true, matchVar := "match",
        finditerArgs := ["matchspec", "self._s", "re.IGNORECASE if not match_case else 0"],
        perMatchTest := "count < 0 or count > 0", stepTarget := "remove_formatting",
        stepArgs := [("settings", .param "format"), ("start", .other "match.start(0)"), ("end", .other "match.end(0)")],
        decrement := true, elseBreak := true } ∧
    Gen.applyForMatch = some ("apply_formatting",
      [("settings", .param "settings"), ("start", .other "match_object.start(group)"),
       ("end", .other "match_object.end(group)"), ("topmost", .dflt "True")]) :=
  ⟨rfl, rfl, rfl⟩

theorem format_matching_loop (x : AStr) (a : SArg) (spans : List (Int × Int)) (count : Int) (eb : Bool) :
    runMatchLoop true eb
      (fun (acc : AStr) (se : Int × Int) => acc.applyRaw acc.fmts.nextId a (some se.1) (some se.2) true)
      count spans x = x.formatMatching a spans count := by
  rw [runMatchLoop_eq_fold]; rfl

theorem unformat_matching_loop (x : AStr) (a : Option SArg) (spans : List (Int × Int)) (count : Int) (eb : Bool) :
    runMatchLoop true eb
      (fun (acc : AStr) (se : Int × Int) => acc.removeRaw a (some se.1) (some se.2))
      count spans x = x.unformatMatching a spans count := by
  rw [runMatchLoop_eq_fold]; rfl

end C16b
