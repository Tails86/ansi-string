import AnsiModel.Render
import AnsiModel.Generated.Wrappers
/-
  Property C15, part c — `is_formatting_valid` / `is_formatting_parsable` / `_AnsiSettingPoint.__bool__`,
  from the source.  The three are translated by loop idiom (harness/pylist.py: nested
  universal loop "if not …: return False … return True" becomes `all`); the theorems tie them to the
  model's `isFormattingValid`, `isFormattingParsable`, `Point.nonEmpty`.  (`setting.valid` /
  `setting.parsable` themselves are the model's `SettingTxt.valid/parsable`, proved against the
  grammar in C15.lean.)
-/
namespace C15c

theorem translated : Gen.isFormattingValidOk = true ∧ Gen.isFormattingParsableOk = true ∧ Gen.pointBoolOk = true := by
  decide

/-- the two translated loops ask `q` of every setting that *starts* somewhere, none that only stops -/
theorem all_adds (q : Str → Bool) (fmts : Fmts) :
    ((fmts.map (·.2)).all fun fmt => fmt.add.all fun s => !(!(q s.txt))) =
      fmts.all fun kp => kp.2.add.all fun s => q s.txt := by
  simp only [List.all_map, Bool.not_not]
  rfl

theorem valid_is_code (x : AStr) : Gen.isFormattingValid x.fmts = x.isFormattingValid := all_adds _ _

theorem parsable_is_code (x : AStr) : Gen.isFormattingParsable x.fmts = x.isFormattingParsable := all_adds _ _

/-- a marker point is "something" when it starts or stops a setting -/
theorem point_bool_is_code (p : Point) : Gen.pointBool p = p.nonEmpty := rfl

end C15c
