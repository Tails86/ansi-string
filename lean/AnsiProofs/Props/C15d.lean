import AnsiProofs.Lemmas.Scrub
import AnsiProofs.Lemmas.StrLit
import AnsiProofs.Lemmas.PyParse
import AnsiModel.Generated.Methods.ParsePrims
import AnsiModel.Generated.Methods.SettingValid
import AnsiModel.Generated.Methods.SettingToList
import AnsiModel.Generated.Methods.SettingParsable
import AnsiModel.Generated.Methods.SettingInitialParam

/-
  Property C15, part d — the methods `valid`, `to_list`, `parsable`, `get_initial_param` of `class AnsiSetting`
  (ansi_format.py), translated statement by statement (`harness/pyparse.py`), compute what the hand-written
  model says (`SettingTxt.valid`, `.toList`, `.parsable`, `.initialParam` of `AnsiModel/Setting.lean`), and
  none of the places where the Python can raise does.

  `self` is `PyParse.SObj`: the text `_str` and the two attributes `_valid`, `_parsable` the properties keep
  their results in (`Option Bool`, `none` = `hasattr` is False).  A method that assigns attributes returns the
  result *and* the object afterwards; `parsable` calls the translated `valid` (and hands its object on) and the
  translated `to_list`.  What is proved about the memoisation: on the first call (attribute absent) the result
  is the model's value and the attribute afterwards holds exactly that value (`valid_is_code`,
  `parsable_is_code`; every early `return False` is covered: the attribute is set to `False` before anything
  else); later calls return what the attribute holds and leave the object unchanged (`valid_cached`,
  `parsable_cached`); hence on an object whose attributes are absent or right (`Consistent`) any sequence of
  calls gives the model's values (`valid_consistent`, `parsable_consistent`).
  Modelling restriction, as in the model: `str.isdigit`, `int`, `str.strip` on ASCII (`Py.isdigit`, `Py.int`,
  `Py.strip`); `to_list` needs `isdigit v → int(v) = digits of v` (`int_of_isdigit`).

  `namespace C15d.L` mentions nothing generated: each loop of the source is matched against a specification of
  one round (`FindSpec`, `ParsableFnSpec`), which the theorems over `Gen.*` discharge for the generated lambdas.
-/

-- some simp arguments are there for other shapes the source may take
set_option linter.unusedSimpArgs false

namespace C15d
namespace L

theorem bindOk {α β : Type} (a : α) (f : α → Except Exc β) : (Except.ok a : Except Exc α).bind f = f a := rfl

theorem getAttr_some {α : Type} (a : α) : PyParse.getAttr (some a) = .ok a := rfl

/-- `split(sep, 1)` and `split(sep)` start with the same piece -/
theorem splitFirst_head (c : Char) : ∀ s : Str, (PyParse.splitFirst c s).head? = (Py.splitOnChar c s).head?
  | [] => rfl
  | x :: rest => by
    unfold PyParse.splitFirst Py.splitOnChar
    have ih := splitFirst_head c rest
    split
    · rfl
    · cases h1 : PyParse.splitFirst c rest <;> cases h2 : Py.splitOnChar c rest <;> simp_all

theorem splitFirst_ne_nil (c : Char) : ∀ s : Str, PyParse.splitFirst c s ≠ []
  | [] => by simp [PyParse.splitFirst]
  | x :: rest => by
    unfold PyParse.splitFirst
    split
    · simp
    · split <;> simp

/-! ### a loop that returns `False` at the first item meeting a test -/

/-- what a round of such a loop has to do, whatever it looks like; the state is `ret_`: `some r` once the
    function has returned `r` -/
def FindSpec {α : Type} (p : α → Bool) (step : Option Bool → α → Except Exc (Option Bool)) : Prop :=
  (∀ r c, step (some r) c = .ok (some r)) ∧ (∀ c, step none c = .ok (if p c then some false else none))

theorem fold_find {α : Type} {p : α → Bool} {step : Option Bool → α → Except Exc (Option Bool)}
    (h : FindSpec p step) : ∀ l : List α, List.foldlM step none l = .ok (if l.any p then some false else none)
  | [] => rfl
  | c :: l => by
    rw [List.foldlM_cons, h.2]
    cases hp : p c with
    | true =>
      show List.foldlM step (some false) l = _
      rw [ObjL.foldlM_fixed (h.1 false)]; simp [hp]
    | false =>
      show List.foldlM step none l = _
      rw [fold_find h l]; simp [hp]

/-! ### `valid` -/

/-- the model's `isTerm` as arithmetic; however `ord(c) >= ansi_term_ord_range[0] and ord(c) <= ansi_term_ord_range[1]` is
    written, `simp; omega` compares it with this -/
theorem isTerm_iff (c : Char) : isTerm c = true ↔ (Gen.termLo ≤ c.toNat ∧ c.toNat ≤ Gen.termHi) := by
  simp [isTerm]

theorem valid_any (t : Str) : SettingTxt.valid t = !t.any isTerm := by
  unfold SettingTxt.valid
  induction t with
  | nil => rfl
  | cons c t ih => simp only [List.all_cons, List.any_cons, ih, Bool.not_or]

/-! ### `to_list` -/

/-- what the loop of `to_list` appends per piece of the split -/
def piece (v : Str) : Code :=
  if Py.isdigit (Py.strip v) then Code.int (Py.digitsVal (Py.strip v)) else Code.str (Py.strip v)

theorem toList_eq (t : Str) : SettingTxt.toList t = (Py.splitOnChar ';' t).map piece := rfl

/-- on a string `isdigit` accepts, `int` does not raise and gives the value of the digits -/
theorem int_of_isdigit {v : Str} (h : Py.isdigit v = true) : Py.int v = some (Py.digitsVal v : Int) := by
  unfold Py.isdigit at h
  simp only [Bool.and_eq_true, Bool.not_eq_true', List.all_eq_true] at h
  apply Eff.int_digits
  · intro e; rw [e] at h; simp at h
  · exact h.2

/-! ### `parsable` -/

/-- the test of one code in `for code in codes: if not isinstance(code, int) or code < 0 or code > 255` -/
def outOfRange : Code → Bool
  | .int i => decide (i < 0) || decide (i > 255)
  | .str _ => true

theorem range_ok (i : Int) : decide (0 ≤ i ∧ i ≤ 255) = !(decide (i < 0) || decide (i > 255)) := by
  rw [Bool.eq_iff_iff]
  simp only [Bool.and_eq_true, decide_eq_true_eq, Bool.not_eq_true', Bool.or_eq_false_iff, decide_eq_false_iff_not]
  omega

/-- "all codes are ints in 0..255", however the test is written, against "some code is out of range" -/
theorem all_range (codes : List Code) (f : Code → Bool) (hf : ∀ c, f c = !outOfRange c) :
    codes.all f = !codes.any outOfRange := by
  induction codes with
  | nil => rfl
  | cons c codes ih => simp only [List.all_cons, List.any_cons, ih, Bool.not_or, hf]

/-- the state of the translated loop over `_AnsiControlFn`: `(ret_, fn_found, self)` -/
abbrev P := Option Bool × Bool × PyParse.SObj

/-- one round of that loop on a row of the table -/
def fnRound (codes : List Code) (st : P) (row : List Nat × Nat) : P :=
  match st with
  | (some r, f, o) => (some r, f, o)
  | (none, f, o) =>
    if SettingTxt.startsWithFn row.1 codes then
      (some (codes.length == row.1.length + row.2), f, { o with parsable_ := some (codes.length == row.1.length + row.2) })
    else if codes.head? == row.1.head?.map (fun m => Code.int m) then (none, true, o)
    else (none, f, o)

def ParsableFnSpec (codes : List Code) (step : P → List Nat × Nat → Except Exc P) : Prop :=
  ∀ st row, step st row = .ok (fnRound codes st row)

/-- how the loop ends, by the model's `parsableFnLoop`: a `return` inside the loop has stored its value -/
def fnEnd (codes : List Code) (rows : List (List Nat × Nat)) (f : Bool) (o : PyParse.SObj) : P :=
  match SettingTxt.parsableFnLoop codes rows f with
  | (some b, f') => (some b, f', { o with parsable_ := some b })
  | (none, f') => (none, f', o)

theorem fold_parsableFn {codes : List Code} {step : P → List Nat × Nat → Except Exc P} (h : ParsableFnSpec codes step) :
    ∀ (rows : List (List Nat × Nat)) (f : Bool) (o : PyParse.SObj),
      List.foldlM step (none, f, o) rows = .ok (fnEnd codes rows f o)
  | [], f, o => rfl
  | (setup, nargs) :: rows, f, o => by
    rw [List.foldlM_cons, h]
    unfold fnRound fnEnd SettingTxt.parsableFnLoop
    simp only []
    split
    · exact ObjL.foldlM_fixed (fun row => h _ row) rows
    · split
      · exact fold_parsableFn h rows true o
      · exact fold_parsableFn h rows f o

theorem one_beq_natCast (a : Nat) : ((1 : Int) == (a : Int)) = (a == 1) := by
  rw [Bool.eq_iff_iff]; simp only [beq_iff_eq]; omega

theorem natCast_bne_one (a : Nat) : ((a : Int) != (1 : Int)) = !(a == 1) := by
  rw [bne, ObjL.natCast_beq_one]

/-- another way of writing `not l` -/
theorem len_beq_zero {α : Type} (l : List α) : ((l.length : Int) == 0) = l.isEmpty := by
  cases l with
  | nil => rfl
  | cons a t =>
    have h : ¬ (((a :: t).length : Int) = 0) := by simp only [List.length_cons]; omega
    simp only [List.isEmpty_cons, beq_eq_false_iff_ne, ne_eq, h, not_false_eq_true]

theorem paramReset_zero : (Gen.paramReset : Int) = 0 := by decide

end L
open L

theorem translated : (Gen.settingValidOk && Gen.settingToListOk && Gen.settingParsableOk && Gen.settingInitialParamOk) = true := by
  decide

/-- `AnsiSetting.valid` on its first call: with no `_valid` attribute yet the result is the model's value, and
    the attribute afterwards holds exactly that value -/
theorem valid_is_code (t : Str) (pc : Option Bool) :
    Gen.settingValid ⟨t, none, pc⟩ = .ok (SettingTxt.valid t, ⟨t, some (SettingTxt.valid t), pc⟩) := by
  unfold Gen.settingValid
  simp only [Option.isSome_none, Bool.false_eq_true, ↓reduceIte]
  rw [fold_find (p := isTerm) ?spec]
  case spec =>
    constructor
    · intro r c; simp
    · intro c
      simp only [Option.isSome_none, Bool.false_eq_true, ↓reduceIte]
      have hT := isTerm_iff c
      by_cases h : isTerm c = true
      · have h' := hT.mp h
        rw [if_pos (by simp; omega)]; simp [h]
      · have h' : ¬ (Gen.termLo ≤ c.toNat ∧ c.toNat ≤ Gen.termHi) := fun x => h (hT.mpr x)
        rw [if_neg (by simp; omega)]; simp [h]
  rw [valid_any]
  cases t.any isTerm <;> rfl

/-- later calls: with `_valid` holding `b` the result is `b`, the object is unchanged -/
theorem valid_cached (t : Str) (b : Bool) (pc : Option Bool) :
    Gen.settingValid ⟨t, some b, pc⟩ = .ok (b, ⟨t, some b, pc⟩) := by
  unfold Gen.settingValid
  simp [getAttr_some, bindOk]

/-- `AnsiSetting.to_list` (`isdigit`, `int` on ASCII) -/
theorem to_list_is_code (o : PyParse.SObj) : Gen.settingToList o = .ok (SettingTxt.toList o.str) := by
  unfold Gen.settingToList
  simp only [PyParseL.split_sep, bindOk]
  rw [ObjL.foldlM_append (R := fun v => [piece v]) ?spec, toList_eq, List.map_eq_flatMap]
  · rfl
  · intro l v _
    unfold piece
    cases hd : Py.isdigit (Py.strip v) with
    | false => simp
    | true => simp [int_of_isdigit hd]

/-- `AnsiSetting.get_initial_param` -/
theorem initial_param_is_code (o : PyParse.SObj) :
    Gen.settingInitialParam o = .ok (SettingTxt.initialParam o.str) := by
  unfold Gen.settingInitialParam SettingTxt.initialParam
  simp only [PyParseL.split1_sep, bindOk]
  have hh := splitFirst_head ';' o.str
  have hn := splitFirst_ne_nil ';' o.str
  cases h1 : PyParse.splitFirst ';' o.str with
  | nil => exact absurd h1 hn
  | cons v rest =>
    rw [h1] at hh
    cases h2 : Py.splitOnChar ';' o.str with
    | nil => rw [h2] at hh; simp at hh
    | cons v' rest' =>
      rw [h2] at hh
      simp only [List.head?_cons, Option.some.injEq] at hh
      subst hh
      simp only [List.isEmpty_cons, Bool.not_false, Bool.not_true, Bool.false_eq_true, ↓reduceIte, ObjL.getIdx_zero, bindOk]
      cases Py.int v with
      | none => rfl
      | some i => cases h3 : ansiParam i <;> simp [h3]

/-- later calls of `parsable`: with `_parsable` holding `b` the result is `b`, the object is unchanged (`valid`
    is not even asked) -/
theorem parsable_cached (t : Str) (vc : Option Bool) (b : Bool) :
    Gen.settingParsable ⟨t, vc, some b⟩ = .ok (b, ⟨t, vc, some b⟩) := by
  unfold Gen.settingParsable
  simp [getAttr_some, bindOk]

/-- `AnsiSetting.parsable` on its first call: with no `_parsable` attribute yet and a `_valid` attribute that is
    absent or right, the result is the model's value and both attributes afterwards hold the model's values -/
theorem parsable_is_code (t : Str) (vc : Option Bool) (hv : vc = none ∨ vc = some (SettingTxt.valid t)) :
    Gen.settingParsable ⟨t, vc, none⟩ =
      .ok (SettingTxt.parsable t, ⟨t, some (SettingTxt.valid t), some (SettingTxt.parsable t)⟩) := by
  have hval : Gen.settingValid ⟨t, vc, some false⟩ = .ok (SettingTxt.valid t, ⟨t, some (SettingTxt.valid t), some false⟩) := by
    rcases hv with rfl | rfl
    · exact valid_is_code t _
    · exact valid_cached t _ _
  unfold Gen.settingParsable
  simp only [Option.isSome_none, Bool.false_eq_true, ↓reduceIte, hval, valid_cached, bindOk, to_list_is_code]
  rw [ScrubL.parsable_eq]
  cases hvt : SettingTxt.valid t with
  | false => simp
  | true =>
    simp only [Bool.not_true, Bool.false_eq_true, ↓reduceIte, Bool.true_and]
    generalize SettingTxt.toList t = codes
    try simp only [len_beq_zero]
    cases codes with
    | nil => simp [ScrubL.parsableCodes]
    | cons c0 rest =>
      -- the two loops first, whatever surrounds them
      simp only [ObjL.getIdx_zero, bindOk]
      rw [fold_find (p := outOfRange) ?spec1, fold_parsableFn (codes := c0 :: rest) ?spec2]
      case spec1 =>
        constructor
        · intro r c; simp
        · intro c
          cases c with
          | str s => simp [outOfRange]
          | int i => by_cases h1 : i < 0 <;> by_cases h2 : i > 255 <;> simp [outOfRange, h1, h2]
      case spec2 =>
        intro st row
        obtain ⟨r, f, o⟩ := st
        obtain ⟨setup, nargs⟩ := row
        unfold fnRound
        cases r with
        | some r => simp
        | none =>
          simp only [Option.isSome_none, Bool.false_eq_true, ↓reduceIte, getAttr_some, bindOk, ObjL.natCast_beq]
          cases setup with
          | nil => simp [SettingTxt.startsWithFn] <;> (rw [Bool.eq_iff_iff]; simp only [beq_iff_eq]; omega)
          | cons m ms =>
            simp only [PyParseL.getIdx_head, bindOk]
            by_cases hs : SettingTxt.startsWithFn (m :: ms) (c0 :: rest) = true
            · simp [hs, ObjL.natCast_beq] <;> (rw [Bool.eq_iff_iff]; simp only [beq_iff_eq]; omega)
            · simp only [hs, Bool.false_eq_true, ↓reduceIte, Bool.not_false]
              by_cases hm : c0 = Code.int (m : Int)
              · simp [hm]
              · have hm' : ¬ (Code.int (m : Int) = c0) := fun h => hm h.symm
                simp [hm, hm']
      -- the model, with the same two loops
      unfold ScrubL.parsableCodes
      simp only []
      rw [all_range _ _ (fun c => by cases c <;> simp only [outOfRange, range_ok, Bool.not_true])]
      generalize (c0 :: rest).any outOfRange = anyb
      simp only [fnEnd, ObjL.natCast_beq_one, one_beq_natCast, natCast_bne_one, Bool.not_not]
      -- what is left: the tests between the loops, in the order of the source
      by_cases h0 : c0 = Code.int 0
      · subst h0; simp [paramReset_zero, bindOk]
      · have h0' : ¬ (Code.int 0 = c0) := fun h => h0 h.symm
        cases anyb with
        | true => simp [h0, h0', paramReset_zero, bindOk]
        | false =>
          cases c0 with
          | str s0 => simp [h0', paramReset_zero, bindOk, PyParse.ansiParamCode]
          | int i0 =>
            cases hp : ansiParam i0 with
            | none => simp [h0, h0', hp, paramReset_zero, bindOk, PyParse.ansiParamCode]
            | some e =>
              rcases hf : SettingTxt.parsableFnLoop (Code.int i0 :: rest) Gen.ctrlFns false with ⟨_ | b, _ | _⟩ <;>
                simp [h0, h0', hp, paramReset_zero, bindOk, PyParse.ansiParamCode, getAttr_some, ObjL.natCast_beq_one]

/-! ## Any sequence of calls -/

/-- the cache attributes are absent or hold the model's values -/
def Consistent (o : PyParse.SObj) : Prop :=
  (o.valid_ = none ∨ o.valid_ = some (SettingTxt.valid o.str)) ∧
  (o.parsable_ = none ∨ o.parsable_ = some (SettingTxt.parsable o.str))

/-- a new object (`__init__` assigns `_str` only) is consistent -/
theorem consistent_new (t : Str) : Consistent ⟨t, none, none⟩ := ⟨Or.inl rfl, Or.inl rfl⟩

example : Consistent ⟨"38;5;214".toList, some true, none⟩ := ⟨Or.inr (by decide +kernel), Or.inl rfl⟩

theorem valid_consistent (o : PyParse.SObj) (h : Consistent o) :
    ∃ o', Gen.settingValid o = .ok (SettingTxt.valid o.str, o') ∧ o'.str = o.str ∧ Consistent o' := by
  obtain ⟨t, vc, pc⟩ := o
  obtain ⟨h1, h2⟩ := h
  simp only at h1 h2
  rcases h1 with rfl | rfl
  · exact ⟨_, valid_is_code t pc, rfl, ⟨Or.inr rfl, h2⟩⟩
  · exact ⟨_, valid_cached t _ pc, rfl, ⟨Or.inr rfl, h2⟩⟩

theorem parsable_consistent (o : PyParse.SObj) (h : Consistent o) :
    ∃ o', Gen.settingParsable o = .ok (SettingTxt.parsable o.str, o') ∧ o'.str = o.str ∧ Consistent o' := by
  obtain ⟨t, vc, pc⟩ := o
  obtain ⟨h1, h2⟩ := h
  simp only at h1 h2
  rcases h2 with rfl | rfl
  · exact ⟨_, parsable_is_code t vc h1, rfl, ⟨Or.inr rfl, Or.inr rfl⟩⟩
  · exact ⟨_, parsable_cached t vc _, rfl, ⟨h1, Or.inr rfl⟩⟩

/-! ## Nothing raises -/

theorem valid_never_raises (o : PyParse.SObj) (h : Consistent o) (err : Exc) : Gen.settingValid o ≠ .error err := by
  obtain ⟨o', ho, _⟩ := valid_consistent o h
  rw [ho]; intro e; cases e

theorem parsable_never_raises (o : PyParse.SObj) (h : Consistent o) (err : Exc) : Gen.settingParsable o ≠ .error err := by
  obtain ⟨o', ho, _⟩ := parsable_consistent o h
  rw [ho]; intro e; cases e

theorem to_list_never_raises (o : PyParse.SObj) (err : Exc) : Gen.settingToList o ≠ .error err := by
  rw [to_list_is_code]; intro e; cases e

theorem initial_param_never_raises (o : PyParse.SObj) (err : Exc) : Gen.settingInitialParam o ≠ .error err := by
  rw [initial_param_is_code]; intro e; cases e

/-! ## Concrete values -/

private def run (s : String) : Except Exc (Bool × PyParse.SObj) := Gen.settingParsable ⟨s.toList, none, none⟩
private def after (s : String) (v p : Bool) : PyParse.SObj := ⟨s.toList, some v, some p⟩

example : run "1" = .ok (true, after "1" true true) := by
  simp only [run, after, strLitToList]
  decide +kernel
example : run "38;5;214" = .ok (true, after "38;5;214" true true) := by
  simp only [run, after, strLitToList]
  decide +kernel
/-- a function cut short; two settings in one; a sign; a terminator inside; RESET -/
example : run "38;5" = .ok (false, after "38;5" true false) := by
  simp only [run, after, strLitToList]
  decide +kernel
example : run "1;31" = .ok (false, after "1;31" true false) := by
  simp only [run, after, strLitToList]
  decide +kernel
example : run " 1" = .ok (true, after " 1" true true) := by
  simp only [run, after, strLitToList]
  decide +kernel
example : run "+1" = .ok (false, after "+1" true false) := by
  simp only [run, after, strLitToList]
  decide +kernel
example : run "3H" = .ok (false, after "3H" false false) := by
  simp only [run, after, strLitToList]
  decide +kernel
example : run "0" = .ok (false, after "0" true false) := by
  simp only [run, after, strLitToList]
  decide +kernel
example : run "38;2;1;2;300" = .ok (false, after "38;2;1;2;300" true false) := by
  simp only [run, after, strLitToList]
  decide +kernel
/-- the second call answers from the attribute, whatever it holds -/
example : Gen.settingParsable (after "1" true true) = .ok (true, after "1" true true) := by
  simp only [after, strLitToList]
  decide +kernel
example : Gen.settingParsable ⟨"1".toList, none, some false⟩ = .ok (false, ⟨"1".toList, none, some false⟩) := by
  simp only [strLitToList]
  decide +kernel
/-- a wrong `_valid` attribute is believed: the hypothesis of `parsable_is_code` is needed -/
example : Gen.settingParsable ⟨"1".toList, some false, none⟩ = .ok (false, ⟨"1".toList, some false, some false⟩) := by
  decide +kernel

example : Gen.settingValid ⟨"3H".toList, none, none⟩ = .ok (false, ⟨"3H".toList, some false, none⟩) := by
  simp only [strLitToList]
  decide +kernel
example : Gen.settingValid ⟨"38;5;214".toList, none, none⟩ = .ok (true, ⟨"38;5;214".toList, some true, none⟩) := by
  simp only [strLitToList]
  decide +kernel
/-- the ends of the terminator range 0x40..0x7E -/
example : Gen.settingValid ⟨"1@".toList, none, none⟩ = .ok (false, ⟨"1@".toList, some false, none⟩) := by
  simp only [strLitToList]
  decide +kernel
example : Gen.settingValid ⟨"1~".toList, none, none⟩ = .ok (false, ⟨"1~".toList, some false, none⟩) := by
  simp only [strLitToList]
  decide +kernel
example : Gen.settingValid ⟨"1?".toList, none, none⟩ = .ok (true, ⟨"1?".toList, some true, none⟩) := by
  simp only [strLitToList]
  decide +kernel
example : Gen.settingValid ⟨['1', Char.ofNat 127], none, none⟩ = .ok (true, ⟨['1', Char.ofNat 127], some true, none⟩) := by
  decide +kernel
/-- the ends of the range of a code -/
example : run "38;5;255" = .ok (true, after "38;5;255" true true) := by
  simp only [run, after, strLitToList]
  decide +kernel
example : run "38;5;256" = .ok (false, after "38;5;256" true false) := by
  simp only [run, after, strLitToList]
  decide +kernel
example : Gen.settingToList ⟨"38; 5 ;+1;x;;07".toList, none, none⟩ =
    .ok [.int 38, .int 5, .str "+1".toList, .str "x".toList, .str [], .int 7] := by
  simp only [strLitToList]
  decide +kernel
example : Gen.settingInitialParam ⟨"38;5;214".toList, none, none⟩ = .ok (some (13, 2)) := by
  simp only [strLitToList]
  decide +kernel
example : Gen.settingInitialParam ⟨" +1 ;x".toList, none, none⟩ = .ok (some (2, 2)) := by
  simp only [strLitToList]
  decide +kernel
example : Gen.settingInitialParam ⟨"3H".toList, none, none⟩ = .ok none := by
  simp only [strLitToList]
  decide +kernel
example : Gen.settingInitialParam ⟨"256".toList, none, none⟩ = .ok none := by
  simp only [strLitToList]
  decide +kernel

/-- the outcomes the theorems exclude are real ones of the primitives -/
example : PyParse.getAttr (none : Option Bool) = .error .outside := by decide
example : Py.getIdx ([] : List Code) 0 = .error (.py .indexError) := by decide
example : PyParse.split1 "a".toList [] = .error (.py .valueError) := by decide

end C15d

#print axioms C15d.translated
#print axioms C15d.valid_is_code
#print axioms C15d.valid_cached
#print axioms C15d.to_list_is_code
#print axioms C15d.parsable_is_code
#print axioms C15d.parsable_cached
#print axioms C15d.initial_param_is_code
#print axioms C15d.valid_consistent
#print axioms C15d.parsable_consistent
#print axioms C15d.valid_never_raises
#print axioms C15d.parsable_never_raises
#print axioms C15d.to_list_never_raises
#print axioms C15d.initial_param_never_raises
