import AnsiProofs.Props.C13
import AnsiProofs.Props.C13b
import AnsiModel.SetAnsi
import AnsiProofs.Lemmas.StrLit
/-
  Property C13, part c — "The str payload of an AnsiStr … always equals its own rendering", for the
  values Python itself builds: `copy.copy`, `copy.deepcopy`, `pickle`.

  An `AnsiStr` is an instance of a `str` subclass with an instance `__dict__` (`_s`).  Python's copy
  protocol (`object.__reduce_ex__`, protocol ≥ 2) rebuilds such an object as

      obj = cls.__new__(cls, *self.__getnewargs__());  obj.__dict__.update(state)      -- state: `_s`

  so the *payload* of the copy is whatever `__new__` computes from the new-args, while `_s` is the
  (copied) wrapped object of the original.  With `str.__getnewargs__`, which is `(payload,)`,
  `AnsiStr.__new__` *parses* the payload and renders the result — the original payload only when
  rendering is a fixed point of parse-then-render.  It is not for settings that do not survive
  parsing (`'[77'`, a repeated `bold`): defect D36, the copy of `AnsiStr('abc', '[77', 'bold', 'bold')`
  had payload `ESC[1mabc ESC[m` and rendering `ESC[77;1;1mabc ESC[m`.  The repaired code defines
  `__getnewargs__` as `(self._s,)`, so `__new__` wraps (a copy of) the AnsiString.

  The body of `__getnewargs__` is read from the generated table `Gen.ansiStr` (`code_newargs`).
  Without the method — or with any other body — `newFrom` falls back to what `str` does, and
  `copy_inv` is not provable (`without_newargs_stale`).
-/
namespace C13c
open C13 C13.AnsiStrW Wrap

/-- the object `cls.__new__(cls, *a.__getnewargs__())` builds, by the table's `__getnewargs__`:
    `(self._s,)` → `AnsiStr(<AnsiString>)`; anything else → `str`'s `(payload,)` → `AnsiStr(<str>)`,
    which parses the text (`set_ansi_str`) -/
def newFrom (tbl : List WMethod) (a : AnsiStrW) : AnsiStrW :=
  match (lookup tbl "__getnewargs__").map (·.body) with
  | some WBody.newargsInner => mk' a.val
  | _ => mk' (AStr.setAnsi a.payload).1

/-- `copy.copy(a)` / `copy.deepcopy(a)` / `pickle.loads(pickle.dumps(a))`: the new object, with `_s` put back -/
def pyCopy (tbl : List WMethod) (a : AnsiStrW) : AnsiStrW := ⟨a.val, (newFrom tbl a).payload⟩

/-- the code's `__getnewargs__` is `return (self._s,)` -/
theorem code_newargs : (lookup Gen.ansiStr "__getnewargs__").map (·.body) = some WBody.newargsInner :=
  C13b.lookup_map C13b.names_nodup.1 (by repeat constructor)

theorem newFrom_code (a : AnsiStrW) : newFrom Gen.ansiStr a = mk' a.val := by
  unfold newFrom
  rw [code_newargs]

/-- a copy made by Python satisfies the payload invariant — whatever the original was -/
theorem copy_inv (a : AnsiStrW) : C13.Inv (pyCopy Gen.ansiStr a) := by
  unfold pyCopy C13.Inv
  rw [newFrom_code]
  rfl

/-- … and it is the original, when the original satisfied it -/
theorem copy_eq (a : AnsiStrW) (h : C13.Inv a) : pyCopy Gen.ansiStr a = a := by
  unfold pyCopy
  rw [newFrom_code]
  cases a with
  | mk v p => cases (show p = v.str from h); rfl

/-- everything that can be built, Python's copies included -/
inductive ReachC : AnsiStrW → Prop
  | base {a : AnsiStrW} : Reach a → ReachC a
  | copy {a : AnsiStrW} : ReachC a → ReachC (pyCopy Gen.ansiStr a)
  | lift (f : AStr → AStr) {a : AnsiStrW} : ReachC a → ReachC (a.lift f)
  | lift2 (f : AStr → AStr → AStr) {a b : AnsiStrW} : ReachC a → ReachC b → ReachC (lift2 f a b)
  | liftE (f : AStr → Except PyErr AStr) {a b : AnsiStrW} : ReachC a → a.liftE f = .ok b → ReachC b
  | liftL (f : AStr → List AStr) {a b : AnsiStrW} : ReachC a → b ∈ a.liftL f → ReachC b
  | rewrap {a : AnsiStrW} : ReachC a → ReachC a.rewrap

/-- "The str payload of an AnsiStr always equals its own rendering" — copies and unpickled values too -/
theorem payload_invariant_copy {a : AnsiStrW} (h : ReachC a) : C13.Inv a := by
  induction h with
  | base h => exact payload_invariant h
  | copy _ _ => exact copy_inv _
  | lift f _ _ => exact inv_lift f _
  | lift2 f _ _ _ _ => exact inv_lift2 f _ _
  | liftE f _ h _ => exact inv_liftE f _ _ h
  | liftL f _ h _ => exact inv_liftL f _ _ h
  | rewrap _ ih => exact inv_rewrap _ ih

/-- the defect D36, in the model: `'abc'` with the settings `77`, `1`, `1` from index 0 to 3 -/
def ex77 : AStr :=
  { s := "abc".toList,
    fmts := [(0, { add := [⟨0, "77".toList⟩, ⟨1, "1".toList⟩, ⟨2, "1".toList⟩] }),
             (3, { rem := [⟨0, "77".toList⟩, ⟨1, "1".toList⟩, ⟨2, "1".toList⟩] })] }

example : (mk' ex77).payload = "\x1b[77;1;1mabc\x1b[m".toList := by
  simp only [ex77, strLitToList]
  decide +kernel

/-- without `__getnewargs__` in the table the copy is stale: parse-then-render of
    `ESC[77;1;1mabc ESC[m` is `ESC[1mabc ESC[m` -/
theorem without_newargs_stale : ¬ C13.Inv (pyCopy [] (mk' ex77)) := by
  simp only [C13.Inv, ex77, strLitToList]
  decide +kernel

example : (pyCopy [] (mk' ex77)).payload = "\x1b[1mabc\x1b[m".toList := by
  simp only [ex77, strLitToList]
  decide +kernel
example : C13.Inv (pyCopy Gen.ansiStr (mk' ex77)) := copy_inv _
example : ReachC (pyCopy Gen.ansiStr ((mk' ex77).lift AStr.clearFormatting)) :=
  ReachC.copy (ReachC.base (Reach.lift _ (Reach.mk _)))

end C13c

#print axioms C13c.code_newargs
#print axioms C13c.copy_inv
#print axioms C13c.copy_eq
#print axioms C13c.payload_invariant_copy
#print axioms C13c.without_newargs_stale
