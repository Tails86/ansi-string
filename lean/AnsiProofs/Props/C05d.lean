import AnsiModel.Generated.Methods.IaddCore
import AnsiProofs.Props.C07c
import AnsiProofs.Lemmas.Concat

/-
  Property C05, part d — the *generated* (statement-by-statement translated) body of
  `AnsiString.__iadd__` (`Gen.iaddCore` of `AnsiModel/Generated/Methods/IaddCore.lean`: everything after the right
  operand has been normalised to an AnsiString) against the hand-written model `AStr.iadd`
  (`iaddStep`, `retarget`, `findRefs`, `sameRefs` of `AnsiModel/Concat.lean`).

  Result (`iaddCore_eq`): when the table of the right operand is sorted,

      Gen.iaddCore a b.s b.fmts = if coreOk a b then .ok (a.iadd b) else .error (.py .indexError)

  where `L.coreOk` is a Boolean function of the *model*: "in every retarget loop
  (`for find_idx, add_idx in reversed(finds)`) the indices `replace_settings[find_idx]`,
  `….rem[add_idx] = …`, `del find_settings[find_idx]`, `del replace_settings[find_idx]` stay inside their
  lists".  The model's `retarget` is total (`match acc.2.2[fa.1]? with | none => acc`, `List.set`,
  `List.eraseIdx`); the code raises IndexError.  Hence the code returns the model's value or raises
  IndexError, never anything else (`iaddCore_sound`, `iaddCore_outcomes`); it returns exactly when `coreOk`
  (`iaddCore_is_code_partial`), in particular when no stop list of the incoming table holds an object twice
  (`iaddCore_is_code_nodup`; `L.rtOk_of_nodup`: `find_settings` and `replace_settings` are equally long
  throughout, every `find_idx` occurs once in `finds`, and they are walked from the back), hence for `WF b`
  (`iaddCore_is_code`).  `bBad` below is a sorted, ill-formed incoming table (one object twice in a stop
  list) on which the code does raise; `bDup` one on which it does not ("no object twice" is only sufficient).

  Two things to note:
  * nothing is asked of `self`: not `WF a`, not even `SortedKeys a.fmts` (`get?`, `set`, `modify`, `erase`
    walk the association list the same way up to the key, so the translated statements and the model agree
    on every table; the hypothesis `hsa` of `iaddCore_sound`/`iaddCore_outcomes` is not used);
  * `self.ansi_settings_at(shift - 1)` is evaluated by the code on the table *as it is in the round*, by the
    model on the table of `a`.  They agree because the value is only looked at when `key == shift`, i.e. at
    the incoming key 0, which in a sorted incoming table can only be the first round — where the table is
    still the one of `a` (`L.fold_outer`; away from the seam `L.iaddStep_irrel`).  This is where
    `SortedKeys b.fmts` is used, and the only place.

  Each of the two loops is handled by a fold lemma for an *arbitrary* loop body meeting a spec predicate
  (`L.InnerSpec`/`L.fold_inner` for the retarget loop, `L.OuterSpec`/`L.fold_outer` for the loop over the
  incoming table), so that `L` does not mention `Gen.iaddCore`; `iaddCore_eq` discharges the specs for the
  generated lambdas.
-/

namespace C05d
namespace L
open ObjL C06d.L C07c.L ConcatL

theorem set_set_self (f : Fmts) (k : Nat) (p q : Point) :
    Obj.set (f.set k p) (k : Int) q = .ok (f.set k q) := by
  rw [set_nat, set_set]

/-- the key of a round, `key + shift`, as a natural number -/
theorem key_cast (k n : Nat) : (k : Int) + (n : Int) = ((k + n : Nat) : Int) := by omega

theorem key_eq_shift (k n : Nat) : (((k + n : Nat) : Int) = (n : Int)) ↔ k = 0 := by omega

theorem key_eq_shift' (k n : Nat) : ((n : Int) = ((k + n : Nat) : Int)) ↔ k = 0 := by
  rw [eq_comm, key_eq_shift]

/-! ## The retarget loop `for find_idx, add_idx in reversed(finds)` -/

/-- the state of both translated loops: the object, `find_settings`, `replace_settings` -/
abbrev St := AStr × List Setting × List Setting

/-- does one round of the retarget loop end normally: `replace_settings[find_idx]`, `….rem[add_idx] = …`,
    `del find_settings[find_idx]`, `del replace_settings[find_idx]` all inside their lists -/
def rtStepOk (acc : List Setting × List Setting × List Setting) (fa : Nat × Nat) : Bool :=
  decide (fa.1 < acc.2.2.length ∧ fa.1 < acc.2.1.length ∧ fa.2 < acc.1.length)

def rtOk : List Setting × List Setting × List Setting → List (Nat × Nat) → Bool
  | _, [] => true
  | acc, fa :: rest => rtStepOk acc fa && rtOk (rtStep acc fa) rest

theorem rtOk_cons (acc : List Setting × List Setting × List Setting) (fa : Nat × Nat) (rest : List (Nat × Nat)) :
    rtOk acc (fa :: rest) = (rtStepOk acc fa && rtOk (rtStep acc fa) rest) := rfl

/-- one round of the retarget loop at the key `K`, whatever it looks like -/
def InnerSpec (s : Str) (K : Nat) (istep : St → Int × Int → Except Exc St) : Prop :=
  ∀ (F : Fmts) (p : Point) (find repl : List Setting) (i j : Nat), F.get? K = some p →
    istep (⟨s, F⟩, find, repl) ((i : Int), (j : Int)) =
      if rtStepOk (p.rem, find, repl) (i, j) then
        .ok (⟨s, F.set K { p with rem := (rtStep (p.rem, find, repl) (i, j)).1 }⟩,
             (rtStep (p.rem, find, repl) (i, j)).2.1, (rtStep (p.rem, find, repl) (i, j)).2.2)
      else .error (.py .indexError)

theorem fold_inner {s : Str} {K : Nat} {istep : St → Int × Int → Except Exc St}
    (h : InnerSpec s K istep) (add : List Setting) :
    ∀ (finds : List (Nat × Nat)) (F : Fmts) (rem find repl : List Setting),
      List.foldlM istep (⟨s, F.set K ⟨add, rem⟩⟩, find, repl)
          (finds.map (fun ab => ((ab.1 : Int), (ab.2 : Int)))) =
        if rtOk (rem, find, repl) finds then
          .ok (⟨s, F.set K ⟨add, (finds.foldl rtStep (rem, find, repl)).1⟩⟩,
               (finds.foldl rtStep (rem, find, repl)).2.1, (finds.foldl rtStep (rem, find, repl)).2.2)
        else .error (.py .indexError) := by
  intro finds
  induction finds with
  | nil => intro F rem find repl; rfl
  | cons fa finds ih =>
    intro F rem find repl
    obtain ⟨i, j⟩ := fa
    rw [List.map_cons, List.foldlM_cons, h _ _ _ _ _ _ (Fmts.get?_set_self F K ⟨add, rem⟩)]
    rw [rtOk_cons, List.foldl_cons]
    cases hok : rtStepOk (rem, find, repl) (i, j) with
    | false => rfl
    | true =>
      simp only [if_true, Bool.true_and, set_set]
      show List.foldlM istep _ _ = _
      rw [ih F]

/-! ## One round of the loop over the incoming table -/

/-- `self.ansi_settings_at(shift - 1)` on the table as it is in the round -/
def actPrevOf (s : Str) (n : Nat) (F : Fmts) : List Setting :=
  AStr.ansiSettingsAt ⟨s, F⟩ ((n : Int) - 1)

/-- away from the seam a round does not look at `ansi_settings_at(shift - 1)` -/
theorem iaddStep_irrel (n : Nat) (A A' later : List Setting) (st : IaddSt) (kp : Nat × Point)
    (h : kp.1 ≠ 0) : iaddStep n A later st kp = iaddStep n A' later st kp := by
  have e : ¬ (kp.1 + n = n) := by omega
  simp only [iaddStep, e, false_and, if_false]

/-- does one round of the loop over the incoming table end normally (`false` = IndexError in the
    retarget loop) -/
def roundOk (n : Nat) (st : IaddSt) (kp : Nat × Point) : Bool :=
  match st.f.get? (kp.1 + n) with
  | some _ => true
  | none => rtOk (kp.2.rem, st.find, st.repl) (findRefs st.find kp.2.rem).reverse

/-- the model's state as the state of the translated loop -/
def pack (s : Str) (st : IaddSt) : St := (⟨s, st.f⟩, st.find, st.repl)

/-- What one round of `for key, settings_add, settings_rem in incoming_fmts` has to do, whatever it looks
    like (`n` = `shift`, `s` the text of `self`, `later` the start markers of the incoming table away from
    its key 0): -/
structure OuterSpec (n : Nat) (s : Str) (later : List Setting)
    (step : St → Int × List Setting × List Setting → Except Exc St) : Prop where
  /-- `key` not in the table: new point, then the retarget loop — the only place an exception can come from -/
  absent : ∀ (F : Fmts) (find repl : List Setting) (k : Nat) (add rem : List Setting),
    F.get? (k + n) = none →
    step (⟨s, F⟩, find, repl) ((k : Int), add, rem) =
      if rtOk (rem, find, repl) (findRefs find rem).reverse then
        .ok (⟨s, F.set (k + n) ⟨add, (retarget rem find repl (findRefs find rem)).1⟩⟩,
             (retarget rem find repl (findRefs find rem)).2.1,
             (retarget rem find repl (findRefs find rem)).2.2)
      else .error (.py .indexError)
  /-- the seam merge that leaves nothing at the key -/
  mergeDel : ∀ (F : Fmts) (find repl : List Setting) (k : Nat) (add rem : List Setting) (mine : Point),
    F.get? (k + n) = some mine → k = 0 → mergeCond (actPrevOf s n F) later mine add = true →
    ((!({ mine with rem := mine.rem.drop add.length } : Point).nonEmpty) = true ∧ rem.isEmpty = true) →
    step (⟨s, F⟩, find, repl) ((k : Int), add, rem) =
      .ok (⟨s, F.erase (k + n)⟩, add, mine.rem.take add.length)
  /-- the seam merge that leaves something at the key -/
  mergeKeep : ∀ (F : Fmts) (find repl : List Setting) (k : Nat) (add rem : List Setting) (mine : Point),
    F.get? (k + n) = some mine → k = 0 → mergeCond (actPrevOf s n F) later mine add = true →
    ¬ ((!({ mine with rem := mine.rem.drop add.length } : Point).nonEmpty) = true ∧ rem.isEmpty = true) →
    step (⟨s, F⟩, find, repl) ((k : Int), add, rem) =
      .ok (⟨s, F.set (k + n) { add := mine.add, rem := mine.rem.drop add.length ++ rem }⟩, add,
           mine.rem.take add.length)
  /-- no merge: both lists of the point are extended -/
  extend : ∀ (F : Fmts) (find repl : List Setting) (k : Nat) (add rem : List Setting) (mine : Point),
    F.get? (k + n) = some mine → ¬ (k = 0 ∧ mergeCond (actPrevOf s n F) later mine add = true) →
    step (⟨s, F⟩, find, repl) ((k : Int), add, rem) =
      .ok (⟨s, F.set (k + n) { add := mine.add ++ add, rem := mine.rem ++ rem }⟩, find, repl)

/-- the four clauses in one: the round is the model's `iaddStep`, or IndexError -/
theorem OuterSpec.round {n : Nat} {s : Str} {later : List Setting}
    {step : St → Int × List Setting × List Setting → Except Exc St} (h : OuterSpec n s later step)
    (F : Fmts) (find repl : List Setting) (k : Nat) (add rem : List Setting) :
    step (⟨s, F⟩, find, repl) ((k : Int), add, rem) =
      if roundOk n ⟨F, find, repl⟩ (k, ⟨add, rem⟩) then
        .ok (pack s (iaddStep n (actPrevOf s n F) later ⟨F, find, repl⟩ (k, ⟨add, rem⟩)))
      else .error (.py .indexError) := by
  cases hg : F.get? (k + n) with
  | none =>
    rw [h.absent F find repl k add rem hg]
    simp only [roundOk, hg, iaddStep, pack]
  | some mine =>
    have hok : roundOk n ⟨F, find, repl⟩ (k, ⟨add, rem⟩) = true := by simp only [roundOk, hg]
    rw [hok, if_pos rfl, iaddStep_some n _ later ⟨F, find, repl⟩ k ⟨add, rem⟩ mine hg]
    by_cases hm : k = 0 ∧ mergeCond (actPrevOf s n F) later mine add = true
    · rw [if_pos hm]
      by_cases hd : ((!({ mine with rem := mine.rem.drop add.length } : Point).nonEmpty) = true ∧ rem.isEmpty = true)
      · rw [if_pos hd, h.mergeDel F find repl k add rem mine hg hm.1 hm.2 hd]; rfl
      · rw [if_neg hd, h.mergeKeep F find repl k add rem mine hg hm.1 hm.2 hd]; rfl
    · rw [if_neg hm, h.extend F find repl k add rem mine hg hm]; rfl

theorem ite_and_else {α : Sort _} (c d : Prop) [Decidable c] [Decidable d] (x y : α) :
    (if c then (if d then x else y) else y) = if c ∧ d then x else y := by
  by_cases hc : c <;> by_cases hd : d <;> simp [hc, hd]

/-- the three clauses for a key that is present, from one equation for the round -/
theorem OuterSpec.of_present {n : Nat} {s : Str} {later : List Setting}
    {step : St → Int × List Setting × List Setting → Except Exc St}
    (absent : ∀ (F : Fmts) (find repl : List Setting) (k : Nat) (add rem : List Setting),
      F.get? (k + n) = none →
      step (⟨s, F⟩, find, repl) ((k : Int), add, rem) =
        if rtOk (rem, find, repl) (findRefs find rem).reverse then
          .ok (⟨s, F.set (k + n) ⟨add, (retarget rem find repl (findRefs find rem)).1⟩⟩,
               (retarget rem find repl (findRefs find rem)).2.1,
               (retarget rem find repl (findRefs find rem)).2.2)
        else .error (.py .indexError))
    (present : ∀ (F : Fmts) (find repl : List Setting) (k : Nat) (add rem : List Setting) (mine : Point),
      F.get? (k + n) = some mine →
      step (⟨s, F⟩, find, repl) ((k : Int), add, rem) =
        if k = 0 ∧ mergeCond (actPrevOf s n F) later mine add = true then
          if (!({ mine with rem := mine.rem.drop add.length } : Point).nonEmpty) = true ∧ rem.isEmpty = true then
            .ok (⟨s, F.erase (k + n)⟩, add, mine.rem.take add.length)
          else
            .ok (⟨s, F.set (k + n) { add := mine.add, rem := mine.rem.drop add.length ++ rem }⟩, add,
              mine.rem.take add.length)
        else .ok (⟨s, F.set (k + n) { add := mine.add ++ add, rem := mine.rem ++ rem }⟩, find, repl)) :
    OuterSpec n s later step where
  absent := absent
  mergeDel F find repl k add rem mine hg hk hm hd := by
    rw [present F find repl k add rem mine hg, if_pos ⟨hk, hm⟩, if_pos hd]
  mergeKeep F find repl k add rem mine hg hk hm hd := by
    rw [present F find repl k add rem mine hg, if_pos ⟨hk, hm⟩, if_neg hd]
  extend F find repl k add rem mine hg hm := by
    rw [present F find repl k add rem mine hg, if_neg hm]

/-! ## The loop over the incoming table -/

def iaddOk (n : Nat) (A later : List Setting) : IaddSt → Fmts → Bool
  | _, [] => true
  | st, kp :: rest => roundOk n st kp && iaddOk n A later (iaddStep n A later st kp) rest

theorem iaddOk_cons (n : Nat) (A later : List Setting) (st : IaddSt) (kp : Nat × Point) (rest : Fmts) :
    iaddOk n A later st (kp :: rest) =
      (roundOk n st kp && iaddOk n A later (iaddStep n A later st kp) rest) := rfl

/-- the items the translated loop runs over -/
def enc (kp : Nat × Point) : Int × List Setting × List Setting := ((kp.1 : Int), kp.2.add, kp.2.rem)

/-- it is enough that `self.ansi_settings_at(shift - 1)` has the value `A` on the table the loop starts
    with: it is only looked at at the incoming key 0, the first one of a sorted table -/
theorem fold_outer {n : Nat} {s : Str} {later : List Setting}
    {step : St → Int × List Setting × List Setting → Except Exc St} (h : OuterSpec n s later step)
    (A : List Setting) :
    ∀ (L : Fmts) (st : IaddSt), SortedKeys L → (∀ kp ∈ L.head?, kp.1 = 0 → actPrevOf s n st.f = A) →
      List.foldlM step (pack s st) (L.map enc) =
        if iaddOk n A later st L then .ok (pack s (L.foldl (iaddStep n A later) st))
        else .error (.py .indexError) := by
  intro L
  induction L with
  | nil => intro st _ _; rfl
  | cons kp L ih =>
    intro st hs hA
    obtain ⟨k, add, rem⟩ := kp
    obtain ⟨F, find, repl⟩ := st
    have e : iaddStep n (actPrevOf s n F) later ⟨F, find, repl⟩ (k, ⟨add, rem⟩) =
        iaddStep n A later ⟨F, find, repl⟩ (k, ⟨add, rem⟩) := by
      by_cases hk : k = 0
      · rw [hA _ rfl hk]
      · exact iaddStep_irrel n _ A later _ _ hk
    rw [List.map_cons, List.foldlM_cons]
    show (step (⟨s, F⟩, find, repl) ((k : Int), add, rem)).bind _ = _
    rw [h.round F find repl k add rem, e, iaddOk_cons, List.foldl_cons]
    cases hok : roundOk n ⟨F, find, repl⟩ (k, ⟨add, rem⟩) with
    | false => rfl
    | true =>
      simp only [if_true, Bool.true_and, bind_ok]
      refine ih _ (Fmts.sorted_tail hs) (fun kp' hkp' h0 => ?_)
      have := Fmts.sorted_head_lt hs kp' (List.mem_of_mem_head? hkp')
      simp only at this
      omega

/-- no index of a retarget loop runs out, decided on the model side -/
def coreOk (a b : AStr) : Bool :=
  iaddOk a.len (({ a with s := a.s ++ b.s } : AStr).ansiSettingsAt ((a.len : Int) - 1))
    ((b.fmts.filter (fun kp => kp.1 != 0)).flatMap (fun kp => kp.2.add))
    { f := a.fmts, find := [], repl := [] } b.fmts

theorem iadd_def (a b : AStr) :
    a.iadd b = ⟨a.s ++ b.s,
      (b.fmts.foldl (iaddStep a.len (({ a with s := a.s ++ b.s } : AStr).ansiSettingsAt ((a.len : Int) - 1))
        ((b.fmts.filter (fun kp => kp.1 != 0)).flatMap (fun kp => kp.2.add)))
        { f := a.fmts, find := [], repl := [] }).f⟩ := rfl

/-- the loop with what comes before (the initial state: the table is still the one of `a`) and after it
    (returning `self`) -/
theorem core_frame {a b : AStr} {step : St → Int × List Setting × List Setting → Except Exc St}
    {k : St → Except Exc AStr} {init : St} {items : List (Int × List Setting × List Setting)}
    (hsb : SortedKeys b.fmts)
    (hstep : OuterSpec a.len (a.s ++ b.s)
      ((b.fmts.filter (fun kp => kp.1 != 0)).flatMap (fun kp => kp.2.add)) step)
    (hinit : init = (⟨a.s ++ b.s, a.fmts⟩, [], []))
    (hitems : items = b.fmts.map (fun kp => ((kp.1 : Int), kp.2.add, kp.2.rem)))
    (hk : ∀ x f r, k (x, f, r) = .ok x) :
    (List.foldlM step init items).bind k =
      if coreOk a b then .ok (a.iadd b) else .error (.py .indexError) := by
  subst hinit hitems
  have := fold_outer hstep (({ a with s := a.s ++ b.s } : AStr).ansiSettingsAt ((a.len : Int) - 1)) b.fmts
    ⟨a.fmts, [], []⟩ hsb (fun _ _ _ => rfl)
  unfold enc pack at this
  rw [this, iadd_def]
  unfold coreOk
  split
  · rw [bind_ok, hk]
  · rfl

/-- `any(later_key != 0 and find(s, later_add) >= 0 for …)` for every `s` of the head: the object starts
    again later in the incoming table — for any shape of the item and of the test that agree pointwise -/
theorem later_any {τ : Type} (head : List Setting) (L : Fmts) {f : Nat × Point → τ} {P : Setting → τ → Bool}
    (hP : ∀ s kp, P s (f kp) = (kp.1 != 0 && hasId kp.2.add s.id)) :
    head.any (fun s => (L.map f).any (P s)) =
      head.any (fun s => hasId ((L.filter (fun kp => kp.1 != 0)).flatMap (fun kp => kp.2.add)) s.id) := by
  congr 1
  funext s
  induction L with
  | nil => rfl
  | cons kp L ih =>
    rw [List.map_cons, List.any_cons, hP, ih, List.filter_cons]
    cases h : (kp.1 != 0)
    · simp
    · simp [List.flatMap_cons, hasId_append]

/-! ## Totality: when no stop list of the incoming table holds an object twice, no index runs out -/

theorem rtOk_append (acc : List Setting × List Setting × List Setting) (l1 l2 : List (Nat × Nat)) :
    rtOk acc (l1 ++ l2) = (rtOk acc l1 && rtOk (l1.foldl rtStep acc) l2) := by
  induction l1 generalizing acc with
  | nil => simp [rtOk]
  | cons x l1 ih => rw [List.cons_append, rtOk_cons, rtOk_cons, ih, List.foldl_cons, Bool.and_assoc]

theorem rtOk_shift (L : List (Nat × Nat)) (rem find repl : List Setting) (f r : Setting) :
    rtOk (rem, f :: find, r :: repl) (L.map (fun p => (p.1 + 1, p.2))) = rtOk (rem, find, repl) L := by
  induction L generalizing rem find repl with
  | nil => rfl
  | cons p L ih =>
    rw [List.map_cons, rtOk_cons, rtOk_cons, rtStep_succ, ih]
    congr 1
    simp [rtStepOk]

theorem rtStep_rem_length (acc : List Setting × List Setting × List Setting) (fa : Nat × Nat) :
    (rtStep acc fa).1.length = acc.1.length := by
  unfold rtStep
  cases acc.2.2[fa.1]? <;> simp

theorem fold_rtStep_rem_length (L : List (Nat × Nat)) (acc : List Setting × List Setting × List Setting) :
    (L.foldl rtStep acc).1.length = acc.1.length := by
  induction L generalizing acc with
  | nil => rfl
  | cons x L ih => rw [List.foldl_cons, ih, rtStep_rem_length]

theorem rtStep_len_eq (acc : List Setting × List Setting × List Setting) (fa : Nat × Nat)
    (h : acc.2.1.length = acc.2.2.length) : (rtStep acc fa).2.1.length = (rtStep acc fa).2.2.length := by
  unfold rtStep
  cases acc.2.2[fa.1]? with
  | none => exact h
  | some r => simp only [List.length_eraseIdx, h]

theorem fold_rtStep_len_eq (L : List (Nat × Nat)) (acc : List Setting × List Setting × List Setting)
    (h : acc.2.1.length = acc.2.2.length) :
    (L.foldl rtStep acc).2.1.length = (L.foldl rtStep acc).2.2.length := by
  induction L generalizing acc with
  | nil => exact h
  | cons x L ih => rw [List.foldl_cons]; exact ih _ (rtStep_len_eq acc x h)

/-- `find_settings` and `replace_settings` are equally long and every `find_idx` occurs once, so the
    indices, walked from the back, stay inside -/
theorem rtOk_of_nodup (rem find repl : List Setting) (hl : find.length = repl.length)
    (hn : (rem.map (·.id)).Nodup) : rtOk (rem, find, repl) (findRefs find rem).reverse = true := by
  induction find generalizing repl with
  | nil => rfl
  | cons f find ih =>
    cases repl with
    | nil => simp at hl
    | cons r repl =>
      have hl' : find.length = repl.length := by simpa using hl
      rw [findRefs_cons, List.reverse_append, ← List.map_reverse, rtOk_append, rtOk_shift, ih repl hl',
        Bool.true_and, rtStep_shift]
      rcases matchIdx_cases rem f.id hn with ⟨h1, _⟩ | ⟨l1, x, l2, e, _, _, _, h3⟩
      · rw [h1]; rfl
      · rw [h3]
        simp only [List.map_cons, List.map_nil, List.reverse_cons, List.reverse_nil, List.nil_append, rtOk_cons,
          rtOk, Bool.and_true, rtStepOk, fold_rtStep_rem_length]
        subst e
        simp

theorem iaddStep_len_eq (n : Nat) (A later : List Setting) (st : IaddSt) (kp : Nat × Point)
    (h : st.find.length = st.repl.length) :
    (iaddStep n A later st kp).find.length = (iaddStep n A later st kp).repl.length := by
  obtain ⟨k, p⟩ := kp
  cases hg : st.f.get? (k + n) with
  | none =>
    simp only [iaddStep, hg, retarget_def]
    exact fold_rtStep_len_eq _ _ h
  | some mine =>
    rw [iaddStep_some n A later st k p mine hg]
    split
    · rename_i hm
      have := mergeCond_length hm.2
      split <;> exact this.symm
    · exact h

theorem iaddOk_of_nodup (n : Nat) (A later : List Setting) :
    ∀ (L : Fmts) (st : IaddSt), (∀ kp ∈ L, (kp.2.rem.map (·.id)).Nodup) →
      st.find.length = st.repl.length → iaddOk n A later st L = true := by
  intro L
  induction L with
  | nil => intros; rfl
  | cons kp L ih =>
    intro st hn hl
    rw [iaddOk_cons, ih _ (fun kp' h => hn kp' (List.mem_cons_of_mem _ h)) (iaddStep_len_eq n A later st kp hl),
      Bool.and_true]
    unfold roundOk
    cases st.f.get? (kp.1 + n) with
    | some _ => rfl
    | none => exact rtOk_of_nodup _ _ _ hl (hn kp (by simp))

theorem coreOk_of_nodup (a b : AStr) (hn : ∀ kp ∈ b.fmts, (kp.2.rem.map (·.id)).Nodup) : coreOk a b = true :=
  iaddOk_of_nodup _ _ _ _ _ hn rfl

end L

open L ObjL C06d.L C07c.L ConcatL

/-- the method was translated (did not fall outside the translator's fragment) -/
theorem translated : Gen.iaddCoreOk = true := by decide

set_option linter.unusedSimpArgs false in
/-- C05: the translated statements of `__iadd__` and the model are equal, but for the IndexError of the
    retarget loop, which the model side predicts exactly (`coreOk`).  Nothing is asked of `self`. -/
theorem iaddCore_eq (a b : AStr) (hsb : SortedKeys b.fmts) :
    Gen.iaddCore a b.s b.fmts = if coreOk a b then .ok (a.iadd b) else .error (.py .indexError) := by
  unfold Gen.iaddCore
  refine core_frame hsb (OuterSpec.of_present ?absent ?present) rfl rfl ?k
  case k =>
    -- `return self`
    intro x f r
    first | rfl | simp
  case absent =>
    -- `key` not in the table: the new point and the retarget loop
    intro F find repl k add rem hg
    simp only [AStr.len] at hg ⊢
    simp only [has_of_none hg, key_cast, bind_ok, set_nat, C05c.find_references_is_code,
      length_eq_zero_dec, length_ne_zero_dec, length_pos_dec, Bool.false_eq_true, if_false]
    rw [fold_inner (K := k + a.s.length) ?ispec add]
    case ispec =>
      intro F p find repl i j hgp
      unfold rtStepOk rtStep
      cases hr : repl[i]? with
      | none =>
        have : ¬ i < repl.length := by
          intro hlt
          rw [List.getElem?_eq_getElem hlt] at hr
          cases hr
        simp [-Int.natCast_add, getIdx_out hr, this, bind_error]
      | some r =>
        have hlt := lt_of_getElem? hr
        by_cases h2 : j < p.rem.length
        · by_cases h1 : i < find.length <;>
            simp [-Int.natCast_add, getIdx_nat hr, get_of_get? hgp, setIdx_nat, set_nat, delIdx_nat, delIdx_out,
              bind_ok, bind_error, hlt, h1, h2, hr]
        · simp [-Int.natCast_add, getIdx_nat hr, get_of_get? hgp, setIdx_out, bind_ok, bind_error, h2]
    rw [retarget_def]
    generalize findRefs find rem = fs
    cases fs with
    | nil => first | rfl | simp [rtOk, bind_ok]
    | cons x fs =>
      try simp only [List.isEmpty_cons, Bool.not_false, Bool.not_true, Bool.false_eq_true, if_true, if_false]
      split <;> rfl
  case present =>
    -- `key` in the table: the statements, rewritten by the lemmas of `L`, are a chain of conditions with the
    -- same way out of every `else`; collapsed, it is the seam test of the model
    intro F find repl k add rem mine hg
    simp only [AStr.len, actPrevOf, mergeCond] at hg ⊢
    simp only [has_of_get? hg, get_of_get? hg, modifyAt_set _ hg, key_cast, key_eq_shift, key_eq_shift',
      bind_ok, modifyAt_set_self, get_set_self, listSlice_to, listSlice_from, C05c.same_references_is_code,
      find_ge_zero, find_lt_zero, C15c.point_bool_is_code, length_eq_zero_dec, length_ne_zero_dec, length_pos_dec,
      List.append_nil, Bool.not_not, if_true]
    try rw [later_any _ _ (by intro s kp; first | rfl | (simp; done) | (simp; grind) | grind)]
    simp only [del_set_self _ hg, bind_ok, decide_eq_true_eq, ite_and_else, Bool.not_or, Bool.not_not,
      Bool.and_eq_true, and_assoc]

/-- no KeyError (`Exc.key`), nothing outside the model's representation (`Exc.outside`), no other Python
    exception.  (`_hsa` is not used: the statements treat the table of `self` as a dictionary whatever its
    order.) -/
theorem iaddCore_outcomes (a b : AStr) (_hsa : SortedKeys a.fmts) (hsb : SortedKeys b.fmts) :
    Gen.iaddCore a b.s b.fmts = .ok (a.iadd b) ∨ Gen.iaddCore a b.s b.fmts = .error (.py .indexError) :=
  outcome_cases (iaddCore_eq a b hsb)

theorem iaddCore_sound (a b : AStr) (hsa : SortedKeys a.fmts) (hsb : SortedKeys b.fmts) (y : AStr)
    (h : Gen.iaddCore a b.s b.fmts = .ok y) : y = a.iadd b :=
  outcome_sound (iaddCore_outcomes a b hsa hsb) h

theorem iaddCore_is_code_partial (a b : AStr) (hsb : SortedKeys b.fmts) :
    Gen.iaddCore a b.s b.fmts = .ok (a.iadd b) ↔ coreOk a b = true :=
  outcome_iff (iaddCore_eq a b hsb)

/-- no stop list of the incoming table holds an object twice -/
theorem iaddCore_is_code_nodup (a b : AStr) (hsb : SortedKeys b.fmts)
    (hn : ∀ kp ∈ b.fmts, (kp.2.rem.map (·.id)).Nodup) : Gen.iaddCore a b.s b.fmts = .ok (a.iadd b) := by
  rw [iaddCore_eq a b hsb, coreOk_of_nodup a b hn]
  rfl

/-- on well-formed values the translated statements of `__iadd__` compute the model function (of `WF a`
    nothing is used) -/
theorem iaddCore_is_code (a b : AStr) (_ha : WF a) (hb : WF b) : Gen.iaddCore a b.s b.fmts = .ok (a.iadd b) :=
  iaddCore_is_code_nodup a b hb.sorted (wf_rem_nodup_mem hb)

/-! ## Non-vacuity -/

/-- "abc": `31` (object 0) over [0,3), `1` (object 1) over [1,3) -/
def a0 : AStr :=
  { s := "abc".toList,
    fmts := [(0, { add := [⟨0, "31".toList⟩] }), (1, { add := [⟨1, "1".toList⟩] }),
             (3, { rem := [⟨0, "31".toList⟩, ⟨1, "1".toList⟩] })] }

/-- "de": `31` (object 5) over [0,2), `1` (object 6) over [0,1): both continue what `a0` ends with -/
def b0 : AStr :=
  { s := "de".toList,
    fmts := [(0, { add := [⟨5, "31".toList⟩, ⟨6, "1".toList⟩] }), (1, { rem := [⟨6, "1".toList⟩] }),
             (2, { rem := [⟨5, "31".toList⟩] })] }

/-- "de": `4` (object 5) over [1,2): nothing at the seam -/
def b2 : AStr :=
  { s := "de".toList, fmts := [(1, { add := [⟨5, "4".toList⟩] }), (2, { rem := [⟨5, "4".toList⟩] })] }

theorem a0_wf : WF a0 := wf_of_finite (by decide +kernel)

theorem b0_wf : WF b0 := wf_of_finite (by decide +kernel)

example : SortedKeys a0.fmts ∧ SortedKeys b0.fmts ∧ WF a0 ∧ WF b0 ∧
    (∀ kp ∈ b0.fmts, (kp.2.rem.map (·.id)).Nodup) :=
  ⟨a0_wf.sorted, b0_wf.sorted, a0_wf, b0_wf, wf_rem_nodup_mem b0_wf⟩

example : Gen.iaddCore a0 b0.s b0.fmts = .ok (a0.iadd b0) := iaddCore_is_code a0 b0 a0_wf b0_wf
example : Gen.iaddCore a0 b2.s b2.fmts = .ok (a0.iadd b2) :=
  iaddCore_is_code_nodup a0 b2 (by unfold SortedKeys; decide) (by decide)
example : Gen.iaddCore b0 a0.s a0.fmts = .ok (b0.iadd a0) := iaddCore_is_code b0 a0 b0_wf a0_wf
example : Gen.iaddCore a0 a0.s a0.fmts = .ok (a0.iadd a0) := iaddCore_is_code a0 a0 a0_wf a0_wf
example : coreOk a0 b0 = true := coreOk_of_nodup a0 b0 (wf_rem_nodup_mem b0_wf)

/-- the value itself: the seam merge (the two stop markers of `a0` at 3 and the two start markers of `b0`
    at 0 go away, nothing is left at key 3) and the retargeting (the stop markers of `b0` now stop the
    objects 1 and 0 of `a0`) -/
example : Gen.iaddCore a0 b0.s b0.fmts = .ok
    { s := "abcde".toList,
      fmts := [(0, { add := [⟨0, "31".toList⟩] }), (1, { add := [⟨1, "1".toList⟩] }),
               (4, { rem := [⟨1, "1".toList⟩] }), (5, { rem := [⟨0, "31".toList⟩] })] } := by
  rw [iaddCore_is_code a0 b0 a0_wf b0_wf]
  decide +kernel

/-- An ill-formed (sorted) incoming table on which the code raises IndexError while the model's `retarget`
    is total: the stop list at 2 holds the object 5 twice, so `finds` is `[(0, 0), (0, 1)]`; after the first
    round `find_settings` and `replace_settings` are empty and `replace_settings[0]` runs off the list. -/
def a1 : AStr :=
  { s := "abc".toList, fmts := [(0, { add := [⟨0, "31".toList⟩] }), (3, { rem := [⟨0, "31".toList⟩] })] }
def bBad : AStr :=
  { s := "de".toList,
    fmts := [(0, { add := [⟨5, "31".toList⟩] }), (2, { rem := [⟨5, "31".toList⟩, ⟨5, "31".toList⟩] })] }

example : SortedKeys a1.fmts ∧ SortedKeys bBad.fmts := by unfold SortedKeys; decide
example : Gen.iaddCore a1 bBad.s bBad.fmts = .error (.py .indexError) := by decide +kernel
example : coreOk a1 bBad = false := by decide +kernel

/-- the criterion is exact, the hypothesis of `iaddCore_is_code_nodup` only sufficient: an object twice in
    a stop list, but the repeated index is not the last one — the code returns (the model's value) -/
def bDup : AStr :=
  { s := "de".toList,
    fmts := [(0, { add := [⟨5, "31".toList⟩, ⟨6, "1".toList⟩] }),
             (2, { rem := [⟨5, "31".toList⟩, ⟨5, "31".toList⟩] })] }

example : Gen.iaddCore a0 bDup.s bDup.fmts = .ok (a0.iadd bDup) := by decide +kernel
example : ¬ ∀ kp ∈ bDup.fmts, (kp.2.rem.map (·.id)).Nodup := by decide

end C05d

#print axioms C05d.iaddCore_eq
#print axioms C05d.iaddCore_sound
#print axioms C05d.iaddCore_outcomes
#print axioms C05d.iaddCore_is_code_partial
#print axioms C05d.iaddCore_is_code_nodup
#print axioms C05d.iaddCore_is_code
