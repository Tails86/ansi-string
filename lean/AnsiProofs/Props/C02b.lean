import AnsiProofs.Lemmas.ParseStyle
/-
  Property C02, STYLE half — "Constructing an AnsiString/AnsiStr from text containing SGR escape
  sequences yields … each character reports the effective style a conforming terminal would give
  it after the preceding sequences: known codes applied in order, extended-colour groups
  (38/48/58 followed by 5;n or 2;r;g;b) recognised wherever they occur in a sequence, clear codes
  and reset honoured, unknown codes ignored."   (The text half is `Props/C02.lean`.)

  Specification: the independent terminal of `AnsiSpec/Terminal.lean`.  `Term.run Term.default r`
  is the list of displayed characters, each paired with the state it is displayed in;
  `eff (act x i)` is the state a terminal reaches from its default state on the codes of the
  settings character `i` of `x` reports, in precedence order (`AnsiSpec/Styled.lean`);
  `den x` pairs every character of `x` with that state.

  Scope: `Term.wellFormed r` — every parameter of every SGR sequence of `r` is empty or a run of
  decimal digits (ASCII whitespace around it allowed).  Outside this scope "code" has no agreed
  meaning and the two sides do differ (`int('+1') = 1` in Python, not a number for a terminal):
  see `wellFormed_needed`.  Everything is proved for ALL such inputs, no length bound.
-/

open Term Eff ParseTextL ParseTextL.C02Spec ParseStyleL

namespace C02b

/-- the running example: bold + indexed colour, then reset + underline, then "underline off;
    red" immediately followed by "default colour" (two sequences at one offset) -/
def ex : Str := "\x1b[1;38;5;214ma\x1b[0;4mb\x1b[24;31m\x1b[39mc".toList

/-- a second example: a colour replaced, bold replaced by faint (same group), font 11 replaced by
    the default font 10 (an *apply* for the library, a *clear* for the terminal), an incomplete
    group `38;5` at the end of a sequence, a direct colour followed by another code -/
def ex' : Str := "\x1b[1;31ma\x1b[32mb\x1b[2;10;11;10mc\x1b[38;5md\x1b[38;2;1;2;3;4me".toList

/- The kernel is slow at evaluating `String.toList` on a long literal; `strLitToList` spells the
   literal out as a list of characters first. -/
theorem ex_wf : Term.wellFormed ex = true := by
  unfold ex
  simp only [strLitToList]
  decide +kernel

theorem ex'_wf : Term.wellFormed ex' = true := by
  unfold ex'
  simp only [strLitToList]
  decide +kernel

example : Term.wellFormed ex = true ∧ Term.wellFormed ex' = true := ⟨ex_wf, ex'_wf⟩

/-! ## 1 — model and terminal read the same numbers -/

/-- For a well-formed parameter string the items `parse_graphic_sequence` works on
    (`int(item.strip())`, an empty item is `0`) are the numbers the terminal reads. -/
theorem items_eq_params (p : Str) (hp : (Term.params p).all Option.isSome = true) :
    pgsItemsOfStr p = ((Term.params p).filterMap id).map (fun (c : Nat) => Code.int (c : Int)) ∧
    Term.params p = ((Term.params p).filterMap id).map some :=
  ParseStyleL.items_eq_params p hp

example : (Term.params " 1;;038 ;5; 7".toList).all Option.isSome = true ∧
    pgsItemsOfStr " 1;;038 ;5; 7".toList = [.int 1, .int 0, .int 38, .int 5, .int 7] ∧
    Term.params " 1;;038 ;5; 7".toList = [some 1, some 0, some 38, some 5, some 7] := by
  simp only [strLitToList]
  decide +kernel

theorem wellFormed_sgrs (r : Str) (h : Term.wellFormed r = true) :
    ∀ ks ∈ sgrs r, (Term.params ks.2).all Option.isSome = true :=
  ParseStyleL.wellFormed_sgrs r h

/-! ## 2 — one sequence: `parse_graphic_sequence` + `settings_to_dict` on top of ANY prior dict
    is what the terminal does in the state that dict stands for -/

theorem seq_effect (p : Str) (hp : (Term.params p).all Option.isSome = true) (old : PyDict) :
    alpha (settingsToDict ((pgsStr p false).map (fun t => (⟨0, t⟩ : Setting))) old) =
      Term.feed (alpha old) (Term.params p) :=
  pgsStr_effect p hp old

theorem seq_dictOK (p : Str) (hp : (Term.params p).all Option.isSome = true) (old : PyDict)
    (hd : DictOK old) :
    DictOK (settingsToDict ((pgsStr p false).map (fun t => (⟨0, t⟩ : Setting))) old) :=
  pgsStr_dictOK p hp old hd

-- a non-trivial prior dict (faint, indexed colour) and a sequence with a clear code, a complete
-- and an incomplete extended-colour group
example : (Term.params "22;48;2;1;2;3;38;5".toList).all Option.isSome = true := by
  simp only [strLitToList]
  decide +kernel
example : DictOK [(2, ⟨0, "2".toList⟩), (13, ⟨0, "38;5;1".toList⟩)] := by
  unfold DictOK
  decide +kernel
example : settingsToDict ((pgsStr "22;48;2;1;2;3;38;5".toList false).map (fun t => (⟨0, t⟩ : Setting)))
      [(2, ⟨0, "2".toList⟩), (13, ⟨0, "38;5;1".toList⟩)] =
    [(13, ⟨0, "38;5;1".toList⟩), (14, ⟨0, "48;2;1;2;3".toList⟩)] := by
  simp only [strLitToList]
  decide +kernel

/-! ## 3 — order independence: a character reporting exactly the values of a dict (each once, in
    any precedence order) has the effective style the dict stands for -/

theorem eff_of_dict_values {A : List Setting} {d : PyDict} (hd : DictOK d)
    (hnodup : (texts A).Nodup) (hmem : ∀ t, t ∈ texts A ↔ t ∈ d.map (fun kv => kv.2.txt)) :
    eff A = alpha d :=
  eff_of_txtSet hd ⟨hnodup, hmem⟩

example : (texts [(⟨5, "38;5;1".toList⟩ : Setting), ⟨3, "2".toList⟩]).Nodup ∧
    ∀ t, t ∈ texts [(⟨5, "38;5;1".toList⟩ : Setting), ⟨3, "2".toList⟩] ↔
      t ∈ ([(2, ⟨0, "2".toList⟩), (13, ⟨0, "38;5;1".toList⟩)] : PyDict).map (fun kv => kv.2.txt) := by
  refine ⟨by decide, fun t => ?_⟩
  simp [texts]
  exact or_comm

/-! ## 4 — a character reports the style of the state the terminal displays it in -/

theorem parse_style_at (r : Str) (nid : Nat) (hwf : Term.wellFormed r = true) (i : Nat)
    (h : i < (Term.stripSgr r).length) :
    eff (act (AStr.setAnsi r nid).1 i) =
      feedSeqs Term.default (((sgrs r).filter (fun ks => ks.1 ≤ i)).map (·.2)) :=
  (setAnsi_inv r nid hwf).1 i h

/-- **C02, style half, as one equation**: the denotation of the parsed value — every character of
    its text with the effective style it reports — is exactly what a conforming terminal displays
    on the input: the same characters, each in the same state. -/
theorem parse_style_den (r : Str) (nid : Nat) (hwf : Term.wellFormed r = true) :
    den (AStr.setAnsi r nid).1 = (Term.run Term.default r).1 := by
  rw [C02.run_eq_sgrs]
  unfold den
  rw [C02.parse_text]
  apply List.map_congr_left
  intro ci hci
  have hlt : ci.2 < (Term.stripSgr r).length := by simpa using List.snd_lt_of_mem_zipIdx hci
  rw [parse_style_at r nid hwf ci.2 hlt]

/-- **C02, style half, per character**: character `i` of the parsed value reports the effective
    style the terminal displays its `i`-th character in. -/
theorem parse_style (r : Str) (nid : Nat) (hwf : Term.wellFormed r = true) (i : Nat)
    (h : i < (Term.stripSgr r).length) :
    eff (act (AStr.setAnsi r nid).1 i) =
      ((Term.run Term.default r).1[i]'(by simpa [Term.stripSgr] using h)).2 := by
  simp only [C02.run_eq_sgrs, List.getElem_map, List.getElem_zipIdx, Nat.zero_add]
  exact parse_style_at r nid hwf i h

theorem parse_style_list (r : Str) (nid : Nat) (hwf : Term.wellFormed r = true) :
    ((Term.run Term.default r).1).map (·.2) =
      (List.range (Term.stripSgr r).length).map (fun i => eff (act (AStr.setAnsi r nid).1 i)) := by
  rw [← parse_style_den r nid hwf]
  unfold den
  rw [C02.parse_text, List.map_map, List.range_eq_range', ← List.zipIdx_map_snd 0 (Term.stripSgr r),
    List.map_map]
  rfl

/-- the constructor `AnsiString(r)` / `AnsiStr(r)` without further settings is `set_ansi_str(r)` -/
theorem parse_style_ofStr (r : Str) (nid : Nat) (y : AStr) (hwf : Term.wellFormed r = true)
    (h : AStr.ofStr r [] nid = .ok y) : den y = (Term.run Term.default r).1 := by
  have e : AStr.ofStr r [] nid = .ok (AStr.setAnsi r nid).1 := rfl
  rw [e] at h
  cases h
  exact parse_style_den r nid hwf

example : (AStr.ofStr ex [] 0).toOption = some (AStr.setAnsi ex 0).1 := rfl

-- the running examples, character by character (`TState` is a function: compared through
-- `toList`, the values of all 14 groups)
theorem ex_run : (Term.run Term.default ex).1.map (fun ct => (ct.1, ct.2.toList)) =
    [('a', [(.boldness, [1]), (.fg, [38, 5, 214])]), ('b', [(.underline, [4])]), ('c', [])] := by
  unfold ex
  simp only [strLitToList]
  decide +kernel

theorem ex'_run : (Term.run Term.default ex').1.map (fun ct => (ct.1, ct.2.toList)) =
    [('a', [(.boldness, [1]), (.fg, [31])]), ('b', [(.boldness, [1]), (.fg, [32])]),
     ('c', [(.boldness, [2]), (.fg, [32])]), ('d', [(.boldness, [2]), (.fg, [32])]),
     ('e', [(.boldness, [2]), (.underline, [4]), (.fg, [38, 2, 1, 2, 3])])] := by
  unfold ex'
  simp only [strLitToList]
  decide +kernel

example : (den (AStr.setAnsi ex 0).1).map (fun ct => (ct.1, ct.2.toList)) =
    [('a', [(.boldness, [1]), (.fg, [38, 5, 214])]), ('b', [(.underline, [4])]), ('c', [])] := by
  rw [parse_style_den ex 0 ex_wf]
  exact ex_run
example : (Term.run Term.default ex).1.map (fun ct => (ct.1, ct.2.toList)) =
    [('a', [(.boldness, [1]), (.fg, [38, 5, 214])]), ('b', [(.underline, [4])]), ('c', [])] := ex_run
example : (den (AStr.setAnsi ex' 0).1).map (fun ct => (ct.1, ct.2.toList)) =
    [('a', [(.boldness, [1]), (.fg, [31])]), ('b', [(.boldness, [1]), (.fg, [32])]),
     ('c', [(.boldness, [2]), (.fg, [32])]), ('d', [(.boldness, [2]), (.fg, [32])]),
     ('e', [(.boldness, [2]), (.underline, [4]), (.fg, [38, 2, 1, 2, 3])])] := by
  rw [parse_style_den ex' 0 ex'_wf]
  exact ex'_run
example : (Term.run Term.default ex').1.map (fun ct => (ct.1, ct.2.toList)) =
    [('a', [(.boldness, [1]), (.fg, [31])]), ('b', [(.boldness, [1]), (.fg, [32])]),
     ('c', [(.boldness, [2]), (.fg, [32])]), ('d', [(.boldness, [2]), (.fg, [32])]),
     ('e', [(.boldness, [2]), (.underline, [4]), (.fg, [38, 2, 1, 2, 3])])] := ex'_run
-- what character `e` of the second example reports: the precedence order is NOT the dict order
-- (`finalDict`), which is why section 3 is needed
example : texts (act (AStr.setAnsi ex' 0).1 4) = ["2".toList, "10".toList, "38;2;1;2;3".toList, "4".toList] ∧
    (finalDict ex' 0).map (fun kv => kv.2.txt) =
      ["2".toList, "38;2;1;2;3".toList, "10".toList, "4".toList] := by
  unfold ex'
  simp only [strLitToList]
  decide +kernel

/-- The scope hypothesis is needed: `+1` is a number for Python's `int()` and not a parameter for
    a terminal, so on `ESC[+1m a` the library reports bold where the terminal shows nothing. -/
theorem wellFormed_needed :
    ¬ (∀ r : Str, den (AStr.setAnsi r 0).1 = (Term.run Term.default r).1) := by
  intro h
  have h1 := congrArg (fun l => l.map (fun ct => ct.2 Term.Group.boldness)) (h "\x1b[+1ma".toList)
  revert h1
  decide +kernel

example : Term.wellFormed "\x1b[+1ma".toList = false := by decide +kernel

/-! ## 5 — text without ESC: every character reports nothing, as on the terminal -/

theorem parse_style_plain (r : Str) (nid : Nat) (h : '\x1b' ∉ r) (i : Nat) :
    act (AStr.setAnsi r nid).1 i = [] ∧ eff (act (AStr.setAnsi r nid).1 i) = Term.default := by
  rw [C02.parse_plain r nid h]
  exact ⟨rfl, feed_nil _⟩

theorem run_plain (t : TState) (r : Str) (h : '\x1b' ∉ r) :
    Term.run t r = (r.map (fun c => (c, t)), t) :=
  (RenderL.Reaches.text t h).run

example : '\x1b' ∉ "plain [1m text".toList := by
  simp only [strLitToList]
  decide +kernel

/-! ## 6 — the final state

    `alpha (finalDict r nid) = (Term.run Term.default r).2` is FALSE in general: `set_ansi_str` skips
    sequences at the very end of the text (`if key >= len(self._s): break`), the terminal does not. -/

theorem eff_last_false :
    ¬ (∀ r : Str, Term.wellFormed r = true → alpha (finalDict r 0) = (Term.run Term.default r).2) := by
  intro h
  have h1 := congrFun (h "a\x1b[1m".toList (by decide)) Term.Group.boldness
  revert h1
  decide +kernel

/-- the true statement: the dict `set_ansi_str` ends with stands for the terminal state after the
    SGR sequences that precede some displayed character -/
theorem parse_style_eff_last (r : Str) (nid : Nat) (hwf : Term.wellFormed r = true) :
    alpha (finalDict r nid) =
      feedSeqs Term.default
        (((sgrs r).filter (fun ks => ks.1 < (Term.stripSgr r).length)).map (·.2)) ∧
    DictOK (finalDict r nid) :=
  (setAnsi_inv r nid hwf).2

theorem parse_style_eff_last_run (r : Str) (nid : Nat) (hwf : Term.wellFormed r = true)
    (hend : ∀ ks ∈ sgrs r, ks.1 < (Term.stripSgr r).length) :
    alpha (finalDict r nid) = (Term.run Term.default r).2 := by
  rw [(parse_style_eff_last r nid hwf).1, C02.run_eq_sgrs]
  have : (sgrs r).filter (fun ks => ks.1 < (Term.stripSgr r).length) = sgrs r := by
    apply List.filter_eq_self.2
    intro ks hks
    simpa using hend ks hks
  rw [this]

example : Term.wellFormed ex = true ∧ ∀ ks ∈ sgrs ex, ks.1 < (Term.stripSgr ex).length := by
  refine ⟨ex_wf, ?_⟩
  unfold ex
  simp only [strLitToList]
  decide +kernel

theorem parse_style_eff_last_char (r : Str) (nid : Nat) (hwf : Term.wellFormed r = true)
    (hne : 0 < (Term.stripSgr r).length) :
    alpha (finalDict r nid) = eff (act (AStr.setAnsi r nid).1 ((Term.stripSgr r).length - 1)) := by
  rw [(parse_style_eff_last r nid hwf).1, parse_style_at r nid hwf _ (Nat.sub_lt hne Nat.one_pos)]
  congr 2
  apply List.filter_congr
  intro ks _
  simp only [decide_eq_decide]
  exact Nat.lt_iff_le_pred hne

example : Term.wellFormed "a\x1b[1m".toList = true ∧ 0 < (Term.stripSgr "a\x1b[1m".toList).length := by
  decide +kernel

end C02b

#print axioms C02b.items_eq_params
#print axioms C02b.wellFormed_sgrs
#print axioms C02b.seq_effect
#print axioms C02b.seq_dictOK
#print axioms C02b.eff_of_dict_values
#print axioms C02b.parse_style_at
#print axioms C02b.parse_style_den
#print axioms C02b.parse_style
#print axioms C02b.parse_style_list
#print axioms C02b.parse_style_ofStr
#print axioms C02b.wellFormed_needed
#print axioms C02b.parse_style_plain
#print axioms C02b.run_plain
#print axioms C02b.eff_last_false
#print axioms C02b.parse_style_eff_last
#print axioms C02b.parse_style_eff_last_run
#print axioms C02b.parse_style_eff_last_char
