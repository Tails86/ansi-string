import AnsiProofs.Props.C04b
import AnsiModel.Render
/-
  Property C07, part b — the guard `remove_formatting` starts with, from the source.

  `Gen.removeGuard` is the leading part of `AnsiString.remove_formatting` (bound conversions and the
  "nothing to remove" test: settings given but empty, start beyond the text, empty range), translated
  statement by statement (harness/pyint.py, prefix mode).  The theorems tie it to the hand-written
  guard of the model's `removeRaw`.
-/
namespace C07b

theorem guard_is_code (n : Nat) (isNone truthy : Bool) (s e : Option Int) :
    Gen.removeGuard (n : Int) isNone truthy s e =
      if (isNone = false ∧ truthy = false) ∨ sliceIdx n s 0 ≥ n ∨ sliceIdx n e n ≤ sliceIdx n s 0 then 1 else 0 := by
  unfold Gen.removeGuard
  simp only [C04b.start_is_code, (C04b.sliceIdx_is_code n e n).2]
  generalize sliceIdx n s 0 = a
  generalize sliceIdx n e n = b
  -- as in `C06c.guard_is_code`
  cases truthy <;> cases isNone <;> simp <;> grind

/-- what the model's `removeRaw` calls "falsy": settings given (not `None`) and empty -/
def isNoneArg (a : Option SArg) : Bool := a.isNone
def truthyArg (a : Option SArg) : Bool := match a with | some a => a.truthy | none => false

/-- the model's `remove_formatting` returns at once exactly when the guard translated from the source
    says so … -/
theorem removeRaw_returns (x : AStr) (a : Option SArg) (s e : Option Int)
    (h : Gen.removeGuard (x.len : Int) (isNoneArg a) (truthyArg a) s e = 1) :
    x.removeRaw a s e = .ok x := by
  rw [guard_is_code] at h
  unfold AStr.removeRaw
  refine if_pos ((C04b.guard_one h).imp_left fun ht => ?_)
  cases a with
  | none => exact absurd ht.1 (by decide)
  | some a => show (!a.truthy) = true; rw [show a.truthy = false from ht.2]; rfl

/-- … and otherwise goes on; `settings=None`: everything active in the range is removed -/
theorem removeRaw_goes_on_none (x : AStr) (s e : Option Int)
    (h : Gen.removeGuard (x.len : Int) true false s e = 0) :
    x.removeRaw none s e = .ok (x.removeFormatting none s e) := by
  rw [guard_is_code] at h
  unfold AStr.removeRaw
  exact if_neg fun hp => C04b.guard_zero h (hp.imp_left fun ht => absurd ht (by decide))

/-- … settings given and not empty: they are scrubbed and removed -/
theorem removeRaw_goes_on_some (x : AStr) (a : SArg) (s e : Option Int)
    (h : Gen.removeGuard (x.len : Int) false a.truthy s e = 0) :
    x.removeRaw (some a) s e = (do let ts ← Scrub.scrub a; pure (x.removeFormatting (some ts) s e)) := by
  rw [guard_is_code] at h
  unfold AStr.removeRaw
  exact if_neg fun hp => C04b.guard_zero h (hp.imp_left fun ht => ⟨rfl, by simpa using ht⟩)

/-- the guard has no third outcome (it never raises) -/
theorem guard_total (n : Nat) (isNone truthy : Bool) (s e : Option Int) :
    Gen.removeGuard (n : Int) isNone truthy s e = 0 ∨ Gen.removeGuard (n : Int) isNone truthy s e = 1 := by
  rw [guard_is_code]; split <;> simp

example : Gen.removeGuard 5 true false (some 1) (some 3) = 0 := by decide     -- None: remove everything
example : Gen.removeGuard 5 false false (some 1) (some 3) = 1 := by decide    -- [] given: nothing to do
example : Gen.removeGuard 5 false true (some 3) (some 3) = 1 := by decide     -- empty range
example : Gen.removeGuard 5 false true (some 5) none = 1 := by decide         -- start at the end

end C07b
