import AnsiProofs.Props.C17c
import AnsiProofs.Lemmas.Find
import AnsiModel.Generated.Methods.FindCore
/-
  Property C17, part d — the *generated* (statement-by-statement translated) body of
  `AnsiString.find_settings` (`Gen.findCore`: the statements after the settings have been scrubbed)
  computes exactly what the hand-written model says (`AStr.findSettings`, `AnsiModel/Format.lean`) on
  values whose table is sorted; `Exc.key` (the fetch `self._fmts[idx]` of the iterator, the fetch
  `idx_to_settings[idx]` of the search loops) and `Exc.outside` (`None` where `found_start` is compared)
  never happen there.

  `namespace L` does not mention `Gen.findCore`: the loop that fills `idx_to_settings` builds the
  model's table (`findTbl` of `Lemmas/Find.lean`) with the point dropped and the key as Python `int`
  (`tblI`); a `for` with `break` over keys of `idx_to_settings` is `find?`, for any step function that
  meets `SearchSpec`; `coreI` is what the statements after the first loop compute from
  `idx_to_settings`, and `coreI_model` says that this is the model's `findSettings`.  `findCore_eq`
  then takes `Gen.findCore` to `coreI` along the three live paths (`start` is a key or `start = end`;
  `start` checked and not matching; `start` matching).
-/

namespace C17d
namespace L
open ObjL

/-! ## The first loop: `idx_to_settings` -/

def ent (t : Nat × Point × List Setting) : Int × List Setting := ((t.1 : Int), t.2.2)

/-- `idx_to_settings` as the code has it: the model's table, the key as `int`, the point dropped -/
def tblI (f : Fmts) (st en : Nat) : List (Int × List Setting) := (findTbl f st en).map ent

/-- state of the first loop: `(idx_to_settings, current_settings of the iterator)` -/
abbrev B := List (Int × List Setting) × List Setting

def build (st en : Nat) (s : B) (kp : Nat × Point) : B :=
  (if st ≤ kp.1 ∧ kp.1 ≤ en then s.1 ++ [((kp.1 : Int), stepPoint s.2 kp.2)] else s.1, stepPoint s.2 kp.2)

theorem build_fst (st en : Nat) (D : Fmts) (acc : List (Int × List Setting)) (cur : List Setting) :
    (D.foldl (build st en) (acc, cur)).1 =
      acc ++ ((replayFrom cur D).filter (fun t => st ≤ t.1 ∧ t.1 ≤ en)).map ent := by
  induction D generalizing acc cur with
  | nil => simp [replayFrom]
  | cons kp D ih =>
    rw [List.foldl_cons, build, ih, replayFrom, List.filter_cons]
    by_cases hc : st ≤ kp.1 ∧ kp.1 ≤ en
    · simp [hc, ent]
    · simp [hc]

theorem build_tbl (st en : Nat) (f : Fmts) :
    ∃ c, f.foldl (build st en) ([], []) = (tblI f st en, c) :=
  ⟨_, Prod.ext (build_fst st en f [] []) rfl⟩

/-! ## `idx_to_settings`: keys ascending, every key found -/

def Asc (I : List (Int × List Setting)) : Prop := I.Pairwise (fun a b => a.1 < b.1)

theorem tblI_asc (f : Fmts) (hs : SortedKeys f) (st en : Nat) : Asc (tblI f st en) := by
  unfold Asc tblI
  rw [List.pairwise_map]
  exact (findTbl_pairwise f hs st en).imp (fun h => by simp only [ent]; omega)

theorem keys_asc {I : List (Int × List Setting)} (hI : Asc I) : (I.map (·.1)).Pairwise (· < ·) :=
  List.pairwise_map.mpr hI

/-! ## The search loops: a `for` with `break` is `find?` -/

/-- the state of a translated search loop is a tuple that ends in `(result, done)`, whatever loop
    variables come before -/
class Srch (σ : Type) where
  done : σ → Bool
  res : σ → Option Int

instance srchBase : Srch (Option Int × Bool) := ⟨fun s => s.2, fun s => s.1⟩
instance srchStep {α σ : Type} [Srch σ] : Srch (α × σ) := ⟨fun s => Srch.done s.2, fun s => Srch.res s.2⟩

@[simp] theorem done_base (s : Option Int × Bool) : Srch.done s = s.2 := rfl
@[simp] theorem res_base (s : Option Int × Bool) : Srch.res s = s.1 := rfl
@[simp] theorem done_step {α σ : Type} [Srch σ] (s : α × σ) : Srch.done s = Srch.done s.2 := rfl
@[simp] theorem res_step {α σ : Type} [Srch σ] (s : α × σ) : Srch.res s = Srch.res s.2 := rfl

/-- `found_start`: the first key before `end` where all the settings are active -/
def hitS (en : Int) (want : List Str) (k : Int) (c : List Setting) : Bool := decide (k < en) && AStr.allIn want c
/-- `found_end`: the first key where they are not -/
def hitE (want : List Str) (_ : Int) (c : List Setting) : Bool := !AStr.allIn want c

/-- what one round of a search loop has to do, whatever the state looks like: nothing once `done`
    (Python's `break`) is set; on a key of `idx_to_settings` holding `c`, set `done` and the result to
    the key exactly when `hit` says so, else leave the result -/
def SearchSpec {σ : Type} (I : List (Int × List Setting)) (hit : Int → List Setting → Bool)
    (done : σ → Bool) (res : σ → Option Int) (step : σ → Int → Except Exc σ) : Prop :=
  (∀ s a, done s = true → step s a = .ok s) ∧
  (∀ s a c, done s = false → Py.assocGet I a = .ok c →
    ∃ s', step s a = .ok s' ∧ done s' = hit a c ∧ res s' = if hit a c then some a else res s)

def found (hit : Int → List Setting → Bool) (C : List (Int × List Setting)) : Option Int :=
  (C.find? (fun kv => hit kv.1 kv.2)).map (·.1)

theorem fold_search {σ : Type} {I : List (Int × List Setting)} {hit : Int → List Setting → Bool}
    {done : σ → Bool} {res : σ → Option Int} {step : σ → Int → Except Exc σ}
    (hstep : SearchSpec I hit done res step) (hI : Asc I) :
    ∀ (C : List (Int × List Setting)), (∀ kv ∈ C, kv ∈ I) → ∀ s, done s = false →
      ∃ s', List.foldlM step s (C.map (·.1)) = .ok s' ∧ res s' = (found hit C).or (res s) := by
  intro C
  induction C with
  | nil => intro _ s _; exact ⟨s, rfl, by simp [found]⟩
  | cons kv C ih =>
    intro hC s hd
    have hkv : kv ∈ I := hC kv (by simp)
    obtain ⟨s1, h1, h2, h3⟩ := hstep.2 s kv.1 kv.2 hd (assocGet_mem hI hkv)
    rw [List.map_cons, List.foldlM_cons, h1]
    show ∃ s', List.foldlM step s1 _ = _ ∧ _
    cases hh : hit kv.1 kv.2 with
    | true =>
      rw [hh] at h2 h3
      refine ⟨s1, foldlM_fixed (fun a => hstep.1 s1 a h2) _, ?_⟩
      simp [found, hh, h3]
    | false =>
      rw [hh] at h2 h3
      obtain ⟨s', h4, h5⟩ := ih (fun kv h => hC kv (by simp [h])) s1 h2
      refine ⟨s', h4, ?_⟩
      rw [h5]
      simp [found, hh, h3]

/-- the form the loops are met in: the loop still running and `found_start`/`found_end` still `None`
    before it, the rest of the function after it -/
theorem bind_search {σ β : Type} {I : List (Int × List Setting)} {hit : Int → List Setting → Bool}
    {done : σ → Bool} {res : σ → Option Int} {step : σ → Int → Except Exc σ}
    (hstep : SearchSpec I hit done res step) (hI : Asc I) (C : List (Int × List Setting)) (hC : ∀ kv ∈ C, kv ∈ I)
    {s : σ} (hd : done s = false) (hr : res s = none) {k : σ → Except Exc β} {v : Except Exc β}
    (hk : ∀ s', res s' = found hit C → k s' = v) : (List.foldlM step s (C.map (·.1))).bind k = v := by
  obtain ⟨s', h1, h2⟩ := fold_search hstep hI C hC s hd
  rw [h1]
  exact hk s' (by rw [h2, hr, Option.or_none])

/-- `for idx in sorted(idx_to_settings.keys(), reverse=reverse)` -/
theorem bind_cands {σ β : Type} [Srch σ] {I : List (Int × List Setting)} (hit : Int → List Setting → Bool)
    {step : σ → Int → Except Exc σ} (hstep : SearchSpec I hit Srch.done Srch.res step) (hI : Asc I) (rev : Bool)
    {s : σ} (hd : Srch.done s = false) (hr : Srch.res s = none) {k : σ → Except Exc β} {v : Except Exc β}
    (hk : ∀ s', Srch.res s' = found hit (if rev then I.reverse else I) → k s' = v) :
    (List.foldlM step s (Py.sortedInts (I.map (·.1)) rev)).bind k = v := by
  rw [sortedInts_asc (keys_asc hI)]
  cases rev with
  | true =>
    rw [if_pos rfl, ← List.map_reverse]
    exact bind_search hstep hI I.reverse (fun kv h => List.mem_reverse.mp h) hd hr hk
  | false => exact bind_search hstep hI I (fun kv h => h) hd hr hk

/-- `for idx in sorted([k for k in idx_to_settings.keys() if k > p])` -/
theorem bind_after {σ β : Type} [Srch σ] {I : List (Int × List Setting)} (hit : Int → List Setting → Bool)
    {step : σ → Int → Except Exc σ} (hstep : SearchSpec I hit Srch.done Srch.res step) (hI : Asc I) (p : Int)
    {s : σ} (hd : Srch.done s = false) (hr : Srch.res s = none) {k : σ → Except Exc β} {v : Except Exc β}
    (hk : ∀ s', Srch.res s' = found (fun k c => decide (k > p) && hit k c) I → k s' = v) :
    (List.foldlM step s (Py.sortedInts ((I.map (·.1)).filter (fun x => decide (x > p))) false)).bind k = v := by
  rw [sortedInts_asc ((keys_asc hI).filter _), List.filter_map]
  refine bind_search hstep hI (I.filter ((fun x => decide (x > p)) ∘ (·.1))) (fun kv h => (List.mem_filter.mp h).1)
    hd hr (fun s' hs' => hk s' ?_)
  rw [hs']
  simp [found, List.find?_filter]

theorem optGet_some {α : Type} (a : α) : Py.optGet (some a) = (.ok a : Except Exc α) := rfl

/-! ## What the statements after the first loop compute, and the model -/

/-- `(found_start, found_end)` from `idx_to_settings`, `start`, `end` and `ansi_settings_at(start)` -/
def coreI (I : List (Int × List Setting)) (want : List Str) (st en : Int) (c0 : List Setting) (rev : Bool) :
    Option Int × Option Int :=
  let fs0 : Option Int :=
    if (!(I.any (fun kv => kv.1 == st)) && decide (st < en)) = true then
      (if AStr.allIn want c0 then some st else none)
    else none
  let fs : Option Int :=
    match fs0 with
    | some i => some i
    | none => found (hitS en want) (if rev then I.reverse else I)
  match fs with
  | none => (none, none)
  | some i => (some i, found (fun k c => decide (k > i) && hitE want k c) I)

theorem all_hasTxt (A : List Setting) (c : List Setting) :
    A.all (fun x => hasTxt c x.txt) = AStr.allIn (texts A) c := by
  simp [AStr.allIn, texts, List.all_map, Function.comp_def]

theorem found_map (hit : Int → List Setting → Bool) (T : List (Nat × Point × List Setting)) :
    found hit (T.map ent) = (T.find? (fun t => hit (t.1 : Int) t.2.2)).map (fun t => (t.1 : Int)) := by
  simp [found, List.find?_map, Function.comp_def, ent]

theorem coreI_model (x : AStr) (want : List Str) (s e : Option Int) (rev : Bool)
    (hgo : ¬ (sliceIdx x.len e x.len < sliceIdx x.len s 0)) (hw : want ≠ []) :
    coreI (tblI x.fmts (sliceIdx x.len s 0) (sliceIdx x.len e x.len)) want
        ((sliceIdx x.len s 0 : Nat) : Int) ((sliceIdx x.len e x.len : Nat) : Int)
        (x.ansiSettingsAt (sliceIdx x.len s 0 : Nat)) rev =
      (((x.findSettings want s e rev).1.map Int.ofNat), ((x.findSettings want s e rev).2.map Int.ofNat)) := by
  rw [findSettings_search x want s e rev hgo hw]
  generalize sliceIdx x.len s 0 = st
  generalize sliceIdx x.len e x.len = en
  unfold coreI findFs findFs0 findFe tblI hitS hitE
  have hany : ((findTbl x.fmts st en).map ent).any (fun kv => kv.1 == (st : Int)) =
      (findTbl x.fmts st en).any (fun t => t.1 = st) := by
    rw [List.any_map]
    congr 1
    funext t
    by_cases h : t.1 = st
    · simp [ent, h]
    · have : ¬ ((t.1 : Int) = (st : Int)) := by omega
      simp [ent, h, this]
  rw [hany, ← List.map_reverse]
  have hrev : (if rev = true then (findTbl x.fmts st en).reverse.map ent else (findTbl x.fmts st en).map ent) =
      (if rev = true then (findTbl x.fmts st en).reverse else findTbl x.fmts st en).map ent := by
    cases rev <;> rfl
  rw [hrev]
  simp only [found_map]
  generalize findTbl x.fmts st en = T
  generalize x.ansiSettingsAt (st : Int) = c0
  have hlt : decide ((st : Int) < (en : Int)) = decide (st < en) := by simp [Int.ofNat_lt]
  have hp1 : (fun t : Nat × Point × List Setting => decide ((t.1 : Int) < (en : Int)) && AStr.allIn want t.2.2) =
      (fun t => decide (t.1 < en ∧ AStr.allIn want t.2.2 = true)) := by
    funext t; simp [Int.ofNat_lt]
  have hp2 : ∀ j : Nat,
      (fun t : Nat × Point × List Setting => decide ((t.1 : Int) > (j : Int)) && !AStr.allIn want t.2.2) =
        (fun t => decide (t.1 > j ∧ (!AStr.allIn want t.2.2) = true)) := by
    intro j; funext t; simp [Int.ofNat_lt]
  rw [hlt, hp1]
  generalize (if rev = true then T.reverse else T) = C
  have hcond : ((!T.any fun t => decide (t.fst = st)) = true ∧ st < en) ↔
      ((!T.any fun t => decide (t.fst = st)) && decide (st < en)) = true := by simp
  simp only [hcond]
  -- `start` itself, or the first hit among the candidates, or nothing: in each case both sides are the
  -- same up to the conversion of the keys
  cases ((!T.any fun t => decide (t.fst = st)) && decide (st < en))
  case' true => cases AStr.allIn want c0
  case' false | true.false => cases List.find? (fun t => decide (t.fst < en ∧ AStr.allIn want t.snd.snd = true)) C
  all_goals simp only [Bool.false_eq_true, if_true, if_false, hp2, Option.map_some, Option.map_none, Option.map_map]
  all_goals rfl

end L

open L ObjL

/-- the method was translated (it did not fall outside the translator's fragment) -/
theorem translated : Gen.findCoreOk = true := by decide

theorem findCore_eq (x : AStr) (hs : SortedKeys x.fmts) (A : List Setting) (st en : Nat) (rev : Bool) (hA : A ≠ []) :
    Gen.findCore x A (st : Int) (en : Int) rev =
      .ok (coreI (tblI x.fmts st en) (texts A) (st : Int) (en : Int) (x.ansiSettingsAt (st : Int)) rev) := by
  have hI := tblI_asc x.fmts hs st en
  have hemp : A.isEmpty = false := by cases A with
    | nil => exact absurd rfl hA
    | cons a l => rfl
  obtain ⟨c, hc⟩ := build_tbl st en x.fmts
  unfold Gen.findCore
  -- the test for no settings, and the copies of the loops behind `if found_start is None` that are dead
  -- because `found_start` is known there
  simp only [hemp, Bool.not_false, Bool.not_true, Bool.false_eq_true, if_false, if_true, Option.isNone_none,
    Option.isNone_some, Option.isSome_some, optGet_some, bind_ok]
  rw [foldlM_keysAsc hs (round := build st en) ?spec, hc]
  case spec =>
    intro s k p hg
    simp only [get_of_get? hg, bind_ok, C09c.iter_step_is_code, build]
    by_cases hc : st ≤ k ∧ k ≤ en
    · simp [hc] <;> omega
    · simp [hc] <;> omega
  simp only [bind_ok, all_hasTxt]
  generalize tblI x.fmts st en = I at hI ⊢
  unfold coreI
  cases hb : (!(I.any fun kv => kv.1 == (st : Int)) && decide ((st : Int) < (en : Int)))
  case' true =>
    rw [if_pos rfl, if_pos rfl]
    cases ha : AStr.allIn (texts A) (x.ansiSettingsAt (st : Int))
  case' true.true => rw [if_pos rfl, if_pos rfl]
  case' true.false => rw [if_neg Bool.false_ne_true, if_neg Bool.false_ne_true]
  case' false => rw [if_neg Bool.false_ne_true, if_neg Bool.false_ne_true]
  -- unless `start` is no key, lies before `end` and the settings hold there, `found_start` is searched
  -- for; nothing found gives `(None, None)`
  case' false | true.false =>
    refine bind_cands (hitS (en : Int) (texts A)) ?_ hI rev rfl rfl fun s' hs' => ?_
    rotate_left
    simp only [res_step, res_base] at hs'
    simp only [hs']
    cases found (hitS (en : Int) (texts A)) (if rev = true then I.reverse else I)
    case none => rfl
    simp only [Option.isSome_some, if_true, optGet_some, bind_ok]
  -- then `found_end` behind `found_start`
  any_goals
    refine bind_after (hitE (texts A)) ?_ hI _ rfl rfl fun s' hs' => ?_
    rotate_left
    simp only [res_step, res_base] at hs'
    simp only [hs']
  -- the rounds of the five search loops: nothing once `done` is set, else the settings of the key are
  -- fetched and tested
  all_goals
    refine ⟨fun s a hd => ?_, fun s a c hd hg => ?_⟩
    · exact if_pos hd
    · simp only [done_step, done_base] at hd
      simp only [hd, hg, bind_ok, Bool.false_eq_true, if_false, hitS, hitE]
      split
      · next h => exact ⟨_, rfl, h.symm, (if_pos h).symm⟩
      · next h => exact ⟨_, rfl, (Bool.of_not_eq_true h).symm, (if_neg h).symm⟩

theorem findCore_is_code (x : AStr) (hs : SortedKeys x.fmts) (A : List Setting) (s e : Option Int) (rev : Bool)
    (hgo : ¬ (sliceIdx x.len e x.len < sliceIdx x.len s 0)) :
    Gen.findCore x A (sliceIdx x.len s 0 : Nat) (sliceIdx x.len e x.len : Nat) rev =
      .ok (((x.findSettings (texts A) s e rev).1.map Int.ofNat), ((x.findSettings (texts A) s e rev).2.map Int.ofNat)) := by
  cases A with
  | nil =>
    unfold Gen.findCore AStr.findSettings
    simp [hgo, texts]
  | cons a A =>
    rw [findCore_eq x hs _ _ _ rev (by simp), coreI_model x _ s e rev hgo (by simp [texts])]

theorem findCore_never_error (x : AStr) (hs : SortedKeys x.fmts) (A : List Setting) (s e : Option Int) (rev : Bool)
    (hgo : ¬ (sliceIdx x.len e x.len < sliceIdx x.len s 0)) (err : Exc) :
    Gen.findCore x A (sliceIdx x.len s 0 : Nat) (sliceIdx x.len e x.len : Nat) rev ≠ .error err := by
  rw [findCore_is_code x hs A s e rev hgo]
  intro h; cases h

/-! ## A concrete value -/

/-- "abcdef", object 0 (`31`) from 0 to 6, object 1 (`1`) from 2 to 4 -/
def x0 : AStr :=
  { s := "abcdef".toList,
    fmts := [(0, { add := [⟨0, "31".toList⟩] }), (2, { add := [⟨1, "1".toList⟩] }),
             (4, { rem := [⟨1, "1".toList⟩] }), (6, { rem := [⟨0, "31".toList⟩] })] }

theorem x0_sorted : SortedKeys x0.fmts := by
  unfold SortedKeys
  decide

example : ¬ (sliceIdx x0.len (some 6) x0.len < sliceIdx x0.len (some 0) 0) := by decide
example : ¬ (sliceIdx x0.len none x0.len < sliceIdx x0.len (some (-3)) 0) := by decide

/-  `Gen.findCore` itself cannot be evaluated by `decide +kernel`: `Py.sortedInts` is `List.mergeSort`,
    which is defined by well-founded recursion and does not reduce in the kernel.  So the values are
    obtained through `findCore_is_code` and the evaluation of the model. -/
example : Gen.findCore x0 [⟨9, "1".toList⟩] 0 6 false = .ok (some 2, some 4) :=
  (findCore_is_code x0 x0_sorted [⟨9, "1".toList⟩] (some 0) (some 6) false (by decide)).trans (by decide +kernel)
example : Gen.findCore x0 [⟨9, "1".toList⟩] 3 6 true = .ok (some 3, some 4) :=
  (findCore_is_code x0 x0_sorted [⟨9, "1".toList⟩] (some 3) (some 6) true (by decide)).trans (by decide +kernel)
example : Gen.findCore x0 [⟨9, "31".toList⟩] 1 5 false = .ok (some 1, none) :=
  (findCore_is_code x0 x0_sorted [⟨9, "31".toList⟩] (some 1) (some 5) false (by decide)).trans (by decide +kernel)
example : Gen.findCore x0 [⟨9, "4".toList⟩] 0 6 false = .ok (none, none) :=
  (findCore_is_code x0 x0_sorted [⟨9, "4".toList⟩] (some 0) (some 6) false (by decide)).trans (by decide +kernel)
/-- negative bounds, `reverse`: the last key before `end` where `31` is active -/
example : Gen.findCore x0 [⟨9, "31".toList⟩] 2 6 true = .ok (some 4, some 6) := by
  have h := findCore_is_code x0 x0_sorted [⟨9, "31".toList⟩] (some (-4)) none true (by decide)
  rw [show sliceIdx x0.len (some (-4)) 0 = 2 by decide +kernel, show sliceIdx x0.len none x0.len = 6 by decide +kernel] at h
  exact h.trans (by decide +kernel)
/-- no settings asked for: the bounds themselves (no loop is run, this one is evaluated directly) -/
example : Gen.findCore x0 [] 1 5 false = .ok (some 1, some 5) := by decide +kernel

/-- the hypothesis `SortedKeys` is needed: on a table out of order the fetch of the point meets `Exc.key` -/
example : Gen.findCore { s := "abc".toList, fmts := [(2, {}), (0, {})] } [⟨9, "1".toList⟩] 0 3 false =
    .error .key := by decide +kernel

end C17d

#print axioms C17d.translated
#print axioms C17d.findCore_eq
#print axioms C17d.findCore_is_code
#print axioms C17d.findCore_never_error
