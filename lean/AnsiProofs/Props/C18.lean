import AnsiProofs.Lemmas.Effects
import AnsiProofs.Lemmas.StrLit
/-
  Property C18 — `parse_graphic_sequence` and `settings_to_dict` against a conforming terminal.

  "parse_graphic_sequence accepts a ';'-separated string or a list of ints/strings and splits it
  into settings such that reducing them in order with settings_to_dict gives exactly the effect
  state a conforming terminal reaches from its default state on the same code list:
  extended-colour groups are kept intact at any position, incomplete groups and unknown codes
  contribute nothing when add_erroneous=False, an empty sequence means reset; with
  add_erroneous=True every integer token of the input appears, in order, in the returned settings.
  settings_to_dict(settings, old) equals applying the same codes on top of old: an apply code
  replaces the entry of its effect group, a clear code deletes it, reset empties the state, and the
  arguments are not modified."

  The vocabulary is that of `AnsiProofs/Lemmas/Effects.lean` (hand-written, nothing generated):
  `Eff.groupOfEff` reads the library's effect numbers as terminal groups, and `Eff.alpha d` is the
  terminal state a dict stands for.  The FONT_TYPE entry whose value is `[10]` stands for "default
  font": the library files code 10 as an *apply*, a terminal clears the group.
  "The arguments are not modified" is built into the model (pure functions of immutable lists).
  The facts about the generated tables are `decide`d, so they are checked again when the tables
  change.
-/

open Term Eff

namespace C18

/-! ### the library's code table agrees with the terminal's -/

/-- the Boolean comparison of `AnsiParam(c)` with `Term.specEffect c` for all `c < 256` (plus: the
    three `AnsiParamEffectFn` values are distinct, every key of the table is below 256) -/
theorem tables_agree : tablesAgreeCheck = true := Eff.tables_agree

/-- the numbering `groupOfEff` assumes is the one of `AnsiParamEffect` -/
theorem effNames_numbering : Gen.effNames =
    [(1, "RESET"), (2, "BOLDNESS"), (3, "ITALICS"), (4, "UNDERLINE"), (5, "OVERLINE"), (6, "BLINKING"),
     (7, "SWAP_BG_FG"), (8, "VISIBILITY"), (9, "CROSSED_OUT"), (10, "FONT_TYPE"), (11, "SPACING"),
     (12, "BOXING"), (13, "FG_COLOR"), (14, "BG_COLOR"), (15, "UL_COLOR")] := effNames_eq

/-- a code is unknown to the library iff it is unknown to the terminal (every `c`, not only `< 256`) -/
theorem tables_agree_none (c : Nat) : ansiParam (c : Int) = none ↔ specEffect c = none := by
  have ps := param_spec c
  generalize ansiParam (c : Int) = q, specEffect c = a at ps ⊢
  cases ps <;> simp

theorem tables_agree_fn {c e fn : Nat} (h : ansiParam (c : Int) = some (e, fn)) :
    fn = Gen.fnResetAll ∨ fn = Gen.fnApply ∨ fn = Gen.fnClear := by
  have ps := param_spec c
  rw [h] at ps
  generalize specEffect c = a at ps
  cases ps <;> simp

theorem tables_agree_reset {c e fn : Nat} (h : ansiParam (c : Int) = some (e, fn)) :
    fn = Gen.fnResetAll ↔ specEffect c = some .reset := by
  have hd := fn_distinct
  have ps := param_spec c
  rw [h] at ps
  have h1 : Gen.fnClear ≠ Gen.fnResetAll := fun h => hd.2.1 h.symm
  have h2 : Gen.fnApply ≠ Gen.fnResetAll := fun h => hd.1 h.symm
  generalize specEffect c = a at ps
  cases ps <;> simp [h1, h2]

theorem tables_agree_clear {c e fn : Nat} (h : ansiParam (c : Int) = some (e, fn)) (hf : fn = Gen.fnClear) :
    ∃ g, groupOfEff e = some g ∧ specEffect c = some (.clear g) := by
  have hd := fn_distinct
  have ps := param_spec c
  rw [h] at ps
  subst hf
  generalize specEffect c = a at ps
  generalize hq : Gen.fnClear = q at ps
  cases ps
  · exact absurd hq.symm hd.2.1
  · exact ⟨_, ‹_›, rfl⟩
  · exact absurd hq.symm hd.2.2
  · exact absurd hq.symm hd.2.2
  · exact absurd hq.symm hd.2.2

theorem tables_agree_apply {c e fn : Nat} (h : ansiParam (c : Int) = some (e, fn)) (hf : fn = Gen.fnApply) :
    ∃ g, groupOfEff e = some g ∧
      (specEffect c = some (.set g) ∨ specEffect c = some (.ext g) ∨
        (c = 10 ∧ specEffect c = some (.clear g))) := by
  have hd := fn_distinct
  have ps := param_spec c
  rw [h] at ps
  subst hf
  generalize specEffect c = a at ps
  generalize hq : Gen.fnApply = q at ps
  cases ps
  · exact absurd hq.symm hd.1
  · exact absurd hq hd.2.2
  · exact ⟨_, ‹_›, .inl rfl⟩
  · exact ⟨_, ‹_›, .inr (.inl rfl)⟩
  · exact ⟨_, ‹_›, .inr (.inr ⟨‹_›, rfl⟩)⟩

theorem codes_ge_256_unknown {c : Nat} (h : 256 ≤ c) : ansiParam (c : Int) = none ∧ specEffect c = none :=
  ⟨ansiParam_ge h, specEffect_ge (by omega)⟩

theorem codes_negative_unknown {i : Int} (h : i < 0) : ansiParam i = none := by simp [ansiParam, h]

example : ansiParam ((38 : Nat) : Int) = some (13, Gen.fnApply) ∧ specEffect 38 = some (.ext .fg) := by decide +kernel
example : ansiParam ((10 : Nat) : Int) = some (10, Gen.fnApply) ∧ specEffect 10 = some (.clear .font) := by decide +kernel
example : ansiParam ((22 : Nat) : Int) = some (2, Gen.fnClear) ∧ specEffect 22 = some (.clear .boldness) := by decide +kernel

/-! ### `EFFECT_CLEAR_DICT` -/

/-- Boolean form (also: the RESET row holds a reset code, effects 2..15 all have a row) -/
theorem clear_correct_check : clearCheck = true := clear_check

/-- the clearing code of every effect clears exactly that effect's group on a terminal -/
theorem clear_correct {e code : Nat} (h : (e, code) ∈ Gen.clearTable) (he : e ≠ 1) :
    ∃ g, groupOfEff e = some g ∧ specEffect code = some (.clear g) := clear_row h he

theorem clear_reset {code : Nat} (h : (1, code) ∈ Gen.clearTable) : specEffect code = some .reset :=
  clear_row_reset h

theorem clear_total_2_15 {e : Nat} (h2 : 2 ≤ e) (h15 : e ≤ 15) : ∃ code, (e, code) ∈ Gen.clearTable :=
  clear_total h2 h15

example : (13, 39) ∈ Gen.clearTable ∧ (13 : Nat) ≠ 1 := by decide +kernel

/-! ### the control functions -/

theorem ctrlFns_eq :
    Gen.ctrlFns = [([38,5],1), ([38,2],3), ([48,5],1), ([48,2],3), ([58,5],1), ([58,2],3)] := Eff.ctrlFns_eq

/-! ### `settings_to_dict(settings, old)` = the same codes applied on top of `old` -/

/-- `['0']` (the reset setting) is a group text, so the disjunct of the hypothesis below is subsumed -/
theorem zero_isGroupTxt : isGroupTxt ['0'] = true := isGroupTxt_zero

theorem groupTxts {ss : List Setting} (h : ∀ s ∈ ss, isGroupTxt s.txt = true ∨ s.txt = ['0']) :
    ∀ s ∈ ss, isGroupTxt s.txt = true :=
  fun s hs => (h s hs).elim id (fun e => by rw [e]; exact zero_isGroupTxt)

theorem std_apply (ss : List Setting) (old : PyDict)
    (h : ∀ s ∈ ss, isGroupTxt s.txt = true ∨ s.txt = ['0']) (_hold : DictOK old) :
    alpha (settingsToDict ss old) = Term.feed (alpha old) (codesOf ss) :=
  alpha_settingsToDict (groupTxts h) old

/-- `DictOK old` is not needed for the equation -/
theorem std_apply_any (ss : List Setting) (old : PyDict)
    (h : ∀ s ∈ ss, isGroupTxt s.txt = true ∨ s.txt = ['0']) :
    alpha (settingsToDict ss old) = Term.feed (alpha old) (codesOf ss) :=
  alpha_settingsToDict (groupTxts h) old

theorem std_dictOK (ss : List Setting) (old : PyDict)
    (h : ∀ s ∈ ss, isGroupTxt s.txt = true ∨ s.txt = ['0']) (hold : DictOK old) :
    DictOK (settingsToDict ss old) :=
  dictOK_settingsToDict (groupTxts h) hold

theorem std_nil (old : PyDict) : settingsToDict [] old = old := rfl

/-- one step, spelled out: an apply code replaces the entry of its effect, a clear code deletes it,
    reset (and only reset) empties the dict, an unknown code changes nothing -/
theorem std_step (s : Setting) (ss : List Setting) (d : PyDict) :
    settingsToDict (s :: ss) d = settingsToDict ss
      (match SettingTxt.initialParam s.txt with
       | none => d
       | some (e, fn) =>
         if fn == Gen.fnApply then d.insert e s else if fn == Gen.fnClear then d.erase e else []) := rfl

/-- the feed algebra behind it: a complete group is consumed as a unit -/
theorem feed_codesOf_append (l l' : List Setting) (h : ∀ s ∈ l, isGroupTxt s.txt = true) (t : TState) :
    Term.feed t (codesOf (l ++ l')) = Term.feed (Term.feed t (codesOf l)) (codesOf l') :=
  Eff.feed_codesOf_append h t l'

-- non-vacuity: a non-trivial settings list and a non-trivial `old` satisfy the hypotheses
example : (∀ s ∈ [(⟨1, "1".toList⟩ : Setting), ⟨2, "38;5;214".toList⟩, ⟨3, "22".toList⟩, ⟨4, "10".toList⟩,
      ⟨5, "48;2;1;2;3".toList⟩, ⟨6, "0".toList⟩, ⟨7, "4".toList⟩],
      isGroupTxt s.txt = true ∨ s.txt = ['0']) := by
  simp only [strLitToList]; decide +kernel

example : DictOK [(13, ⟨7, "38;5;1".toList⟩), (2, ⟨8, "1".toList⟩), (10, ⟨9, "10".toList⟩)] := by
  refine ⟨by decide, ?_⟩
  intro kv hkv
  simp only [List.mem_cons, List.not_mem_nil, or_false] at hkv
  rcases hkv with rfl | rfl | rfl <;> decide +kernel

/-! ### `parse_graphic_sequence` + `settings_to_dict` = the terminal -/

/-- what `parse_graphic_sequence(codes)` returns: complete groups, which a terminal in its default state
    reads as it reads `codes` (the empty list gives the one group `[0]`) -/
theorem pgsList_groups (codes : List Nat) :
    ∃ gs : List (List Nat), (∀ g ∈ gs, GroupVals g) ∧ pgsList (ints codes) false = gs.map Scrub.joinNats ∧
      Term.feed Term.default (gs.flatten.map some) = Term.feed Term.default (codes.map some) := by
  by_cases hne : codes = []
  · subst hne
    refine ⟨[[0]], ?_, by decide, ?_⟩
    · intro g hg
      rw [List.mem_singleton.1 hg]
      exact .single 0 (by decide) (by decide) (by decide)
    · exact feed_reset (by decide) _ _
  · obtain ⟨gs, hgs⟩ := reads_exists codes
    exact ⟨gs, hgs.1, by rw [pgsList_ints hne, pgsItems_false hgs], hgs.2.2 _⟩

theorem pgs_terminal (codes : List Nat) :
    alpha (settingsToDict
        ((pgsList (codes.map (fun (c : Nat) => Code.int (c : Int))) false).map (fun t => (⟨0, t⟩ : Setting))) []) =
      Term.feed Term.default (codes.map some) := by
  obtain ⟨gs, hgv, he, hf⟩ := pgsList_groups codes
  have hnn : ∀ g ∈ gs, g ≠ [] := fun g hg => by cases hgv g hg <;> simp
  show alpha (settingsToDict ((pgsList (ints codes) false).map (fun t => (⟨0, t⟩ : Setting))) []) = _
  rw [he, alpha_settingsToDict, codesOf_groups gs hnn, alpha_nil, hf]
  intro s hs
  simp only [List.mem_map] at hs
  obtain ⟨t, ⟨g, hg, rfl⟩, rfl⟩ := hs
  exact isGroupTxt_joinNats (hgv g hg)

example : pgsList ([1, 38, 5, 214, 0, 38, 2, 1, 2, 3, 4, 38, 5].map (fun (c : Nat) => Code.int (c : Int))) false =
    ["1".toList, "38;5;214".toList, "0".toList, "38;2;1;2;3".toList, "4".toList] := by
  simp only [strLitToList]; decide +kernel

example : pgsList ([38, 7, 48, 5, 300, 99, 58, 2, 1, 2].map (fun (c : Nat) => Code.int (c : Int))) false =
    ["7".toList, "99".toList] := by decide +kernel

-- the state the two sides of `pgs_terminal` denote on this input (library side, evaluated)
example : (alpha (settingsToDict
      ((pgsList ([1, 38, 5, 214, 0, 38, 2, 1, 2, 3, 4, 38, 5].map (fun (c : Nat) => Code.int (c : Int))) false).map
        (fun t => (⟨0, t⟩ : Setting))) [])).toList =
    [(.underline, [4]), (.fg, [38, 2, 1, 2, 3])] := by decide +kernel

-- the default font (code 10) after font 11: the dict keeps the entry `"10"`, `alpha` reads it as default
example : (alpha (settingsToDict [(⟨1, "11".toList⟩ : Setting), ⟨2, "10".toList⟩, ⟨3, "48;5;7".toList⟩] [])).toList =
    [(.bg, [48, 5, 7])] := by
  simp only [strLitToList]; decide +kernel

/-! ### extended-colour groups are kept intact -/

theorem pgs_parsable (codes : List Nat) :
    ∀ t ∈ pgsList (codes.map (fun (c : Nat) => Code.int (c : Int))) false,
      ';' ∉ t ∨ SettingTxt.parsable t = true := by
  intro t ht
  obtain ⟨gs, hgv, he, _⟩ := pgsList_groups codes
  change t ∈ pgsList (ints codes) false at ht
  rw [he] at ht
  obtain ⟨g, hg, rfl⟩ := List.mem_map.1 ht
  cases hgv g hg with
  | single c _ _ _ => exact .inl (fun hm => natStr_noSemi c _ hm rfl)
  | idx c n hc hn => exact .inr (by rw [parsable_ext hc (.inl ⟨rfl, rfl⟩)]; simpa using hn)
  | rgb c r g b hc hr hg' hb => exact .inr (by rw [parsable_ext hc (.inr ⟨rfl, rfl⟩)]; simp [hr, hg', hb])

/-- more precisely: every returned text is one complete group -/
theorem pgs_groups (codes : List Nat) :
    ∀ t ∈ pgsList (codes.map (fun (c : Nat) => Code.int (c : Int))) false, isGroupTxt t = true := by
  intro t ht
  obtain ⟨gs, hgv, he, _⟩ := pgsList_groups codes
  change t ∈ pgsList (ints codes) false at ht
  rw [he] at ht
  obtain ⟨g, hg, rfl⟩ := List.mem_map.1 ht
  exact isGroupTxt_joinNats (hgv g hg)

example : SettingTxt.parsable "38;5;214".toList = true ∧ SettingTxt.parsable "38;2;1;2;3".toList = true := by
  simp only [strLitToList]; decide +kernel

/-! ### `add_erroneous=True`: every integer token appears, in order -/

theorem pgs_erroneous_tokens (codes : List Nat) (hne : codes ≠ []) :
    (pgsList (codes.map (fun (c : Nat) => Code.int (c : Int))) true).flatMap (Py.splitOnChar ';') =
      codes.map Py.natStr := by
  show (pgsList (ints codes) true).flatMap (Py.splitOnChar ';') = _
  rw [pgsList_ints hne, pgsItems_true_tokens]

example : pgsList ([38, 7, 48, 5, 300, 99, 58, 2, 1, 2].map (fun (c : Nat) => Code.int (c : Int))) true =
    ["38".toList, "7".toList, "48;5;300".toList, "99".toList, "58;2;1;2".toList] := by
  simp only [strLitToList]; decide +kernel

/-! ### an empty sequence means reset -/

theorem pgs_empty (b : Bool) : pgsList [] b = ["0".toList] ∧ pgsStr [] b = ["0".toList] := ⟨rfl, rfl⟩

/-! ### string input and list input agree -/

theorem pgs_str_list (codes : List Nat) (hne : codes ≠ []) (b : Bool) :
    pgsStr (joinSep [';'] (codes.map Py.natStr)) b =
      pgsList (codes.map (fun (c : Nat) => Code.int (c : Int))) b :=
  pgsStr_joinNats hne b

example : pgsStr "1;38;5;214;0;38;2;1;2;3;4;38;5".toList false =
    ["1".toList, "38;5;214".toList, "0".toList, "38;2;1;2;3".toList, "4".toList] := by
  simp only [strLitToList]; decide +kernel

end C18
