import AnsiModel.Pad
import AnsiProofs.Lemmas.Obj
import AnsiModel.Generated.Methods.Ljust
/-
  Property C12, part c — `ljust`, from the source.

  `Gen.ljust` is `AnsiString.ljust` translated statement by statement on every run (harness/pyobj.py:
  Python ints stay `Int`, `d.pop(k)` on an absent key and a negative key are explicit outcomes).  The
  theorems tie it to the hand-written `AStr.ljust` the C12 theorems are about — for every value (no
  well-formedness needed), width, fill character and both switches — and show that the two outcomes the
  model cannot represent do not occur.  (`rjust`, `center`, `_shift_settings_idx`: Props/C12b.lean.)
-/
namespace C12c

theorem translated : Gen.ljustOk = true := by decide

-- `Bool.and_self` below serves the source written `if extend_formatting and old_len in obj._fmts:`
set_option linter.unusedSimpArgs false in
theorem ljust_is_code (x : AStr) (w : Int) (c : Char) (inplace ext : Bool) :
    Gen.ljust x w [c] inplace ext = .ok (x.ljust w c ext) := by
  unfold Gen.ljust AStr.ljust
  dsimp only [AStr.len]
  generalize w - (x.s.length : Int) = num
  by_cases hnum : 0 < num
  · have h1 : 0 < num.toNat := by omega
    simp only [ite_self, hnum, h1, Py.strMul_single, List.length_singleton, Int.natCast_one, ne_eq,
      not_true_eq_false, decide_true, decide_false, if_true, if_false, Bool.false_eq_true]
    cases ext
    · rfl
    · -- the end point goes from the old end to the new end, both keys are lengths
      simp only [ObjL.has_nat, Fmts.contains]
      cases hg : x.fmts.get? x.s.length with
      | none => rfl
      | some p =>
        simp only [ObjL.pop_of_get? hg, ObjL.set_nat, ObjL.bind_ok, Option.isSome, Bool.and_self, if_true,
          List.length_append, List.length_replicate]
  · have h1 : ¬ 0 < num.toNat := by omega
    cases inplace <;> simp [hnum, h1]

/-- a fill string that is not one character: ValueError, whatever else is passed -/
theorem ljust_fill_error (x : AStr) (w : Int) (fill : Str) (inplace ext : Bool) (h : fill.length ≠ 1) :
    Gen.ljust x w fill inplace ext = .error (.py .valueError) := by
  unfold Gen.ljust
  have : ((fill.length : Int) ≠ 1) := by omega
  simp [this]

/-- the outcomes the model cannot hold (KeyError, a negative key) do not occur -/
theorem ljust_never_outside (x : AStr) (w : Int) (fill : Str) (inplace ext : Bool) :
    Gen.ljust x w fill inplace ext ≠ .error .key ∧ Gen.ljust x w fill inplace ext ≠ .error .outside := by
  by_cases h : fill.length = 1
  · obtain ⟨c, rfl⟩ := List.length_eq_one_iff.mp h
    rw [ljust_is_code]
    exact ⟨nofun, nofun⟩
  · rw [ljust_fill_error x w fill inplace ext h]
    exact ⟨nofun, nofun⟩

/-- non-vacuity: bold `ab` padded to 5 with the stop marker carried along, and without -/
def exV : AStr :=
  { s := "ab".toList, fmts := [(0, { add := [⟨0, "1".toList⟩] }), (2, { rem := [⟨0, "1".toList⟩] })] }

example : Gen.ljust exV 5 "*".toList false true =
    .ok { s := "ab***".toList, fmts := [(0, { add := [⟨0, "1".toList⟩] }), (5, { rem := [⟨0, "1".toList⟩] })] } := by
  decide +kernel
example : Gen.ljust exV 5 "*".toList true false =
    .ok { s := "ab***".toList, fmts := [(0, { add := [⟨0, "1".toList⟩] }), (2, { rem := [⟨0, "1".toList⟩] })] } := by
  decide +kernel
example : Gen.ljust exV 5 "**".toList true false = .error (.py .valueError) := by decide +kernel
example : Gen.ljust exV 1 "*".toList true true = .ok exV := by decide +kernel

end C12c

#print axioms C12c.ljust_is_code
#print axioms C12c.ljust_fill_error
#print axioms C12c.ljust_never_outside
