import AnsiProofs.Lemmas.RenderStrip
import AnsiProofs.Props.C18
import AnsiProofs.Lemmas.Basic
import AnsiProofs.Lemmas.Scrub
/-
  Lemmas for C01 (`to_str` against a conforming SGR terminal).  A list of complete groups acts on each group
  either as the identity or as a constant (`Simple`), hence is idempotent, and a leading `0` makes the prior
  state irrelevant: so re-emitting all current settings is right.  The optimised code string (clear codes ++
  changed entries) moves `alpha old` to `alpha new`.  The rendering loop then goes by induction over the
  change-point table, over the decomposition of one iteration in `Lemmas/RenderStrip`.
-/
open Term Eff RenderStripL

namespace RenderL

/-! ## parameters of a `;`-join -/

theorem splitSemi_ne_nil (s : List Char) : Term.splitSemi s ≠ [] := by
  rw [splitSemi_eq]; exact splitOnChar_ne_nil _ _

theorem splitSemi_append_semi (a b : List Char) :
    Term.splitSemi (a ++ ';' :: b) = Term.splitSemi a ++ Term.splitSemi b := by
  induction a with
  | nil => simp [Term.splitSemi]
  | cons c a ih =>
    by_cases hc : c = ';'
    · subst hc; simp [Term.splitSemi, ih]
    · have hc' : (c == ';') = false := by simpa using hc
      simp only [List.cons_append, Term.splitSemi, hc', Bool.false_eq_true, if_false, ih]
      cases hs : Term.splitSemi a with
      | nil => exact absurd hs (splitSemi_ne_nil a)
      | cons h t => simp

theorem params_append_semi (a b : List Char) :
    Term.params (a ++ ';' :: b) = Term.params a ++ Term.params b := by
  simp [Term.params, splitSemi_append_semi]

def codesT (ts : List Str) : List (Option Nat) := ts.flatMap Term.params

theorem codesT_nil : codesT [] = [] := rfl
theorem codesT_cons (t : Str) (ts : List Str) : codesT (t :: ts) = Term.params t ++ codesT ts := by
  simp [codesT]
theorem codesT_append (a b : List Str) : codesT (a ++ b) = codesT a ++ codesT b := by
  simp [codesT]
theorem codesT_texts (l : List Setting) : codesT (texts l) = codesOf l := by
  simp [codesT, texts, codesOf, List.flatMap_map]

theorem params_joinSep : ∀ (ts : List Str), ts ≠ [] → Term.params (joinSep [';'] ts) = codesT ts
  | [], h => absurd rfl h
  | [a], _ => by simp [joinSep, codesT]
  | a :: b :: rest, _ => by
    have ih := params_joinSep (b :: rest) (by simp)
    simp only [joinSep, List.append_assoc, List.singleton_append]
    rw [params_append_semi, ih, codesT_cons a]

theorem params_nil : Term.params [] = [some 0] := by decide

/-! ## group texts -/

/-- `GroupSettings` implies `is_formatting_valid()` -/
theorem valid_of_group {t : Str} (h : isGroupTxt t = true) : SettingTxt.valid t = true := by
  apply ScrubL.valid_of_items_digits
  intro v hv
  obtain ⟨it, hit, rfl⟩ := List.mem_map.1 hv
  have hd := (isGroupTxt_spec h).1 it hit
  rw [strip_digits (isdigit_iff.1 hd).2]
  exact hd

theorem groupTxt_ne_nil {t : Str} (h : isGroupTxt t = true) : t ≠ [] := by
  intro e; subst e; revert h; decide

theorem joinSep_eq_nil {sep : Str} : ∀ {ts : List Str}, (∀ t ∈ ts, t ≠ []) → joinSep sep ts = [] → ts = []
  | [], _, _ => rfl
  | [a], h, e => absurd (by simpa [joinSep] using e) (h a (by simp))
  | a :: b :: rest, h, e => by
    simp only [joinSep, List.append_assoc, List.append_eq_nil_iff] at e
    exact absurd e.1 (h a (by simp))

/-! ## feed algebra: what a list of complete groups does to each group -/

/-- a state transformer that, for each group, either keeps the old value or installs a fixed one -/
def Simple (φ : TState → TState) : Prop :=
  ∃ d : Group → Option (Option Val), ∀ t g, φ t g = (d g).getD (t g)

theorem Simple.idem {φ : TState → TState} (h : Simple φ) (t : TState) : φ (φ t) = φ t := by
  obtain ⟨d, hd⟩ := h
  funext g
  rw [hd (φ t) g, hd t g]
  cases d g <;> rfl

theorem Simple.comp {φ ψ : TState → TState} (h1 : Simple φ) (h2 : Simple ψ) : Simple (fun t => ψ (φ t)) := by
  obtain ⟨d1, hd1⟩ := h1
  obtain ⟨d2, hd2⟩ := h2
  refine ⟨fun g => match d2 g with | some v => some v | none => d1 g, ?_⟩
  intro t g
  show ψ (φ t) g = _
  rw [hd2, hd1]
  cases h : d2 g <;> simp [h]

theorem simple_id : Simple (fun t => t) := ⟨fun _ => none, fun _ _ => rfl⟩

theorem simple_put (g : Group) (v : Val) : Simple (fun t => t.put g v) := by
  refine ⟨fun g' => if g' = g then some (some v) else none, ?_⟩
  intro t g'
  by_cases h : g' = g <;> simp [TState.put, h]

theorem simple_drop (g : Group) : Simple (fun t => t.drop g) := by
  refine ⟨fun g' => if g' = g then some none else none, ?_⟩
  intro t g'
  by_cases h : g' = g <;> simp [TState.drop, h]

theorem simple_default : Simple (fun _ => Term.default) := ⟨fun _ => some none, fun _ _ => rfl⟩

theorem simple_group {vals : List Nat} (h : GroupVals vals) : Simple (fun t => feed t (vals.map some)) := by
  simp only [feed_group_nil h]
  unfold groupEffect
  cases vals.head?.bind specEffect with
  | none => exact simple_id
  | some act =>
    cases act with
    | reset => exact simple_default
    | set g => exact simple_put g _
    | clear g => exact simple_drop g
    | ext g => exact simple_put g _

theorem simple_groupTxt {t : Str} (h : isGroupTxt t = true) : Simple (fun st => feed st (Term.params t)) := by
  obtain ⟨h1, h2⟩ := isGroupTxt_spec h
  rw [params_of_digits h1]
  exact simple_group h2

theorem simple_codesOf {l : List Setting} (h : ∀ s ∈ l, isGroupTxt s.txt = true) :
    Simple (fun st => feed st (codesOf l)) := by
  induction l with
  | nil => simp only [codesOf_nil, feed_nil]; exact simple_id
  | cons s l ih =>
    have hs := h s (by simp)
    have := Simple.comp (simple_groupTxt hs) (ih (fun x hx => h x (by simp [hx])))
    simpa only [codesOf_cons, feed_groupTxt hs] using this

theorem feed_codesOf_idem {l : List Setting} (h : ∀ s ∈ l, isGroupTxt s.txt = true) (t : TState) :
    feed (feed t (codesOf l)) (codesOf l) = feed t (codesOf l) :=
  (simple_codesOf h).idem t

theorem feed_reemit {l : List Setting} (h : ∀ s ∈ l, isGroupTxt s.txt = true) (m : List Setting) (t : TState) :
    feed (feed t (codesOf l)) (codesOf (l ++ m)) = feed t (codesOf (l ++ m)) := by
  rw [feed_codesOf_append h, feed_codesOf_append h, feed_codesOf_idem h]

theorem specEffect_0 : specEffect 0 = some .reset := by decide

theorem feed_zero (t : TState) (l : List (Option Nat)) : feed t (some 0 :: l) = feed Term.default l :=
  feed_reset specEffect_0 t l

/-! ## Python dicts -/

theorem get?_erase (d : PyDict) (e k : Nat) : (d.erase e).get? k = if k = e then none else d.get? k := by
  unfold PyDict.get?; rw [find_erase]; split <;> simp

theorem get?_foldl_erase (es : List Nat) (d : PyDict) (k : Nat) :
    (es.foldl PyDict.erase d).get? k = if k ∈ es then none else d.get? k := by
  induction es generalizing d with
  | nil => simp
  | cons e es ih =>
    simp only [List.foldl_cons, ih, get?_erase, List.mem_cons]
    by_cases h1 : k ∈ es <;> by_cases h2 : k = e <;> simp [h1, h2]

/-! ## the optimised code string -/

/-- a dict entry as `settings_to_dict` files it -/
def EntryOK (kv : Nat × Setting) : Prop :=
  isGroupTxt kv.2.txt = true ∧ SettingTxt.initialParam kv.2.txt = some (kv.1, Gen.fnApply)

theorem entry_group {kv : Nat × Setting} (h : EntryOK kv) : ∃ g, groupOfEff kv.1 = some g := by
  obtain ⟨h1, h2⟩ := isGroupTxt_spec h.1
  have hi := initialParam_of_digits h1
  rw [h.2] at hi
  generalize valsOf kv.2.txt = vals at h2 hi
  cases h2 <;>
  · simp only [List.head?_cons, Option.map_some, Option.bind_some] at hi
    obtain ⟨g, hg, _⟩ := C18.tables_agree_apply hi.symm rfl
    exact ⟨g, hg⟩

theorem dictStep_entry {kv : Nat × Setting} (h : EntryOK kv) (d : PyDict) :
    dictStep d kv.2 = d.insert kv.1 kv.2 := by
  unfold dictStep; rw [h.2]; simp

theorem clearCode_spec {e : Nat} {g : Group} (hg : groupOfEff e = some g) :
    ∃ code, Render.clearCode e = Py.natStr code ∧ specEffect code = some (.clear g) := by
  have he := groupOfEff_eq_some.1 hg
  have hr : 2 ≤ e ∧ e ≤ 15 := by subst he; cases g <;> decide
  obtain ⟨code, hc⟩ := C18.clear_total_2_15 hr.1 hr.2
  unfold Render.clearCode
  cases hf : Gen.clearTable.find? (fun r => r.1 == e) with
  | none =>
    have := List.find?_eq_none.1 hf _ hc
    simp at this
  | some r =>
    have h1 := List.find?_some hf
    have h2 := List.mem_of_find?_eq_some hf
    simp only [beq_iff_eq] at h1
    obtain ⟨a, b⟩ := r
    simp only at h1; subst h1
    obtain ⟨g', hg', hs⟩ := C18.clear_correct h2 (by omega)
    rw [hg] at hg'; cases hg'
    exact ⟨b, rfl, hs⟩

theorem params_natStr (n : Nat) : Term.params (Py.natStr n) = [some n] :=
  params_joinNats (l := [n]) (by simp)

theorem feed_clears (es : List Nat) (h : ∀ e ∈ es, ∃ g, groupOfEff e = some g) (d : PyDict)
    (rest : List (Option Nat)) :
    feed (alpha d) (codesT (es.map Render.clearCode) ++ rest) = feed (alpha (es.foldl PyDict.erase d)) rest := by
  induction es generalizing d with
  | nil => simp [codesT_nil]
  | cons e es ih =>
    obtain ⟨g, hg⟩ := h e (by simp)
    obtain ⟨code, hc, hs⟩ := clearCode_spec hg
    simp only [List.map_cons, codesT_cons, hc, params_natStr, List.cons_append, List.nil_append,
      List.foldl_cons]
    rw [feed_clear hs, ← alpha_erase hg, ih (fun x hx => h x (by simp [hx]))]

theorem feed_entries (l : List (Nat × Setting)) (h : ∀ kv ∈ l, EntryOK kv) (d : PyDict)
    (rest : List (Option Nat)) :
    feed (alpha d) (codesT (l.map (fun kv => kv.2.txt)) ++ rest) = feed (alpha (PyDict.insAll l d)) rest := by
  induction l generalizing d with
  | nil => simp [codesT_nil]
  | cons a l ih =>
    have ha := h a (by simp)
    simp only [List.map_cons, codesT_cons, List.append_assoc, PyDict.insAll, List.foldl_cons]
    rw [feed_groupTxt ha.1, ← alpha_dictStep ha.1, dictStep_entry ha, ih (fun x hx => h x (by simp [hx]))]

/-- the `old_settings_dict[key] != value` test of the optimiser -/
def changedP (old : PyDict) (kv : Nat × Setting) : Bool :=
  match old.get? kv.1 with
  | none => true
  | some v => v.txt != kv.2.txt

/-- the items of the optimised code string: clear codes of the effects that left the dict, then the
    texts of the new or changed entries -/
def optItems (old new : PyDict) : List Str :=
  (old.filter (fun kv => !new.contains kv.1)).map (fun kv => Render.clearCode kv.1) ++
  (new.filter (changedP old)).map (fun kv => kv.2.txt)

theorem opt_feed {old new : PyDict} (ho : DictOK old) (hn : DictOK new) :
    feed (alpha old) (codesT (optItems old new)) = alpha new := by
  have e1 : (old.filter (fun kv => !new.contains kv.1)).map (fun kv => Render.clearCode kv.1) =
      ((old.filter (fun kv => !new.contains kv.1)).map (·.1)).map Render.clearCode := by
    simp [List.map_map, Function.comp_def]
  unfold optItems
  rw [codesT_append, e1, feed_clears, ← List.append_nil (codesT _), feed_entries, feed_nil]
  · apply alpha_congr
    intro k
    by_cases hk : ∃ kv ∈ new.filter (changedP old), kv.1 = k
    · obtain ⟨kv, hkv, rfl⟩ := hk
      rw [PyDict.get?_insAll_mem _ (hn.1.filter _) _ kv hkv,
        PyDict.get?_of_mem hn.1 (List.mem_filter.1 hkv).1]
    · rw [PyDict.get?_insAll_not_mem _ _ _ (fun kv hkv e => hk ⟨kv, hkv, e⟩), get?_foldl_erase]
      cases hnew : new.get? k with
      | some s =>
        have hmem := PyDict.mem_of_get? hnew
        have hnc : ¬ (changedP old (k, s) = true) := fun hc => hk ⟨(k, s), List.mem_filter.2 ⟨hmem, hc⟩, rfl⟩
        have hnr : k ∉ (old.filter (fun kv => !new.contains kv.1)).map (·.1) := by
          intro hm
          obtain ⟨kv, hkv, rfl⟩ := List.mem_map.1 hm
          have := (List.mem_filter.1 hkv).2
          have hc : new.contains kv.1 = true := PyDict.contains_iff.2 ⟨_, hmem, rfl⟩
          simp [hc] at this
        rw [if_neg hnr]
        unfold changedP at hnc
        cases hold : old.get? k with
        | none => simp [hold] at hnc
        | some v => simpa [hold] using hnc
      | none =>
        split
        · rfl
        · rename_i hnr
          cases hold : old.get? k with
          | none => rfl
          | some v =>
            exfalso; apply hnr
            have hc : new.contains k = false := Bool.eq_false_iff.2 fun hc => by
              obtain ⟨kv, hkv, rfl⟩ := PyDict.contains_iff.1 hc
              rw [PyDict.get?_of_mem hn.1 hkv] at hnew
              cases hnew
            refine List.mem_map.2 ⟨(k, v), List.mem_filter.2 ⟨PyDict.mem_of_get? hold, ?_⟩, rfl⟩
            simp [hc]
  · intro kv hkv; exact hn.2 kv (List.mem_filter.1 hkv).1
  · intro e he
    obtain ⟨kv, hkv, rfl⟩ := List.mem_map.1 he
    exact entry_group (ho.2 kv (List.mem_filter.1 hkv).1)

theorem optItems_ne_nil {old new : PyDict} (ho : DictOK old) (hn : DictOK new) :
    ∀ t ∈ optItems old new, t ≠ [] := by
  intro t ht
  rcases List.mem_append.1 ht with h | h
  · obtain ⟨kv, hkv, rfl⟩ := List.mem_map.1 h
    obtain ⟨g, hg⟩ := entry_group (ho.2 kv (List.mem_filter.1 hkv).1)
    obtain ⟨code, hc, _⟩ := clearCode_spec hg
    rw [hc]; exact (natStr_spec code).1
  · obtain ⟨kv, hkv, rfl⟩ := List.mem_map.1 h
    exact groupTxt_ne_nil (hn.2 kv (List.mem_filter.1 hkv).1).1

/-! ## the emitted sequence moves the terminal from `eff prev` to `eff cur` -/

theorem params_zero : Term.params ['0'] = [some 0] := by decide

theorem eff_nil : eff [] = Term.default := by simp [eff, codesOf_nil, feed_nil]

theorem groupTxt_stepPoint {prev : List Setting} {p : Point}
    (hprev : ∀ s ∈ prev, isGroupTxt s.txt = true) (hadd : ∀ s ∈ p.add, isGroupTxt s.txt = true) :
    ∀ s ∈ stepPoint prev p, isGroupTxt s.txt = true :=
  fun s hs => (mem_stepPoint hs).elim (hprev s) (hadd s)

theorem nonFinal_of_groupTxt {l : List Setting} (h : ∀ s ∈ l, isGroupTxt s.txt = true) :
    ∀ s ∈ l, NonFinal s.txt :=
  fun s hs => nonFinal_of_valid (valid_of_group (h s hs))

theorem params_zeroSep (codes : Str) :
    Term.params (joinSep Gen.ansiSep [Py.natStr Gen.paramReset, codes]) = some 0 :: Term.params codes := by
  rw [ansiSep_eq, resetStr_eq]
  exact params_append_semi ['0'] codes

/-- the non-optimised string: all current settings, after a reset when something stopped -/
theorem feed_baseCodes {prev : List Setting} (p : Point)
    (hprev : ∀ s ∈ prev, isGroupTxt s.txt = true) :
    feed (eff prev) (Term.params (baseCodes p (stepPoint prev p))) = eff (stepPoint prev p) := by
  unfold baseCodes
  by_cases hcur : stepPoint prev p = []
  · simp only [hcur, texts, List.map_nil, List.isEmpty_nil, Bool.not_true, Bool.false_eq_true, and_false,
      if_false, joinSep, params_nil, feed_zero, feed_nil, eff_nil]
  · have hne : texts (stepPoint prev p) ≠ [] := by simpa [texts] using hcur
    rw [ansiSep_eq, resetStr_eq]
    by_cases hrem : p.rem = []
    · have hc : stepPoint prev p = prev ++ p.add := by simp [stepPoint, hrem]
      rw [if_neg (by simp [hrem]), params_joinSep _ hne, codesT_texts, hc]
      exact feed_reemit hprev _ _
    · rw [if_pos ⟨by simpa using hrem, by simpa using hne⟩, params_joinSep _ (List.cons_ne_nil _ _),
        codesT_cons, params_zero, codesT_texts]
      exact feed_zero _ _

theorem optCodes_eq (old : PyDict) (cur : List Setting) :
    optCodes old cur = joinSep Gen.ansiSep (optItems old (settingsToDict cur [])) := rfl

theorem feed_optCodes {prev cur : List Setting} {old : PyDict} (ho1 : alpha old = eff prev) (ho2 : DictOK old)
    (hcur : ∀ s ∈ cur, isGroupTxt s.txt = true) :
    (optCodes old cur = [] → eff prev = eff cur) ∧
    (optCodes old cur ≠ [] → feed (eff prev) (Term.params (optCodes old cur)) = eff cur) := by
  have hof := opt_feed ho2 (dictOK_settingsToDict hcur dictOK_nil)
  rw [ho1, ← eff_eq_alpha hcur] at hof
  rw [optCodes_eq, ansiSep_eq]
  constructor
  · intro hE
    rwa [joinSep_eq_nil (optItems_ne_nil ho2 (dictOK_settingsToDict hcur dictOK_nil)) hE, codesT_nil,
      feed_nil] at hof
  · intro hE
    rwa [params_joinSep _ (fun e => hE (by rw [e]; rfl))]

/-- one change point, whichever string the loop picks (`chosen`; first component `false`: nothing is written) -/
theorem transition {prev : List Setting} (p : Point) {old : PyDict} (opt : Bool)
    (hprev : ∀ s ∈ prev, isGroupTxt s.txt = true) (hadd : ∀ s ∈ p.add, isGroupTxt s.txt = true)
    (hold : opt = true → alpha old = eff prev ∧ DictOK old) :
    feed (eff prev) (Term.params (chosen opt old p (stepPoint prev p)).2) = eff (stepPoint prev p) ∧
    ((chosen opt old p (stepPoint prev p)).1 = false → eff prev = eff (stepPoint prev p)) := by
  have hU := feed_baseCodes p hprev
  have hO := fun ho => feed_optCodes (hold ho).1 (hold ho).2 (groupTxt_stepPoint hprev hadd)
  exact chosen_ind (P := fun ac => feed (eff prev) (Term.params ac.2) = eff (stepPoint prev p) ∧
      (ac.1 = false → eff prev = eff (stepPoint prev p)))
    ⟨hU, fun h => by cases h⟩ (fun ho hE => ⟨hU, fun _ => (hO ho).1 hE⟩)
    (fun ho hE => ⟨(hO ho).2 hE, fun h => by cases h⟩)

/-! ## what is displayed -/

/-- the characters of `l` (a prefix of the text), each under the style the value reports for it -/
def dispL (x : AStr) (l : Str) : List (Char × TState) := l.zipIdx.map (fun ci => (ci.1, eff (act x ci.2)))

theorem dispL_append (x : AStr) (a b : Str) (c : List Setting)
    (h : ∀ i, a.length ≤ i → i < a.length + b.length → act x i = c) :
    dispL x (a ++ b) = dispL x a ++ b.map (fun ch => (ch, eff c)) := by
  unfold dispL
  rw [List.zipIdx_append, List.map_append]
  congr 1
  simp only [Nat.zero_add]
  exact ParseTextL.zipIdx_map_const b a.length (fun i => eff (act x i)) (eff c) (fun i h1 h2 => by rw [h i h1 h2])

theorem dispL_take (x : AStr) {a k : Nat} (hak : a ≤ k) (hk : k ≤ x.len) (c : List Setting)
    (h : ∀ i, a ≤ i → i < k → act x i = c) :
    dispL x (x.s.take k) = dispL x (x.s.take a) ++ ((x.s.take k).drop a).map (fun ch => (ch, eff c)) := by
  have h1 : (x.s.take a).length = a := List.length_take_of_le (Nat.le_trans hak hk)
  have h2 : ((x.s.take k).drop a).length = k - a := by rw [List.length_drop, List.length_take_of_le hk]
  conv => lhs; rw [← take_append_seg x.s hak]
  refine dispL_append x _ _ c (fun i hi1 hi2 => h i (h1 ▸ hi1) ?_)
  rwa [h1, h2, Nat.add_sub_of_le hak] at hi2

/-! ## the loop -/

theorem reaches_sgr (t : TState) {codes : Str} (h : NonFinal codes) :
    Reaches t (Render.sgr codes) [] (feed t (Term.params codes)) := by
  rw [sgr_eq]; exact Reaches.sgr t h

theorem reaches_clear (t : TState) : Reaches t Gen.escapeClear [] Term.default := by
  have := reaches_sgr t NonFinal.nil
  rwa [← escapeClear_sgr, params_nil, feed_zero, feed_nil] at this

/-- the loop of `to_str` over the rest `f` of the table, `cur` being the iterator's settings -/
def loop (x : AStr) (opt rs : Bool) (cur : List Setting) (f : Fmts) (st : Render.St) : Render.St :=
  ((replayFrom cur f).takeWhile (fun t => t.1 < x.len)).foldl (Render.step x.s opt rs) st

theorem render_eq (x : AStr) (o rs re : Bool) :
    Render.render x o rs re = finish x.s rs re (loop x (o && x.isFormattingParsable) rs [] x.fmts {}) := rfl

theorem loop_cons (x : AStr) (opt rs : Bool) (cur : List Setting) (k : Nat) (p : Point) (rest : Fmts)
    (st : Render.St) :
    loop x opt rs cur ((k, p) :: rest) st =
      if k < x.len then
        loop x opt rs (stepPoint cur p) rest (Render.step x.s opt rs st (k, p, stepPoint cur p))
      else st := by
  unfold loop
  simp only [replayFrom, List.takeWhile_cons]
  by_cases h : k < x.len <;> simp [h]

/-- the style of the last character (what the terminal is left in when `reset_end=False`) -/
def lastStyle (x : AStr) : List Setting := if x.len = 0 then [] else act x (x.len - 1)

structure Inv (x : AStr) (t0 : TState) (opt : Bool) (cur : List Setting) (f : Fmts) (st : Render.St) : Prop where
  ltLen : st.first = false → st.last < x.len
  sorted : SortedKeys f
  keysGt : st.first = false → ∀ kp ∈ f, st.last < kp.1
  actEq : ∀ i, st.last ≤ i → act x i = activeFrom cur f i
  curG : ∀ s ∈ cur, isGroupTxt s.txt = true
  fG : ∀ kp ∈ f, ∀ s ∈ kp.2.add, isGroupTxt s.txt = true
  firstSt : st.first = true → st.out = [] ∧ st.last = 0 ∧ cur = []
  reach : st.first = false → Reaches t0 st.out (dispL x (x.s.take st.last)) (eff cur)
  dict : opt = true → alpha st.dict = eff cur ∧ DictOK st.dict
  exist : st.exist = !cur.isEmpty

/-- The output so far, the reset that `reset_start` puts in front of the first text (under the
    condition `c` of the place in question) and the text up to `k`, over which the settings are still
    `cur`.  Without that reset the terminal must have started in its default state. -/
theorem Inv.reach_seg {x t0 opt cur f st} (inv : Inv x t0 opt cur f st) (hne : NoEsc x.s)
    {c : Prop} [Decidable c] (hc : ¬ c → t0 = Term.default) {k : Nat} (hlk : st.last ≤ k) (hk : k ≤ x.len)
    (hseg : ∀ i, st.last ≤ i → i < k → act x i = cur) :
    Reaches t0 ((if st.first ∧ c then st.out ++ Gen.escapeClear else st.out) ++ (x.s.take k).drop st.last)
      (dispL x (x.s.take k)) (eff cur) := by
  have R1 : Reaches t0 (if st.first ∧ c then st.out ++ Gen.escapeClear else st.out)
      (dispL x (x.s.take st.last)) (eff cur) := by
    cases hf : st.first with
    | false => simpa using inv.reach hf
    | true =>
      obtain ⟨h1, h2, h3⟩ := inv.firstSt hf
      rw [h1, h2, h3, eff_nil]
      by_cases hcc : c
      · simpa [hcc, dispL] using reaches_clear t0
      · rw [hc hcc]
        simpa [hcc, dispL] using Reaches.nil Term.default
  have R2 := R1.trans (Reaches.text (eff cur)
    (fun hm => hne (List.mem_of_mem_take (List.mem_of_mem_drop hm)) : '\x1b' ∉ (x.s.take k).drop st.last))
  rwa [← dispL_take x hlk hk cur hseg] at R2

/-- `last` is 0 before the first change point; afterwards it is below the length and the keys to come -/
theorem Inv.last_le {x t0 opt cur f st} (inv : Inv x t0 opt cur f st) {n : Nat}
    (h : st.first = false → st.last ≤ n) : st.last ≤ n := by
  cases hf : st.first with
  | true => rw [(inv.firstSt hf).2.1]; exact Nat.zero_le _
  | false => exact h hf

theorem finish_correct {x : AStr} {t0 : TState} {opt rs : Bool} (re : Bool) {cur : List Setting} {f : Fmts}
    {st : Render.St} (hne : NoEsc x.s) (h0 : rs = true ∨ t0 = Term.default)
    (inv : Inv x t0 opt cur f st) (hend : ∀ i, st.last ≤ i → i < x.len → act x i = cur) :
    Reaches t0 (finish x.s rs re st) (den x) (if re then Term.default else eff (lastStyle x)) := by
  have R2 : Reaches t0 ((if st.first ∧ rs then st.out ++ Gen.escapeClear else st.out) ++ x.s.drop st.last)
      (den x) (eff cur) := by
    have := inv.reach_seg hne (c := rs = true) (fun h => h0.resolve_left h) (inv.last_le fun hf => Nat.le_of_lt (inv.ltLen hf)) (Nat.le_refl _) hend
    rw [show x.s.take x.len = x.s from List.take_length] at this
    exact this
  unfold finish
  by_cases hE : st.exist = true ∧ re = true
  · rw [if_pos hE, hE.2]
    simpa using R2.trans (reaches_clear (eff cur))
  · rw [if_neg hE]
    cases re with
    | true =>
      have hc : cur = [] := by simpa [inv.exist] using hE
      rw [hc, eff_nil] at R2
      exact R2
    | false =>
      have : cur = lastStyle x := by
        unfold lastStyle
        split
        · rename_i hl
          exact (inv.firstSt (Bool.of_not_eq_false fun hf => Nat.not_lt_zero _ (hl ▸ inv.ltLen hf))).2.2
        · rename_i hl
          exact (hend _ (inv.last_le fun hf => Nat.le_sub_one_of_lt (inv.ltLen hf)) (Nat.sub_one_lt hl)).symm
      rw [this] at R2
      exact R2

theorem inv_step {x : AStr} {t0 : TState} {opt rs : Bool} {cur : List Setting} {k : Nat} {p : Point}
    {rest : Fmts} {st : Render.St} (hne : NoEsc x.s) (h0 : rs = true ∨ t0 = Term.default)
    (inv : Inv x t0 opt cur ((k, p) :: rest) st) (hk : k < x.len) :
    Inv x t0 opt (stepPoint cur p) rest (Render.step x.s opt rs st (k, p, stepPoint cur p)) := by
  have hlk : st.last ≤ k := inv.last_le fun hf => Nat.le_of_lt (inv.keysGt hf (k, p) (by simp))
  have hseg : ∀ i, st.last ≤ i → i < k → act x i = cur := by
    intro i h1 h2
    rw [inv.actEq i h1, activeFrom, if_neg (Nat.not_le_of_lt h2)]
  have hadd := inv.fG (k, p) (by simp)
  have hcur := groupTxt_stepPoint inv.curG hadd
  have hnf := nonFinal_codes.emit opt rs st.dict k p (nonFinal_of_groupTxt hcur)
  refine ⟨fun _ => hk, Fmts.sorted_tail inv.sorted, fun _ kp hkp => Fmts.sorted_head_lt inv.sorted kp hkp,
    ?_, hcur, fun kp hkp => inv.fG kp (by simp [hkp]), (fun h => by cases h), fun _ => ?_, fun ho => ?_, rfl⟩
  · intro i hi
    have hi' : k ≤ i := hi
    rw [inv.actEq i (Nat.le_trans hlk hi'), activeFrom, if_pos hi']
  · rw [step_out, step_last]
    rw [emitAC_eq] at hnf ⊢
    by_cases hA : k = 0 ∧ rs = true
    · -- the first change point sits at index 0 and carries the reset of `reset_start` itself
      obtain ⟨rfl, rfl⟩ := hA
      have hf : st.first = true :=
        Bool.of_not_eq_false fun hf => Nat.not_lt_zero _ (inv.keysGt hf (0, p) (by simp))
      obtain ⟨h1, h2, rfl⟩ := inv.firstSt hf
      rw [if_pos (And.intro rfl rfl)] at hnf ⊢
      have R := reaches_sgr t0 hnf
      rw [params_zeroSep, feed_zero, ← eff_nil, (transition p opt inv.curG hadd inv.dict).1] at R
      simpa [stepPre, h1, h2, dispL] using R
    · rw [if_neg hA] at hnf ⊢
      have R2 : Reaches t0 (stepPre x.s rs st k) (dispL x (x.s.take k)) (eff cur) :=
        inv.reach_seg hne (c := k > 0 ∧ rs = true)
          (fun hB => h0.resolve_left (fun hrs => hB ⟨Nat.pos_of_ne_zero (fun h => hA ⟨h, hrs⟩), hrs⟩)) hlk (Nat.le_of_lt hk) hseg
      obtain ⟨tr1, tr2⟩ := transition p opt inv.curG hadd inv.dict
      split
      · rw [← tr1]
        simpa using R2.trans (reaches_sgr (eff cur) hnf)
      · rename_i hc
        rwa [← tr2 (by simpa using hc)]
  · subst ho
    rw [step_dict, if_pos rfl]
    exact ⟨(eff_eq_alpha hcur).symm, dictOK_settingsToDict hcur dictOK_nil⟩

theorem loop_correct {x : AStr} {t0 : TState} {opt rs : Bool} (re : Bool) (hne : NoEsc x.s)
    (h0 : rs = true ∨ t0 = Term.default) :
    ∀ (f : Fmts) (cur : List Setting) (st : Render.St), Inv x t0 opt cur f st →
      Reaches t0 (finish x.s rs re (loop x opt rs cur f st)) (den x)
        (if re then Term.default else eff (lastStyle x)) := by
  intro f
  induction f with
  | nil =>
    intro cur st inv
    exact finish_correct re hne h0 inv (fun i h1 _ => by rw [inv.actEq i h1]; rfl)
  | cons kp rest ih =>
    obtain ⟨k, p⟩ := kp
    intro cur st inv
    rw [loop_cons]
    split
    · rename_i hk
      exact ih _ _ (inv_step hne h0 inv hk)
    · rename_i hk
      refine finish_correct re hne h0 inv (fun i h1 h2 => ?_)
      rw [inv.actEq i h1, activeFrom, if_neg fun hki => hk (Nat.lt_of_le_of_lt hki h2)]

theorem inv_init {x : AStr} (t0 : TState) (opt : Bool) (hs : SortedKeys x.fmts) (hg : GroupSettings x) :
    Inv x t0 opt [] x.fmts {} := by
  refine ⟨(fun h => by cases h), hs, (fun h => by cases h), fun _ _ => rfl, (fun _ h => by cases h), ?_,
    fun _ => ⟨rfl, rfl, rfl⟩, (fun h => by cases h), fun _ => ⟨by rw [alpha_nil, eff_nil], dictOK_nil⟩, rfl⟩
  intro kp hkp s hs'
  exact hg s (List.mem_flatMap.2 ⟨kp, hkp, List.mem_append_left _ hs'⟩)

theorem render_run {x : AStr} (hs : SortedKeys x.fmts) (hg : GroupSettings x) (hne : NoEsc x.s)
    (o rs re : Bool) (t0 : TState) (h0 : rs = true ∨ t0 = Term.default) :
    Term.run t0 (Render.render x o rs re) = (den x, if re then Term.default else eff (lastStyle x)) := by
  rw [render_eq]
  exact (loop_correct re hne h0 _ _ _ (inv_init t0 _ hs hg)).run

/-! ## the output begins with a reset when `reset_start` -/

/-- `out` begins with an SGR sequence whose first parameter is 0 (or empty) -/
def Begins (out : Str) : Prop :=
  ∃ ps rest, out = '\x1b' :: '[' :: ps ++ 'm' :: rest ∧ (∀ c ∈ ps, Term.isFinal c = false) ∧
    (Term.params ps).head? = some (some 0)

theorem Begins.append {a : Str} (h : Begins a) (b : Str) : Begins (a ++ b) := by
  obtain ⟨ps, rest, e, h1, h2⟩ := h
  exact ⟨ps, rest ++ b, by rw [e]; simp, h1, h2⟩

theorem begins_sgr {cs : Str} (h1 : NonFinal cs) (h2 : (Term.params cs).head? = some (some 0)) :
    Begins (Render.sgr cs) :=
  ⟨cs, [], by rw [sgr_eq], h1, h2⟩

theorem begins_clear : Begins Gen.escapeClear :=
  escapeClear_sgr ▸ begins_sgr NonFinal.nil (by rw [params_nil]; rfl)

/-- The first thing written is the reset sequence, or, when the first change point sits at index 0,
    the sequence of that point with `0` put in front; everything else is appended to it.  Only the
    settings' freedom from final bytes is used (`is_formatting_valid()`, see
    `nonFinal_of_formattingValid`). -/
theorem render_begins {x : AStr} (hv : ∀ kp ∈ x.fmts, ∀ s ∈ kp.2.add, NonFinal s.txt) (o re : Bool) :
    Begins (Render.render x o true re) := by
  rw [render_eq_finish]
  generalize (o && x.isFormattingParsable) = opt
  have hnf := forall_pts hv
  generalize pts x = l at hnf
  cases l with
  | nil =>
    have : finish x.s true re {} = Gen.escapeClear ++ x.s := by simp [finish]
    rw [List.foldl_nil, this]
    exact begins_clear.append _
  | cons t l =>
    obtain ⟨k, p, cur⟩ := t
    obtain ⟨tail1, h1⟩ := foldl_out_prefix x.s opt true l (Render.step x.s opt true {} (k, p, cur))
    rw [List.foldl_cons, finish_of_not_first _ _ _ (foldl_step_first _ _ _ _ _ (step_first x.s opt true {} (k, p, cur))),
      h1, List.append_assoc]
    refine Begins.append ?_ _
    rw [step_out]
    by_cases hk0 : k = 0
    · subst hk0
      have hc := nonFinal_codes.emit opt true [] 0 p (hnf _ List.mem_cons_self)
      rw [emitAC_eq, if_pos (And.intro rfl rfl)] at hc ⊢
      simpa [stepPre] using begins_sgr hc (by rw [params_zeroSep]; rfl)
    · have hpre : stepPre x.s true {} k = Gen.escapeClear ++ (x.s.take k).drop 0 := by
        have : k > 0 := Nat.pos_of_ne_zero hk0
        simp [stepPre, this]
      rw [hpre]
      split
      · rw [List.append_assoc]
        exact begins_clear.append _
      · exact begins_clear.append _

/-- Boolean form of `Begins` (used to refute it on concrete outputs) -/
def beginsB (out : Str) : Bool :=
  out.take 2 == ['\x1b', '['] &&
  ((out.drop 2).dropWhile (fun c => !Term.isFinal c)).head? == some 'm' &&
  (Term.params ((out.drop 2).takeWhile (fun c => !Term.isFinal c))).head? == some (some 0)

theorem takeWhile_nonFinal {ps : List Char} (h : ∀ c ∈ ps, Term.isFinal c = false) (rest : List Char) :
    (ps ++ 'm' :: rest).takeWhile (fun c => !Term.isFinal c) = ps ∧
    (ps ++ 'm' :: rest).dropWhile (fun c => !Term.isFinal c) = 'm' :: rest := by
  induction ps with
  | nil =>
    have : Term.isFinal 'm' = true := by decide
    simp [this]
  | cons c ps ih =>
    have hc := h c (by simp)
    have := ih (fun d hd => h d (by simp [hd]))
    simp [hc, this]

theorem Begins.check {out : Str} (h : Begins out) : beginsB out = true := by
  obtain ⟨ps, rest, rfl, h1, h2⟩ := h
  have := takeWhile_nonFinal h1 rest
  simp [beginsB, this.1, this.2, h2]

theorem render_empty {x : AStr} (h : x.fmts = []) (o rs re : Bool) :
    Render.render x o rs re = (if rs then Gen.escapeClear else []) ++ x.s :=
  render_nil h o rs re

end RenderL
