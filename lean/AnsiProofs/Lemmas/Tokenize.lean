import AnsiSpec
/-
  The model's tokenizer (`tokLoop`) for property C19 (`ParsedAnsiControlSequenceString` is lossless;
  cursor/erase/scroll helpers).  The tokenizer is followed round by round instead of character by character
  (`Parsed.finish`, `tokLoop_char`, `tokLoop_seq`, the induction `tokLoop_rounds`), and every invariant of the
  property is an induction over the rounds.  `C19Spec.removeRecognised` is the independent specification of
  `unformatted_str`.
-/

/-! ## `Parsed.push` / `Parsed.record` -/

namespace Parsed

@[simp] theorem push_text (p : Parsed) (s : Str) : (p.push s).text = p.text ++ s := rfl
@[simp] theorem push_seqs (p : Parsed) (s : Str) : (p.push s).seqs = p.seqs := rfl

/-- `record` case analysis: either the last key equals the current text length and the sequence is
    appended to that block, or a new block is appended (no block yet / last key different). -/
theorem record_cases (p : Parsed) (c : CtlSeq) :
    (∃ init l, p.seqs = init ++ [(p.text.length, l)] ∧
        p.record c = { p with seqs := init ++ [(p.text.length, l ++ [c])] }) ∨
    ((p.seqs = [] ∨ ∃ init k l, p.seqs = init ++ [(k, l)] ∧ k ≠ p.text.length) ∧
        p.record c = { p with seqs := p.seqs ++ [(p.text.length, [c])] }) := by
  rcases List.eq_nil_or_concat p.seqs with h | ⟨init, ⟨k, l⟩, h⟩
  · right
    refine ⟨Or.inl h, ?_⟩
    simp [record, h]
  · by_cases hk : k = p.text.length
    · left
      refine ⟨init, l, by simp [h, hk], ?_⟩
      simp [record, h, hk]
    · right
      refine ⟨Or.inr ⟨init, k, l, by simp [h], hk⟩, ?_⟩
      simp [record, h, hk]

@[simp] theorem record_text (p : Parsed) (c : CtlSeq) : (p.record c).text = p.text := by
  rcases record_cases p c with ⟨init, l, _, h⟩ | ⟨_, h⟩ <;> rw [h]

/-- A property of every block survives `record` if it passes from a block at the current position
    (or from no block) to that block with `c` appended. -/
theorem forall_record {R : Nat × List CtlSeq → Prop} {p : Parsed} (c : CtlSeq)
    (h : ∀ kv ∈ p.seqs, R kv)
    (hc : ∀ l, l = [] ∨ R (p.text.length, l) → R (p.text.length, l ++ [c])) :
    ∀ kv ∈ (p.record c).seqs, R kv := by
  intro kv hkv
  rcases record_cases p c with ⟨init, l, hs, hr⟩ | ⟨_, hr⟩
  · rw [hr] at hkv
    rcases List.mem_append.mp hkv with hkv | hkv
    · exact h kv (by rw [hs]; exact List.mem_append_left _ hkv)
    · rw [List.mem_singleton.mp hkv]
      exact hc l (Or.inr (h _ (by rw [hs]; simp)))
  · rw [hr] at hkv
    rcases List.mem_append.mp hkv with hkv | hkv
    · exact h kv hkv
    · rw [List.mem_singleton.mp hkv]
      exact hc [] (Or.inl rfl)

theorem forall_mem_concat {Q : CtlSeq → Prop} {l : List CtlSeq} {c : CtlSeq}
    (hl : l = [] ∨ ∀ c' ∈ l, Q c') (hc : Q c) : ∀ c' ∈ l ++ [c], Q c' := by
  intro c' hc'
  rcases List.mem_append.mp hc' with hc' | hc'
  · rcases hl with rfl | hl
    · cases hc'
    · exact hl c' hc'
  · rw [List.mem_singleton.mp hc']
    exact hc

def KeysLe (p : Parsed) : Prop := ∀ kv ∈ p.seqs, kv.1 ≤ p.text.length

theorem keysLe_empty : KeysLe {} := by intro kv h; cases h

theorem keysLe_push {p : Parsed} (h : KeysLe p) (s : Str) : KeysLe (p.push s) := by
  intro kv hkv
  rw [push_text, List.length_append]
  exact Nat.le_trans (h kv hkv) (Nat.le_add_right _ _)

theorem keysLe_record {p : Parsed} (h : KeysLe p) (c : CtlSeq) : KeysLe (p.record c) := by
  unfold KeysLe
  rw [record_text]
  exact forall_record c h (fun _ _ => Nat.le_refl _)

/-- Keys strictly ascending, none beyond the end of the text.  Then "the text length is a key" means
    "the last key is the text length", which is all `record` looks at. -/
structure Ordered (p : Parsed) : Prop where
  keysLe : p.KeysLe
  asc : (p.seqs.map (·.1)).Pairwise (· < ·)

theorem ordered_empty : Ordered {} := ⟨keysLe_empty, List.Pairwise.nil⟩

theorem ordered_push {p : Parsed} (h : Ordered p) (s : Str) : Ordered (p.push s) :=
  ⟨keysLe_push h.keysLe s, h.asc⟩

theorem key_lt_last {init : List (Nat × List CtlSeq)} {k : Nat} {l : List CtlSeq}
    (h : ((init ++ [(k, l)]).map (·.1)).Pairwise (· < ·)) : ∀ kv ∈ init, kv.1 < k := by
  intro kv hkv
  rw [List.map_append, List.pairwise_append] at h
  exact h.2.2 kv.1 (List.mem_map_of_mem hkv) k (by simp)

theorem ordered_record {p : Parsed} (h : Ordered p) (c : CtlSeq) : Ordered (p.record c) := by
  refine ⟨keysLe_record h.keysLe c, ?_⟩
  have hasc := h.asc
  rcases record_cases p c with ⟨init, l, hs, hr⟩ | ⟨hs, hr⟩
  · rw [hs, List.map_append] at hasc
    rw [hr]
    show ((init ++ [(p.text.length, l ++ [c])]).map (·.1)).Pairwise (· < ·)
    rw [List.map_append]
    exact hasc
  · rw [hr]
    show ((p.seqs ++ [(p.text.length, [c])]).map (·.1)).Pairwise (· < ·)
    rw [List.map_append, List.pairwise_append]
    refine ⟨hasc, List.pairwise_singleton _ _, ?_⟩
    intro a ha b hb
    rw [List.mem_singleton.mp hb]
    show a < p.text.length
    rcases hs with hs | ⟨init, k, l, hs, hk⟩
    · rw [hs] at ha
      cases ha
    · -- the last key is not the text length, so below it, and the others are below the last
      have hkle : k ≤ p.text.length := h.keysLe (k, l) (by rw [hs]; simp)
      rw [hs] at hasc ha
      obtain ⟨kv, hkv, rfl⟩ := List.mem_map.mp ha
      rcases List.mem_append.mp hkv with hkv | hkv
      · exact Nat.lt_of_lt_of_le (key_lt_last hasc kv hkv) hkle
      · rw [List.mem_singleton.mp hkv]
        exact Nat.lt_of_le_of_ne hkle hk

/-- What the tokenizer does with a finished candidate `ESC [ ps term`: recorded, or put back into
    the text. -/
def finish (p : Parsed) (ae : Bool) (acc : Option Str) (ps term : Str) : Parsed :=
  if acceptSeq ae acc term then p.record ⟨ps, term⟩ else p.push (Gen.csi ++ ps ++ term)

theorem keysLe_finish {p : Parsed} (h : KeysLe p) (ae : Bool) (acc : Option Str) (ps term : Str) :
    KeysLe (p.finish ae acc ps term) := by
  unfold finish
  split
  · exact keysLe_record h _
  · exact keysLe_push h _

theorem ordered_finish {p : Parsed} (h : Ordered p) (ae : Bool) (acc : Option Str) (ps term : Str) :
    Ordered (p.finish ae acc ps term) := by
  unfold finish
  split
  · exact ordered_record h _
  · exact ordered_push h _

/-- the fold of `formatted` -/
def fmtFold (text : Str) (seqs : List (Nat × List CtlSeq)) (init : Str × Nat) : Str × Nat :=
  seqs.foldl (fun (acc : Str × Nat) (kv : Nat × List CtlSeq) =>
      (acc.1 ++ formatted.pySliceL text acc.2 kv.1 ++
        (kv.2.map (fun c => Gen.csi ++ c.sequence ++ c.terminator)).flatten, kv.1)) init

theorem formatted_eq (p : Parsed) :
    p.formatted = (fmtFold p.text p.seqs ([], 0)).1 ++ p.text.drop (fmtFold p.text p.seqs ([], 0)).2 := rfl

theorem fmtFold_append (text : Str) (a b : List (Nat × List CtlSeq)) (i : Str × Nat) :
    fmtFold text (a ++ b) i = fmtFold text b (fmtFold text a i) := by
  simp [fmtFold, List.foldl_append]

theorem fmtFold_cons (text : Str) (kv : Nat × List CtlSeq) (rest : List (Nat × List CtlSeq)) (i : Str × Nat) :
    fmtFold text (kv :: rest) i = fmtFold text rest
      (i.1 ++ formatted.pySliceL text i.2 kv.1 ++
        (kv.2.map (fun c => Gen.csi ++ c.sequence ++ c.terminator)).flatten, kv.1) := rfl

theorem fmtFold_snd_le (text : Str) (n : Nat) :
    ∀ (seqs : List (Nat × List CtlSeq)) (i : Str × Nat), (∀ kv ∈ seqs, kv.1 ≤ n) → i.2 ≤ n →
      (fmtFold text seqs i).2 ≤ n
  | [], _, _, hi => hi
  | kv :: rest, i, h, _ => by
    rw [fmtFold_cons]
    exact fmtFold_snd_le text n rest _ (fun kv' hkv' => h kv' (List.mem_cons_of_mem _ hkv'))
      (h kv List.mem_cons_self)

theorem fmtFold_text_append (text s : Str) :
    ∀ (seqs : List (Nat × List CtlSeq)) (i : Str × Nat), (∀ kv ∈ seqs, kv.1 ≤ text.length) →
      fmtFold (text ++ s) seqs i = fmtFold text seqs i
  | [], _, _ => rfl
  | kv :: rest, i, h => by
    rw [fmtFold_cons, fmtFold_cons,
      fmtFold_text_append text s rest _ (fun kv' hkv' => h kv' (List.mem_cons_of_mem _ hkv')),
      formatted.pySliceL, formatted.pySliceL, List.take_append_of_le_length (h kv List.mem_cons_self)]

theorem formatted_push {p : Parsed} (h : KeysLe p) (s : Str) :
    (p.push s).formatted = p.formatted ++ s := by
  rw [formatted_eq, formatted_eq]
  simp only [push_text, push_seqs]
  rw [fmtFold_text_append _ _ _ _ h]
  have hle : (fmtFold p.text p.seqs ([], 0)).2 ≤ p.text.length :=
    fmtFold_snd_le _ _ _ _ h (Nat.zero_le _)
  rw [List.drop_append_of_le_length hle, List.append_assoc]

theorem formatted_record {p : Parsed} (h : KeysLe p) (c : CtlSeq) :
    (p.record c).formatted = p.formatted ++ (Gen.csi ++ c.sequence ++ c.terminator) := by
  rcases record_cases p c with ⟨init, l, hs, hr⟩ | ⟨_, hr⟩
  · rw [hr, formatted_eq, formatted_eq]
    simp only
    rw [hs, fmtFold_append, fmtFold_append]
    simp [fmtFold, List.drop_length]
  · rw [hr, formatted_eq, formatted_eq]
    simp only
    rw [fmtFold_append]
    have hle : (fmtFold p.text p.seqs ([], 0)).2 ≤ p.text.length :=
      fmtFold_snd_le _ _ _ _ h (Nat.zero_le _)
    simp [fmtFold, formatted.pySliceL, List.take_length]

/-- recorded or put back, the candidate is there again in `formatted` -/
theorem formatted_finish {p : Parsed} (h : KeysLe p) (ae : Bool) (acc : Option Str) (ps term : Str) :
    (p.finish ae acc ps term).formatted = p.formatted ++ (Gen.csi ++ ps ++ term) := by
  unfold finish
  split
  · exact formatted_record h _
  · exact formatted_push h _

end Parsed

/-! ## The tokenizer round by round -/

theorem csi_eq : Gen.csi = ['\x1b', '['] := by decide

theorem tokLoop_params_run (ae : Bool) (acc : Option Str) (qs : Str)
    (h : ∀ ch ∈ qs, isTerm ch = false) (ps rest : Str) (o : Parsed) :
    tokLoop ae acc (.params ps) (qs ++ rest) o = tokLoop ae acc (.params (ps ++ qs)) rest o := by
  induction qs generalizing ps with
  | nil => simp
  | cons q qs ih =>
    have hq : isTerm q = false := h q List.mem_cons_self
    rw [List.cons_append, tokLoop.eq_5]
    simp only [hq, Bool.false_eq_true, if_false]
    rw [ih (fun ch hch => h ch (List.mem_cons_of_mem _ hch))]
    simp

theorem tokLoop_char (ae : Bool) (acc : Option Str) {c : Char} {rest : Str}
    (h : (c :: rest).take 2 ≠ Gen.csi) (o : Parsed) :
    tokLoop ae acc .text (c :: rest) o = tokLoop ae acc .text rest (o.push [c]) := by
  rw [tokLoop.eq_3]
  intro rest' hc hr
  apply h
  rw [hc, hr, csi_eq]
  rfl

/-- A round on `ESC [`, a run `ps` of parameter characters and `tail`, which is empty or begins with a
    final byte: the terminator is `tail.take 1`. -/
theorem tokLoop_seq (ae : Bool) (acc : Option Str) {ps tail : Str}
    (hps : ∀ ch ∈ ps, isTerm ch = false) (ht : ∀ c t, tail = c :: t → isTerm c = true) (o : Parsed) :
    tokLoop ae acc .text (Gen.csi ++ ps ++ tail) o =
      tokLoop ae acc .text (tail.drop 1) (o.finish ae acc ps (tail.take 1)) := by
  rw [csi_eq]
  show tokLoop ae acc .text ('\x1b' :: '[' :: (ps ++ tail)) o = _
  rw [tokLoop.eq_2, tokLoop_params_run ae acc ps hps, List.nil_append]
  cases tail with
  | nil => simp [tokLoop, Parsed.finish]
  | cons c t =>
    show _ = tokLoop ae acc .text t (o.finish ae acc ps [c])
    rw [tokLoop.eq_5, if_pos (ht c t rfl), Parsed.finish, apply_ite (tokLoop ae acc .text t)]

/-- Induction over the rounds of the tokenizer in text mode: the input is empty, or begins with a
    character that does not open `ESC [`, or is `ESC [`, a run of parameter characters and a tail that
    is empty or begins with a final byte. -/
theorem tokLoop_rounds (ae : Bool) (acc : Option Str) {motive : Str → Parsed → Prop}
    (nil : ∀ o, motive [] o)
    (char : ∀ c rest o, (c :: rest).take 2 ≠ Gen.csi → motive rest (o.push [c]) → motive (c :: rest) o)
    (seq : ∀ ps tail o, (∀ ch ∈ ps, isTerm ch = false) → (∀ c t, tail = c :: t → isTerm c = true) →
      motive (tail.drop 1) (o.finish ae acc ps (tail.take 1)) → motive (Gen.csi ++ ps ++ tail) o) :
    ∀ s o, motive s o := by
  have key : ∀ n s, s.length ≤ n → ∀ o, motive s o := by
    intro n
    induction n with
    | zero =>
      intro s hs o
      rw [List.eq_nil_of_length_eq_zero (Nat.le_zero.mp hs)]
      exact nil o
    | succ n ih =>
      intro s hs o
      cases s with
      | nil => exact nil o
      | cons c rest =>
        by_cases hcsi : (c :: rest).take 2 = Gen.csi
        · -- split what follows `ESC [` into the parameter characters and the rest
          have hr : c :: rest = Gen.csi ++ (c :: rest).drop 2 := by rw [← hcsi, List.take_append_drop]
          have hlen : ((c :: rest).drop 2).length ≤ n := by
            rw [List.length_drop]
            exact Nat.sub_le_of_le_add (Nat.le_succ_of_le hs)
          generalize (c :: rest).drop 2 = r at hr hlen
          rw [hr, ← List.takeWhile_append_dropWhile (p := fun ch => !isTerm ch) (l := r),
            ← List.append_assoc]
          refine seq _ _ o ?_ ?_ (ih _ ?_ _)
          · intro ch h
            simpa using List.all_eq_true.mp List.all_takeWhile ch h
          · intro c' t ht
            have := List.head?_dropWhile_not (fun ch => !isTerm ch) r
            rw [ht] at this
            simpa using this
          · rw [List.length_drop]
            exact Nat.le_trans (Nat.sub_le _ _)
              (Nat.le_trans (List.dropWhile_sublist _).length_le hlen)
        · exact char c rest o hcsi (ih rest (by simpa using hs) _)
  exact fun s o => key s.length s (Nat.le_refl _) o

open Parsed in
theorem tokLoop_keysLe (ae : Bool) (acc : Option Str) (m : TokMode) (s : Str) (o : Parsed) :
    KeysLe o → KeysLe (tokLoop ae acc m s o) := by
  fun_induction tokLoop ae acc m s o with
  | case1 o => exact id
  | case2 rest o ih => exact ih
  | case3 c rest o _ ih => exact fun h => ih (keysLe_push h _)
  | case4 ps o hacc => exact fun h => keysLe_record h _
  | case5 ps o hacc => exact fun h => keysLe_push h _
  | case6 ps c rest o ht hacc ih => exact fun h => ih (keysLe_record h _)
  | case7 ps c rest o ht hacc ih => exact fun h => ih (keysLe_push h _)
  | case8 ps c rest o ht ih => exact ih

/-! ## Losslessness -/

open Parsed in
theorem tokLoop_formatted (ae : Bool) (acc : Option Str) (s : Str) (o : Parsed) :
    KeysLe o → (tokLoop ae acc .text s o).formatted = o.formatted ++ s := by
  induction s, o using tokLoop_rounds ae acc with
  | nil o =>
    intro _
    rw [tokLoop, List.append_nil]
  | char c rest o h ih =>
    intro hk
    rw [tokLoop_char ae acc h, ih (keysLe_push hk _), formatted_push hk, List.append_assoc]
    rfl
  | seq ps tail o hps ht ih =>
    intro hk
    rw [tokLoop_seq ae acc hps ht, ih (keysLe_finish hk _ _ _ _), formatted_finish hk, List.append_assoc,
      List.append_assoc, List.take_append_drop]

/-! ## Independent specification of `unformatted_str` -/

namespace C19Spec

/-- a parameter (non-final) character of a control sequence: anything outside 0x40–0x7E -/
def isParamChar (c : Char) : Bool := !isTerm c

/-- Is a candidate sequence with the given final byte (`none` = input ended before a final byte)
    recognised?  "terminator non-empty or unterminated ones allowed; and no acceptable set given,
    or the terminator is empty (`'' in acceptable` is True in Python), or it is in the set". -/
def recognised (allowEmpty : Bool) (acceptable : Option Str) (final : Option Char) : Prop :=
  (final ≠ none ∨ allowEmpty = true) ∧
  (acceptable = none ∨ final = none ∨ ∃ a t, acceptable = some a ∧ final = some t ∧ t ∈ a)

instance (ae : Bool) (acc : Option Str) (f : Option Char) : Decidable (recognised ae acc f) := by
  unfold recognised
  cases acc with
  | none => exact decidable_of_iff (f ≠ none ∨ ae = true) (by simp)
  | some a =>
    cases f with
    | none => exact decidable_of_iff (ae = true) (by simp)
    | some t => exact decidable_of_iff (t ∈ a) (by simp)

/-- `s` with every recognised control sequence removed.  Scan for `ESC [`; the candidate is the
    maximal run of parameter characters followed by one final byte if there is one (`final`); a
    recognised candidate is dropped, an unrecognised one is kept verbatim; scanning resumes after
    the candidate in both cases. -/
def removeRecognised (allowEmpty : Bool) (acceptable : Option Str) : Str → Str
  | [] => []
  | '\x1b' :: '[' :: rest =>
    let params := rest.takeWhile isParamChar
    let after := rest.dropWhile isParamChar
    let final : Option Char := after.head?
    if recognised allowEmpty acceptable final then removeRecognised allowEmpty acceptable after.tail
    else '\x1b' :: '[' :: (params ++ final.toList ++ removeRecognised allowEmpty acceptable after.tail)
  | c :: rest => c :: removeRecognised allowEmpty acceptable rest
termination_by s => s.length
decreasing_by
  all_goals
    first
    | (have := (List.dropWhile_sublist (l := rest) isParamChar).length_le
       simp only [List.length_tail, List.length_cons]; omega)
    | simp

end C19Spec

/-! ## `tokLoop` computes the specification -/

theorem acceptSeq_iff (ae : Bool) (acc : Option Str) (tail : Str) :
    acceptSeq ae acc (tail.take 1) = true ↔ C19Spec.recognised ae acc tail.head? := by
  cases tail <;> cases acc <;> simp [acceptSeq, C19Spec.recognised]

theorem Parsed.finish_text (p : Parsed) (ae : Bool) (acc : Option Str) (ps term : Str) :
    (p.finish ae acc ps term).text =
      p.text ++ if acceptSeq ae acc term then [] else Gen.csi ++ ps ++ term := by
  unfold Parsed.finish
  split <;> simp

namespace C19Spec

theorem removeRecognised_nil (ae : Bool) (acc : Option Str) : removeRecognised ae acc [] = [] := by
  rw [removeRecognised]

theorem removeRecognised_char (ae : Bool) (acc : Option Str) {c : Char} {rest : Str}
    (h : (c :: rest).take 2 ≠ Gen.csi) :
    removeRecognised ae acc (c :: rest) = c :: removeRecognised ae acc rest := by
  rw [removeRecognised.eq_3]
  intro rest' hc hr
  apply h
  rw [hc, hr, csi_eq]
  rfl

theorem removeRecognised_seq (ae : Bool) (acc : Option Str) {ps tail : Str}
    (hps : ∀ ch ∈ ps, isTerm ch = false) (ht : ∀ c t, tail = c :: t → isTerm c = true) :
    removeRecognised ae acc (Gen.csi ++ ps ++ tail) =
      (if recognised ae acc tail.head? then [] else Gen.csi ++ ps ++ tail.take 1) ++
        removeRecognised ae acc (tail.drop 1) := by
  have hps' : ∀ ch ∈ ps, isParamChar ch = true := fun ch h => by rw [isParamChar, hps ch h]; rfl
  have h1 : tail.takeWhile isParamChar = [] ∧ tail.dropWhile isParamChar = tail := by
    cases tail with
    | nil => exact ⟨rfl, rfl⟩
    | cons c t =>
      have : ¬ isParamChar c = true := by rw [isParamChar, ht c t rfl]; decide
      exact ⟨List.takeWhile_cons_of_neg this, List.dropWhile_cons_of_neg this⟩
  rw [csi_eq]
  show removeRecognised ae acc ('\x1b' :: '[' :: (ps ++ tail)) = _
  rw [removeRecognised.eq_2]
  simp only [List.takeWhile_append_of_pos hps', List.dropWhile_append_of_pos hps', h1.1, h1.2,
    List.append_nil, List.drop_one, List.take_one]
  split
  · rfl
  · simp only [List.cons_append, List.nil_append, List.append_assoc]

end C19Spec

theorem tokLoop_text (ae : Bool) (acc : Option Str) (s : Str) (o : Parsed) :
    (tokLoop ae acc .text s o).text = o.text ++ C19Spec.removeRecognised ae acc s := by
  induction s, o using tokLoop_rounds ae acc with
  | nil o => rw [tokLoop, C19Spec.removeRecognised_nil, List.append_nil]
  | char c rest o h ih =>
    rw [tokLoop_char ae acc h, ih, C19Spec.removeRecognised_char ae acc h, Parsed.push_text,
      List.append_assoc]
    rfl
  | seq ps tail o hps ht ih =>
    rw [tokLoop_seq ae acc hps ht, ih, C19Spec.removeRecognised_seq ae acc hps ht, Parsed.finish_text,
      List.append_assoc]
    simp only [acceptSeq_iff]

/-! ## Well-formedness of the recorded sequences -/

/-- a recorded sequence is one the property calls "recognised" -/
def SeqOk (ae : Bool) (acc : Option Str) (c : CtlSeq) : Prop :=
  (∀ ch ∈ c.sequence, isTerm ch = false) ∧
  (c.terminator = [] ∨ ∃ ch, c.terminator = [ch] ∧ isTerm ch = true) ∧
  (c.terminator = [] → ae = true) ∧
  (∀ a, acc = some a → ∀ ch, c.terminator = [ch] → ch ∈ a)

theorem seqOk_of_accept {ae : Bool} {acc : Option Str} {ps tail : Str}
    (hps : ∀ ch ∈ ps, isTerm ch = false) (ht : ∀ c t, tail = c :: t → isTerm c = true)
    (h : acceptSeq ae acc (tail.take 1) = true) : SeqOk ae acc ⟨ps, tail.take 1⟩ := by
  refine ⟨hps, ?_, ?_, ?_⟩
  · cases tail with
    | nil => exact Or.inl rfl
    | cons c t => exact Or.inr ⟨c, rfl, ht c t rfl⟩
  · intro (he : tail.take 1 = [])
    rw [he] at h
    cases acc <;> simpa [acceptSeq] using h
  · intro a ha ch (hch : tail.take 1 = [ch])
    rw [ha, hch] at h
    simpa [acceptSeq] using h

structure Good (ae : Bool) (acc : Option Str) (p : Parsed) : Prop extends p.Ordered where
  blocks : ∀ kv ∈ p.seqs, kv.2 ≠ [] ∧ ∀ c ∈ kv.2, SeqOk ae acc c

theorem good_empty (ae : Bool) (acc : Option Str) : Good ae acc {} :=
  ⟨Parsed.ordered_empty, by intro kv h; cases h⟩

theorem good_push {ae : Bool} {acc : Option Str} {p : Parsed} (h : Good ae acc p) (s : Str) :
    Good ae acc (p.push s) :=
  ⟨Parsed.ordered_push h.toOrdered s, h.blocks⟩

theorem good_record {ae : Bool} {acc : Option Str} {p : Parsed} (h : Good ae acc p) {c : CtlSeq}
    (hc : SeqOk ae acc c) : Good ae acc (p.record c) :=
  ⟨Parsed.ordered_record h.toOrdered c, Parsed.forall_record c h.blocks fun _ hl =>
    ⟨by simp, Parsed.forall_mem_concat (hl.imp_right (·.2)) hc⟩⟩

theorem tokLoop_good (ae : Bool) (acc : Option Str) (s : Str) (o : Parsed) :
    Good ae acc o → Good ae acc (tokLoop ae acc .text s o) := by
  induction s, o using tokLoop_rounds ae acc with
  | nil o => exact id
  | char c rest o h ih =>
    rw [tokLoop_char ae acc h]
    exact fun g => ih (good_push g _)
  | seq ps tail o hps ht ih =>
    rw [tokLoop_seq ae acc hps ht]
    intro g
    apply ih
    unfold Parsed.finish
    split
    · exact good_record g (seqOk_of_accept hps ht ‹_›)
    · exact good_push g _

/-! ## An unterminated sequence can only be the very last one -/

def NoEmpty (p : Parsed) : Prop := ∀ kv ∈ p.seqs, ∀ c ∈ kv.2, c.terminator ≠ []

/-- a sequence with empty terminator can only sit at the end of the last block (positional) -/
def LastOnly (p : Parsed) : Prop :=
  ∀ init kv rest, p.seqs = init ++ kv :: rest → ∀ l1 c l2, kv.2 = l1 ++ c :: l2 →
    c.terminator = [] → rest = [] ∧ l2 = []

theorem last_unique {α : Type} (P : α → Prop) (xs : List α) (x : α) (h : ∀ y ∈ xs, ¬ P y)
    (pre : List α) (y : α) (post : List α) (e : xs ++ [x] = pre ++ y :: post) (hy : P y) :
    post = [] ∧ y = x := by
  rcases List.eq_nil_or_concat post with hp | ⟨post', z, hp⟩
  · subst hp
    have := List.append_inj' e rfl
    simp only [List.cons.injEq, and_true] at this
    exact ⟨rfl, this.2.symm⟩
  · subst hp
    have e' : xs ++ [x] = (pre ++ y :: post') ++ [z] := by simpa using e
    have := (List.append_inj' e' rfl).1
    exact absurd hy (h y (by rw [this]; simp))

theorem noEmpty_empty : NoEmpty {} := by intro kv h; cases h

theorem noEmpty_push {p : Parsed} (h : NoEmpty p) (s : Str) : NoEmpty (p.push s) := h

theorem noEmpty_record {p : Parsed} (h : NoEmpty p) {c : CtlSeq} (hc : c.terminator ≠ []) :
    NoEmpty (p.record c) :=
  Parsed.forall_record c h fun _ hl => Parsed.forall_mem_concat hl hc

theorem lastOnly_of_noEmpty {p : Parsed} (h : NoEmpty p) : LastOnly p := by
  intro init kv rest hs l1 c l2 hkv hc
  exact absurd hc (h kv (by rw [hs]; simp) c (by rw [hkv]; simp))

theorem lastOnly_record {p : Parsed} (h : NoEmpty p) (c : CtlSeq) : LastOnly (p.record c) := by
  intro init' kv rest hs' l1 c' l2 hkv hc'
  have key : ∃ init l, (p.record c).seqs = init ++ [(p.text.length, l ++ [c])] ∧
      (∀ kv ∈ init, ∀ c ∈ kv.2, c.terminator ≠ []) ∧ (∀ c ∈ l, c.terminator ≠ []) := by
    rcases Parsed.record_cases p c with ⟨init, l, hs, hr⟩ | ⟨hs, hr⟩
    · refine ⟨init, l, by rw [hr], ?_, ?_⟩
      · intro kv hkv; exact h kv (by rw [hs]; simp [hkv])
      · exact h (p.text.length, l) (by rw [hs]; simp)
    · exact ⟨p.seqs, [], by rw [hr]; simp, h, by simp⟩
  obtain ⟨init, l, hs, hinit, hl⟩ := key
  rw [hs] at hs'
  have h1 := last_unique (fun kv : Nat × List CtlSeq => ∃ c ∈ kv.2, c.terminator = []) init _
    (by intro y hy ⟨c, hc, hce⟩; exact hinit y hy c hc hce) init' kv rest hs'
    ⟨c', by rw [hkv]; simp, hc'⟩
  refine ⟨h1.1, ?_⟩
  have hkv2 : l ++ [c] = l1 ++ c' :: l2 := by rw [← hkv, h1.2]
  exact (last_unique (fun c : CtlSeq => c.terminator = []) l c
    (by intro y hy; exact hl y hy) l1 c' l2 hkv2 hc').1

theorem tokLoop_lastOnly (ae : Bool) (acc : Option Str) (s : Str) (o : Parsed) :
    NoEmpty o → LastOnly (tokLoop ae acc .text s o) := by
  induction s, o using tokLoop_rounds ae acc with
  | nil o => exact lastOnly_of_noEmpty
  | char c rest o h ih =>
    rw [tokLoop_char ae acc h]
    exact fun hn => ih (noEmpty_push hn _)
  | seq ps tail o hps ht ih =>
    rw [tokLoop_seq ae acc hps ht]
    intro hn
    unfold Parsed.finish at ih ⊢
    cases tail with
    | nil =>
      -- the input ends here: whatever is recorded now is the last
      rw [List.drop_nil, tokLoop]
      split
      · exact lastOnly_record hn _
      · exact lastOnly_of_noEmpty (noEmpty_push hn _)
    | cons c t =>
      apply ih
      split
      · exact noEmpty_record hn (List.cons_ne_nil c [])
      · exact noEmpty_push hn _

/-! ## `str(int)` never contains a final byte; a single well-formed sequence -/

theorem digit_not_term : ∀ d, d < 10 → isTerm (Char.ofNat ('0'.toNat + d)) = false := by decide

theorem natDigitsAux_not_term (fuel n : Nat) (accu : Str) (h : ∀ ch ∈ accu, isTerm ch = false) :
    ∀ ch ∈ Py.natDigitsAux fuel n accu, isTerm ch = false := by
  induction fuel generalizing n accu with
  | zero => exact h
  | succ fuel ih =>
    have h' : ∀ ch ∈ Char.ofNat ('0'.toNat + n % 10) :: accu, isTerm ch = false := by
      intro ch hch
      rcases List.mem_cons.mp hch with hch | hch
      · rw [hch]; exact digit_not_term _ (Nat.mod_lt _ (by decide))
      · exact h ch hch
    rw [Py.natDigitsAux]
    split
    · exact h'
    · exact ih _ _ h'

theorem intStr_not_term (i : Int) : ∀ ch ∈ Py.intStr i, isTerm ch = false := by
  have hnil : ∀ ch ∈ ([] : Str), isTerm ch = false := fun _ h => nomatch h
  unfold Py.intStr Py.natStr
  split
  · intro ch hch
    rcases List.mem_cons.mp hch with hch | hch
    · rw [hch]; decide
    · exact natDigitsAux_not_term _ _ [] hnil ch hch
  · exact natDigitsAux_not_term _ _ [] hnil

/-- the parameter string of a helper, `str(a);str(b);…`, has no final byte in it -/
theorem joinSep_intStr_not_term :
    ∀ (args : List Int), ∀ ch ∈ joinSep [';'] (args.map Py.intStr), isTerm ch = false
  | [] => fun _ h => nomatch h
  | [a] => intStr_not_term a
  | a :: b :: rest => by
    intro ch hch
    change ch ∈ Py.intStr a ++ [';'] ++ joinSep [';'] ((b :: rest).map Py.intStr) at hch
    rcases List.mem_append.mp hch with hch | hch
    · rcases List.mem_append.mp hch with hch | hch
      · exact intStr_not_term a ch hch
      · rw [List.mem_singleton.mp hch]; decide
    · exact joinSep_intStr_not_term (b :: rest) ch hch

theorem tokenize_single (ae : Bool) (acc : Option Str) (ps : Str) (fb : Char)
    (hps : ∀ ch ∈ ps, isTerm ch = false) (hfb : isTerm fb = true)
    (hacc : acceptSeq ae acc [fb] = true) :
    tokenize (Gen.csi ++ ps ++ [fb]) ae acc = { text := [], seqs := [(0, [⟨ps, [fb]⟩])] } := by
  have ht : ∀ c t, [fb] = c :: t → isTerm c = true := by
    intro c t h
    cases h
    exact hfb
  unfold tokenize
  rw [tokLoop_seq ae acc hps ht]
  show tokLoop ae acc .text [] (Parsed.finish {} ae acc ps [fb]) = _
  rw [tokLoop, Parsed.finish, if_pos hacc]
  rfl

theorem joinSep_one (sep a : Str) : joinSep sep [a] = a := rfl
theorem joinSep_two (sep a b : Str) : joinSep sep [a, b] = a ++ sep ++ b := rfl
