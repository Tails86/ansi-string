import AnsiProofs.Lemmas.Basic
import AnsiProofs.Lemmas.Matcher
/-
  For property C12 (`ljust`, `rjust`, `center`, `zfill`, `assign_str`, the `[fill][sign][align][width]` part
  of a format spec).  Everything is in `namespace PadL`, so `Fmts.foo` below is `PadL.Fmts.foo` where there
  is one, else the lemma of `Lemmas/Basic.lean`.

  Three table operations lie behind padding: `shiftKeys _ _ false`, `shiftKeys _ _ true` and `padExt` (end
  point out, shift all keys but 0, end point to the new end).  Each is a strictly increasing renaming of the
  keys (`shiftIdx`, `padIdx`), so what `active` reports afterwards (`active_shift`, `active_shiftKeep`,
  `active_padExt`) comes from `activeFrom_mapKeys` and what is kept (`Moved`) from `moved_mapKeys`.
  `padAct` is what a character reports after padding with `l` fill characters in front, one description for
  the three methods (`act_ljust`, `act_rjust`, `act_center`); `wf_of_padAct` is `WF` after padding.
  `namespace Rx`: the regex matcher on the three
  justification patterns and on the spec splitter, read as alternatives of guarded first characters
  (`guardHead`), and the same alternatives as a grammar (`parse`, `Mem`, `stripNl`), up to
  `applyStringFormat_eq` and `toStr_grammar`.
-/

namespace PadL

/-! ## Sorted association lists: membership, `erase`, `shiftKeys` -/

namespace Fmts
open _root_.Fmts

theorem get?_eq_none_of_not_mem {f : Fmts} {k : Nat} (hm : ∀ p, (k, p) ∉ f) : f.get? k = none := by
  cases hg : f.get? k with
  | none => rfl
  | some p => exact absurd (mem_of_get?_eq_some hg) (hm p)

theorem not_mem_of_get?_eq_none {f : Fmts} (h : SortedKeys f) {k : Nat} (hg : f.get? k = none) :
    ∀ p, (k, p) ∉ f := by
  intro p hm
  rw [get?_eq_some_of_mem h hm] at hg
  cases hg

theorem mem_unique {f : Fmts} (h : SortedKeys f) {k : Nat} {p q : Point} (hp : (k, p) ∈ f)
    (hq : (k, q) ∈ f) : p = q := by
  have h1 := get?_eq_some_of_mem h hp
  have h2 := get?_eq_some_of_mem h hq
  rw [h1] at h2
  exact Option.some.inj h2

theorem erase_eq_filter {f : Fmts} (h : SortedKeys f) (k : Nat) :
    f.erase k = f.filter (fun kp => kp.1 ≠ k) := by
  induction f with
  | nil => rfl
  | cons kp rest ih =>
    obtain ⟨k', p'⟩ := kp
    have hs := sorted_tail h
    have hlt := sorted_head_lt h
    unfold Fmts.erase
    by_cases h1 : k' = k
    · subst h1
      simp only [if_true, List.filter_cons]
      simp only [ne_eq, not_true_eq_false, decide_false, Bool.false_eq_true, if_false]
      symm
      apply List.filter_eq_self.mpr
      intro x hx
      have := hlt x hx
      simp at this ⊢
      omega
    · simp only [h1, if_false, List.filter_cons, ne_eq, not_false_eq_true, decide_true, if_true]
      rw [ih hs]

theorem mem_erase_iff {f : Fmts} (h : SortedKeys f) (k : Nat) (x : Nat × Point) :
    x ∈ f.erase k ↔ x ∈ f ∧ x.1 ≠ k := by
  rw [erase_eq_filter h]
  simp

theorem erase_of_get?_none {f : Fmts} (h : SortedKeys f) {k : Nat} (hg : f.get? k = none) :
    f.erase k = f := by
  rw [erase_eq_filter h]
  apply List.filter_eq_self.mpr
  intro x hx
  simp only [ne_eq, decide_not, Bool.not_eq_eq_eq_not, Bool.not_true, decide_eq_false_iff_not]
  intro hk
  exact not_mem_of_get?_eq_none h hg x.2 (by rw [← hk]; exact hx)

end Fmts

/-! ### `shiftKeys` -/

/-- where `_shift_settings_idx` puts a key -/
def shiftIdx (num : Nat) (keep : Bool) (k : Nat) : Nat := if keep = true ∧ k = 0 then k else k + num

theorem shiftKeys_eq (f : Fmts) (num : Nat) (keep : Bool) :
    shiftKeys f num keep = f.map (fun kp => (shiftIdx num keep kp.1, kp.2)) := by
  unfold shiftKeys shiftIdx
  apply List.map_congr_left
  intro a _
  split <;> rfl

theorem shiftIdx_false (num k : Nat) : shiftIdx num false k = k + num := by simp [shiftIdx]

theorem shiftIdx_true_le (num k j : Nat) : shiftIdx num true k ≤ j ↔ k ≤ j - num := by
  simp only [shiftIdx, true_and]
  split <;> omega

theorem shiftIdx_le (num : Nat) (keep : Bool) (k : Nat) : shiftIdx num keep k ≤ k + num := by
  unfold shiftIdx
  split <;> omega

theorem shiftIdx_lt (num : Nat) (keep : Bool) {a b : Nat} (h : a < b) :
    shiftIdx num keep a < shiftIdx num keep b := by
  unfold shiftIdx
  split <;> split <;> omega

theorem sorted_shiftKeys {f : Fmts} (h : SortedKeys f) (num : Nat) (keep : Bool) :
    SortedKeys (shiftKeys f num keep) := by
  rw [shiftKeys_eq]
  exact List.Pairwise.map _ (fun _ _ hab => shiftIdx_lt num keep hab) h

theorem map_snd_shiftKeys (f : Fmts) (num : Nat) (keep : Bool) :
    (shiftKeys f num keep).map (·.2) = f.map (·.2) := by
  rw [shiftKeys_eq, List.map_map]
  rfl

theorem shiftKeys_zero (f : Fmts) (keep : Bool) : shiftKeys f 0 keep = f := by
  unfold shiftKeys
  conv => rhs; rw [← List.map_id f]
  apply List.map_congr_left
  intro a _
  split <;> rfl

/-! ### structural form of "move the end point" -/

namespace Fmts
open _root_.Fmts

theorem set_last {h : Fmts} {m : Nat} (p : Point) (hlt : ∀ kp ∈ h, kp.1 < m) :
    h.set m p = h ++ [(m, p)] := by
  induction h with
  | nil => rfl
  | cons kp rest ih =>
    obtain ⟨k', p'⟩ := kp
    have h1 : k' < m := hlt (k', p') (by simp)
    have h2 : ¬ k' = m := by omega
    have h3 : ¬ m < k' := by omega
    unfold Fmts.set
    simp only [h2, h3, if_false, List.cons_append]
    rw [ih (fun kp hkp => hlt kp (List.mem_cons_of_mem _ hkp))]

theorem erase_last {f : Fmts} (h : SortedKeys f) {n : Nat} {p : Point}
    (hb : ∀ kp ∈ f, kp.1 ≤ n) (hm : (n, p) ∈ f) : f = f.erase n ++ [(n, p)] := by
  induction f with
  | nil => cases hm
  | cons kp rest ih =>
    obtain ⟨k', p'⟩ := kp
    have hs := sorted_tail h
    have hlt := sorted_head_lt h
    unfold Fmts.erase
    by_cases h1 : k' = n
    · subst h1
      simp only [if_true]
      have hr : rest = [] := by
        cases rest with
        | nil => rfl
        | cons y ys =>
          have a := hlt y (by simp)
          have b := hb y (by simp)
          simp at a; omega
      subst hr
      simp at hm
      simp [hm]
    · simp only [h1, if_false, List.cons_append]
      have hm' : (n, p) ∈ rest := by
        rcases List.mem_cons.mp hm with e | e
        · cases e; exact absurd rfl h1
        · exact e
      rw [← ih hs (fun kp hkp => hb kp (List.mem_cons_of_mem _ hkp)) hm']

end Fmts

/-! ## Things that depend only on the sequence of points -/

theorem replayOkFrom_congr {f g : Fmts} (h : f.map (·.2) = g.map (·.2)) (cur : List Setting) :
    replayOkFrom cur f = replayOkFrom cur g := by
  induction f generalizing g cur with
  | nil =>
    cases g with
    | nil => rfl
    | cons b g => simp at h
  | cons a f ih =>
    cases g with
    | nil => simp at h
    | cons b g =>
      obtain ⟨ka, pa⟩ := a
      obtain ⟨kb, pb⟩ := b
      simp only [List.map_cons, List.cons.injEq] at h
      obtain ⟨h1, h2⟩ := h
      subst h1
      simp only [replayOkFrom]
      rw [ih h2]

theorem replayOk_congr {f g : Fmts} (h : f.map (·.2) = g.map (·.2)) : replayOk f = replayOk g :=
  replayOkFrom_congr h []

theorem settings_eq_map_snd (f : Fmts) :
    Fmts.settings f = (f.map (·.2)).flatMap (fun p => p.add ++ p.rem) := by
  unfold Fmts.settings
  rw [List.flatMap_map]

theorem settings_congr {f g : Fmts} (h : f.map (·.2) = g.map (·.2)) :
    Fmts.settings f = Fmts.settings g := by
  rw [settings_eq_map_snd, settings_eq_map_snd, h]

/-! ## Renaming the keys

  `activeFrom` steps over an entry exactly when its key is `≤` the index, so a renaming of the keys under
  which these tests come out as they did for `i` reports at `j` what the table reported at `i`.  -/

theorem activeFrom_mapKeys {φ : Nat → Nat} {f : Fmts} {i j : Nat} (h : ∀ kp ∈ f, φ kp.1 ≤ j ↔ kp.1 ≤ i)
    (cur : List Setting) : activeFrom cur (f.map fun kp => (φ kp.1, kp.2)) j = activeFrom cur f i := by
  induction f generalizing cur with
  | nil => rfl
  | cons kp rest ih =>
    simp only [List.map_cons, activeFrom, h kp List.mem_cons_self]
    rw [ih fun x hx => h x (List.mem_cons_of_mem _ hx)]

theorem wf_act_ge {x : AStr} (hw : WF x) {j : Nat} (hj : x.len ≤ j) : act x j = [] := by
  unfold act active
  rw [activeFrom_of_bound hw.bound hj]
  exact hw.closed

/-- what the last character reports (`[]` for the empty text) -/
def lastAct (x : AStr) : List Setting := before (Fmts.toFun x.fmts) x.len

theorem lastAct_pos {x : AStr} (hw : WF x) (h : 0 < x.len) : lastAct x = act x (x.len - 1) := by
  unfold lastAct act
  rw [active_eq_before hw.sorted, Nat.sub_add_cancel h]

theorem lastAct_zero {x : AStr} (h : x.len = 0) : lastAct x = [] := by
  unfold lastAct; rw [h]; rfl

theorem lastAct_nodup {x : AStr} (hw : WF x) : ((lastAct x).map (·.id)).Nodup := by
  by_cases h : 0 < x.len
  · rw [lastAct_pos hw h]; exact hw.nodup _
  · rw [lastAct_zero (by omega)]; simp

theorem wf_of_eq {a b : AStr} (hw : WF a) (hl : b.len = a.len) (hf : b.fmts = a.fmts) : WF b where
  sorted := by rw [hf]; exact hw.sorted
  bound := by rw [hf, hl]; exact hw.bound
  noAddEnd := by rw [hf, hl]; exact hw.noAddEnd
  ok := by rw [hf]; exact hw.ok
  nodup := by rw [hf]; exact hw.nodup
  closed := by rw [hf, hl]; exact hw.closed
  coherent := by rw [hf]; exact hw.coherent

/-- what the table operations behind padding do to a table `f` with keys up to `n`: the same points in
    the same order, at ascending keys up to `m`, and an entry at `m` is `f`'s entry at `n` -/
structure Moved (f : Fmts) (n : Nat) (g : Fmts) (m : Nat) : Prop where
  sorted : SortedKeys g
  points : g.map (·.2) = f.map (·.2)
  bound : ∀ kp ∈ g, kp.1 ≤ m
  last : ∀ kp ∈ g, kp.1 = m → (n, kp.2) ∈ f

theorem moved_mapKeys {f : Fmts} {n : Nat} (hs : SortedKeys f) (hb : ∀ kp ∈ f, kp.1 ≤ n) {φ : Nat → Nat}
    (hφ : ∀ {a b}, a < b → φ a < φ b) {m : Nat} (hm : φ n ≤ m) :
    Moved f n (f.map fun kp => (φ kp.1, kp.2)) m := by
  have hle : ∀ kp ∈ f, φ kp.1 ≤ m ∧ (φ kp.1 = m → kp.1 = n) := by
    intro kp hkp
    rcases Nat.lt_or_eq_of_le (hb kp hkp) with h | h
    · have := hφ h
      omega
    · rw [h]
      exact ⟨hm, fun _ => rfl⟩
  refine ⟨List.Pairwise.map _ (fun _ _ hab => hφ hab) hs, by rw [List.map_map]; rfl, ?_, ?_⟩
  · intro kp hkp
    obtain ⟨a, ha, rfl⟩ := List.mem_map.mp hkp
    exact (hle a ha).1
  · intro kp hkp he
    obtain ⟨a, ha, rfl⟩ := List.mem_map.mp hkp
    rw [← (hle a ha).2 he]
    exact ha

/-! ## `shiftKeys`: every key moves (`rjust`/`center` without extension) or every key but 0 (`rjust` with) -/

theorem active_shift (f : Fmts) (left j : Nat) :
    active (shiftKeys f left false) j = if j < left then [] else active f (j - left) := by
  unfold active
  rw [shiftKeys_eq]
  split
  · apply activeFrom_of_all_gt
    intro kp hkp
    obtain ⟨a, _, rfl⟩ := List.mem_map.mp hkp
    rw [shiftIdx_false]
    omega
  · exact activeFrom_mapKeys (fun kp _ => by rw [shiftIdx_false]; omega) []

theorem active_shiftKeep (f : Fmts) (num j : Nat) :
    active (shiftKeys f num true) j = active f (j - num) := by
  unfold active
  rw [shiftKeys_eq]
  exact activeFrom_mapKeys (fun kp _ => shiftIdx_true_le num kp.1 j) []

theorem moved_shiftKeys {f : Fmts} {n : Nat} (hs : SortedKeys f) (hb : ∀ kp ∈ f, kp.1 ≤ n) {d num : Nat}
    (hd : d ≤ num) (keep : Bool) : Moved f n (shiftKeys f d keep) (n + num) := by
  rw [shiftKeys_eq]
  exact moved_mapKeys hs hb (shiftIdx_lt d keep) (by have := shiftIdx_le d keep n; omega)

theorem moved_self {f : Fmts} {n : Nat} (hs : SortedKeys f) (hb : ∀ kp ∈ f, kp.1 ≤ n) (num : Nat) :
    Moved f n f (n + num) := by
  have := moved_shiftKeys hs hb (Nat.zero_le num) false
  rwa [shiftKeys_zero] at this

/-! ## `padExt`: take the end point out, shift every key but 0, put the end point at the new end
    (`center` with extension; `ljust` with extension and `assign_str` are `left = 0`) -/

def padExt (f : Fmts) (n left L : Nat) : Fmts :=
  match f.get? n with
  | some p => (shiftKeys (f.erase n) left true).set L p
  | none => shiftKeys (f.erase n) left true

theorem sorted_padExt {f : Fmts} (hs : SortedKeys f) (n left L : Nat) :
    SortedKeys (padExt f n left L) := by
  unfold padExt
  split
  · exact Fmts.sorted_set (sorted_shiftKeys (Fmts.sorted_erase hs _) _ _) _ _
  · exact sorted_shiftKeys (Fmts.sorted_erase hs _) _ _

/-- where `padExt` puts a key of a table with keys up to `n` -/
def padIdx (n left L k : Nat) : Nat := if k < n then shiftIdx left true k else L + (k - n)

theorem padIdx_self (n left L : Nat) : padIdx n left L n = L := by
  rw [padIdx, if_neg (Nat.lt_irrefl n), Nat.sub_self]
  rfl

theorem padIdx_lt {n left L : Nat} (hL : n + left < L) {a b : Nat} (h : a < b) :
    padIdx n left L a < padIdx n left L b := by
  unfold padIdx
  by_cases hb : b < n
  · rw [if_pos hb, if_pos (Nat.lt_trans h hb)]
    exact shiftIdx_lt left true h
  · have := shiftIdx_le left true a
    rw [if_neg hb]
    split <;> omega

theorem padIdx_le {n left L k : Nat} (hk : k ≤ n) (hL : n + left < L) (j : Nat) :
    padIdx n left L k ≤ j ↔ k < n ∧ k ≤ j - left ∨ L ≤ j := by
  unfold padIdx
  split
  · rw [shiftIdx_true_le]
    omega
  · omega

theorem padExt_eq_map {f : Fmts} (hs : SortedKeys f) {n left L : Nat} (hb : ∀ kp ∈ f, kp.1 ≤ n)
    (hL : n + left < L) : padExt f n left L = f.map fun kp => (padIdx n left L kp.1, kp.2) := by
  have hlt : ∀ kp ∈ f.erase n, kp.1 < n := by
    intro kp hkp
    have h := (Fmts.mem_erase_iff hs n kp).mp hkp
    have := hb kp h.1
    omega
  have he : shiftKeys (f.erase n) left true = (f.erase n).map fun kp => (padIdx n left L kp.1, kp.2) := by
    rw [shiftKeys_eq]
    exact List.map_congr_left fun kp hkp => by rw [padIdx, if_pos (hlt kp hkp)]
  unfold padExt
  split
  · rename_i p hg
    -- the shifted keys stay below `L`, so `set` appends
    rw [Fmts.set_last p, he]
    · conv => rhs; rw [Fmts.erase_last hs hb (Fmts.mem_of_get?_eq_some hg)]
      rw [List.map_append, List.map_singleton, padIdx_self]
    · intro kp hkp
      rw [shiftKeys_eq] at hkp
      obtain ⟨a, ha, rfl⟩ := List.mem_map.mp hkp
      have := hlt a ha
      have := shiftIdx_le left true a.1
      omega
  · rename_i hg
    rw [he, Fmts.erase_of_get?_none hs hg]

theorem map_snd_padExt {f : Fmts} (hs : SortedKeys f) {n left L : Nat}
    (hb : ∀ kp ∈ f, kp.1 ≤ n) (hL : n + left < L) :
    (padExt f n left L).map (·.2) = f.map (·.2) := by
  rw [padExt_eq_map hs hb hL, List.map_map]
  rfl

theorem active_padExt {x : AStr} (hw : WF x) {left L : Nat} (hL : x.len + left < L) (j : Nat) :
    active (padExt x.fmts x.len left L) j =
      if L ≤ j then [] else if j - left < x.len then act x (j - left) else lastAct x := by
  unfold active
  rw [padExt_eq_map hw.sorted hw.bound hL]
  have hk := fun kp hkp => padIdx_le (hw.bound kp hkp) hL j
  by_cases hj : L ≤ j
  · rw [if_pos hj]
    exact (activeFrom_mapKeys (fun kp hkp => (hk kp hkp).trans
      ⟨fun _ => hw.bound kp hkp, fun _ => Or.inr hj⟩) []).trans hw.closed
  · rw [if_neg hj]
    split
    · exact activeFrom_mapKeys (fun kp hkp => by rw [hk kp hkp]; omega) []
    · by_cases hn : 0 < x.len
      · rw [lastAct_pos hw hn]
        exact activeFrom_mapKeys (fun kp hkp => by rw [hk kp hkp]; have := hw.bound kp hkp; omega) []
      · -- the empty text: its one possible entry has moved to `L`
        rw [lastAct_zero (by omega)]
        apply activeFrom_of_all_gt
        intro kp hkp
        obtain ⟨a, ha, rfl⟩ := List.mem_map.mp hkp
        have := hk a ha
        omega

theorem moved_padExt {f : Fmts} {n : Nat} (hs : SortedKeys f) (hb : ∀ kp ∈ f, kp.1 ≤ n) {left L : Nat}
    (hL : n + left < L) : Moved f n (padExt f n left L) L := by
  rw [padExt_eq_map hs hb hL]
  exact moved_mapKeys hs hb (padIdx_lt hL) (Nat.le_of_eq (padIdx_self n left L))

/-! ## What a character reports after padding

  `padAct x l num e j`: `x` padded with `num` fill characters, `l` of them in front (`ljust`: `l = 0`,
  `rjust`: `l = num`, `center`: `l = num / 2`).  With extended formatting a fill character takes the
  settings of the adjacent original character, otherwise none. -/

def padAct (x : AStr) (l num : Nat) (e : Bool) (j : Nat) : List Setting :=
  if e then
    if x.len + num ≤ j then [] else if j - l < x.len then act x (j - l) else lastAct x
  else if j < l then [] else act x (j - l)

theorem padAct_zero {x : AStr} (hw : WF x) (e : Bool) (j : Nat) : padAct x 0 0 e j = act x j := by
  unfold padAct
  cases e with
  | false => rfl
  | true =>
    by_cases hj : x.len ≤ j
    · rw [if_pos rfl, if_pos (by omega), wf_act_ge hw hj]
    · rw [if_pos rfl, if_neg (by omega), if_pos (by omega)]; rfl

theorem padAct_original {x : AStr} {l num : Nat} (hl : l ≤ num) (e : Bool) {k : Nat} (hk : k < x.len) :
    padAct x l num e (l + k) = act x k := by
  unfold padAct
  cases e with
  | false => rw [if_neg (by decide), if_neg (by omega), Nat.add_sub_cancel_left]
  | true => rw [if_pos rfl, if_neg (by omega), Nat.add_sub_cancel_left, if_pos hk]

theorem padAct_left_ext {x : AStr} (hw : WF x) {l num : Nat} (hl : l ≤ num) {j : Nat} (hj : j < l) :
    padAct x l num true j = act x 0 := by
  unfold padAct
  rw [if_pos rfl, if_neg (by omega), show j - l = 0 by omega]
  by_cases hn : 0 < x.len
  · rw [if_pos hn]
  · rw [if_neg hn, lastAct_zero (by omega), wf_act_ge hw (by omega)]

theorem padAct_right_ext {x : AStr} (hw : WF x) {l num : Nat} (hn : 0 < x.len) {j : Nat}
    (h1 : l + x.len ≤ j) (h2 : j < x.len + num) : padAct x l num true j = act x (x.len - 1) := by
  unfold padAct
  rw [if_pos rfl, if_neg (by omega), if_neg (by omega), lastAct_pos hw hn]

theorem padAct_plain {x : AStr} (hw : WF x) {l : Nat} (num : Nat) {j : Nat}
    (hj : j < l ∨ l + x.len ≤ j) : padAct x l num false j = [] := by
  unfold padAct
  rw [if_neg (by decide)]
  split
  · rfl
  · exact wf_act_ge hw (by omega)

theorem padAct_empty {x : AStr} (hw : WF x) (hn : x.len = 0) (l num : Nat) (e : Bool) (j : Nat) :
    padAct x l num e j = [] := by
  cases e with
  | false => exact padAct_plain hw num (by omega)
  | true =>
    unfold padAct
    rw [if_pos rfl, lastAct_zero hn, if_neg (show ¬ j - l < x.len by omega)]
    split <;> rfl

theorem padAct_nodup {x : AStr} (hw : WF x) (l num : Nat) (e : Bool) (j : Nat) :
    ((padAct x l num e j).map (·.id)).Nodup := by
  unfold padAct
  split
  · split
    · exact List.nodup_nil
    · split
      · exact hw.nodup _
      · exact lastAct_nodup hw
  · split
    · exact List.nodup_nil
    · exact hw.nodup _

theorem padAct_end {x : AStr} (hw : WF x) {l num : Nat} (hl : l ≤ num) (e : Bool) :
    padAct x l num e (x.len + num) = [] := by
  cases e with
  | false => exact padAct_plain hw num (Or.inr (by omega))
  | true =>
    unfold padAct
    rw [if_pos rfl, if_pos (Nat.le_refl _)]

theorem wf_of_padAct {x y : AStr} (hw : WF x) {l num : Nat} {e : Bool} (hl : l ≤ num)
    (hlen : y.len = x.len + num) (hm : Moved x.fmts x.len y.fmts (x.len + num))
    (ha : ∀ j, act y j = padAct x l num e j) : WF y where
  sorted := hm.sorted
  bound := by rw [hlen]; exact hm.bound
  noAddEnd := fun kp hkp h => hw.noAddEnd (x.len, kp.2) (hm.last kp hkp (by rw [h, hlen])) rfl
  ok := by rw [replayOk_congr hm.points]; exact hw.ok
  nodup := by
    intro i
    rw [← act, ha]
    exact padAct_nodup hw l num e i
  closed := by
    rw [← act, ha, hlen]
    exact padAct_end hw hl e
  coherent := by rw [settings_congr hm.points]; exact hw.coherent

/-! ## The model operations in terms of `shiftKeys` and `padExt` -/

set_option linter.unusedSimpArgs false

namespace AStr
open _root_.AStr

theorem len_mk (s : Str) (f : Fmts) : (AStr.mk s f).len = s.length := rfl

/-! ### `ljust` -/

theorem ljust_noop' {x : AStr} {w : Int} (c : Char) (e : Bool) (h : (w - (x.len : Int)).toNat = 0) :
    x.ljust w c e = x := by
  unfold ljust
  simp only [h, Nat.lt_irrefl, gt_iff_lt, if_false]

theorem ljust_s (x : AStr) (w : Int) (c : Char) (e : Bool) :
    (x.ljust w c e).s = x.s ++ List.replicate (w - (x.len : Int)).toNat c := by
  unfold ljust
  by_cases h : (w - (x.len : Int)).toNat > 0
  · simp only [h, if_true]
  · have : (w - (x.len : Int)).toNat = 0 := by omega
    simp only [this, Nat.lt_irrefl, gt_iff_lt, if_false, List.replicate_zero, List.append_nil]

theorem ljust_len (x : AStr) (w : Int) (c : Char) (e : Bool) :
    (x.ljust w c e).len = x.len + (w - (x.len : Int)).toNat := by
  unfold len; rw [ljust_s, List.length_append, List.length_replicate]; rfl

theorem ljust_fmts_plain (x : AStr) (w : Int) (c : Char) : (x.ljust w c false).fmts = x.fmts := by
  unfold ljust
  simp only [Bool.false_eq_true, if_false]
  split <;> rfl

theorem ljust_fmts_ext {x : AStr} (hs : SortedKeys x.fmts) {w : Int} (c : Char)
    (h : 0 < (w - (x.len : Int)).toNat) :
    (x.ljust w c true).fmts = padExt x.fmts x.len 0 (x.len + (w - (x.len : Int)).toNat) := by
  unfold ljust padExt
  simp only [gt_iff_lt, h, if_true, shiftKeys_zero]
  cases hg : x.fmts.get? x.len with
  | none => simp only; exact (Fmts.erase_of_get?_none hs hg).symm
  | some p => rfl

theorem act_ljust {x : AStr} (hw : WF x) (w : Int) (c : Char) (e : Bool) (j : Nat) :
    act (x.ljust w c e) j = padAct x 0 (w - (x.len : Int)).toNat e j := by
  by_cases h : 0 < (w - (x.len : Int)).toNat
  · unfold act
    cases e with
    | false => rw [ljust_fmts_plain]; rfl
    | true => rw [ljust_fmts_ext hw.sorted c h, active_padExt hw (by omega)]; rfl
  · rw [ljust_noop' c e (by omega), show (w - (x.len : Int)).toNat = 0 by omega, padAct_zero hw]

/-! ### `rjust` -/

theorem rjust_noop' {x : AStr} {w : Int} (c : Char) (e : Bool) (h : (w - (x.len : Int)).toNat = 0) :
    x.rjust w c e = x := by
  unfold rjust
  simp only [h, Nat.lt_irrefl, gt_iff_lt, if_false]

theorem rjust_s (x : AStr) (w : Int) (c : Char) (e : Bool) :
    (x.rjust w c e).s = List.replicate (w - (x.len : Int)).toNat c ++ x.s := by
  unfold rjust
  by_cases h : (w - (x.len : Int)).toNat > 0
  · simp only [h, if_true]
  · have : (w - (x.len : Int)).toNat = 0 := by omega
    simp only [this, Nat.lt_irrefl, gt_iff_lt, if_false, List.replicate_zero, List.nil_append]

theorem rjust_len (x : AStr) (w : Int) (c : Char) (e : Bool) :
    (x.rjust w c e).len = x.len + (w - (x.len : Int)).toNat := by
  unfold len; rw [rjust_s, List.length_append, List.length_replicate, Nat.add_comm]; rfl

theorem rjust_fmts (x : AStr) (w : Int) (c : Char) (e : Bool) :
    (x.rjust w c e).fmts = shiftKeys x.fmts (w - (x.len : Int)).toNat e := by
  unfold rjust
  by_cases h : (w - (x.len : Int)).toNat > 0
  · simp only [h, if_true, Bool.false_eq_true, if_false]
  · have : (w - (x.len : Int)).toNat = 0 := by omega
    simp only [this, Nat.lt_irrefl, gt_iff_lt, if_false, shiftKeys_zero, Nat.zero_div]

theorem act_rjust {x : AStr} (hw : WF x) (w : Int) (c : Char) (e : Bool) (j : Nat) :
    act (x.rjust w c e) j = padAct x (w - (x.len : Int)).toNat (w - (x.len : Int)).toNat e j := by
  unfold act padAct
  rw [rjust_fmts]
  cases e with
  | false => exact active_shift _ _ _
  | true =>
    -- the end point moves with the text: beyond the new end nothing is active
    rw [active_shiftKeep, if_pos rfl]
    by_cases hj : x.len + (w - (x.len : Int)).toNat ≤ j
    · rw [if_pos hj]; exact wf_act_ge hw (by omega)
    · rw [if_neg hj]
      split
      · rfl
      · rw [lastAct_zero (by omega)]; exact wf_act_ge hw (by omega)

/-! ### `center` -/

theorem center_noop' {x : AStr} {w : Int} (c : Char) (e : Bool) (h : (w - (x.len : Int)).toNat = 0) :
    x.center w c e = x := by
  unfold center
  simp only [h, Nat.lt_irrefl, gt_iff_lt, if_false]

theorem center_s (x : AStr) (w : Int) (c : Char) (e : Bool) :
    (x.center w c e).s = List.replicate ((w - (x.len : Int)).toNat / 2) c ++ x.s ++
      List.replicate ((w - (x.len : Int)).toNat - (w - (x.len : Int)).toNat / 2) c := by
  unfold center
  by_cases h : (w - (x.len : Int)).toNat > 0
  · simp only [h, if_true]
  · have : (w - (x.len : Int)).toNat = 0 := by omega
    simp only [this, Nat.lt_irrefl, gt_iff_lt, if_false, List.replicate_zero, List.append_nil,
      List.nil_append, Nat.zero_div, Nat.sub_self]

theorem center_len (x : AStr) (w : Int) (c : Char) (e : Bool) :
    (x.center w c e).len = x.len + (w - (x.len : Int)).toNat := by
  rw [len, center_s]; simp only [len, List.length_append, List.length_replicate]; omega

theorem center_fmts_plain (x : AStr) (w : Int) (c : Char) :
    (x.center w c false).fmts = shiftKeys x.fmts ((w - (x.len : Int)).toNat / 2) false := by
  unfold center
  by_cases h : (w - (x.len : Int)).toNat > 0
  · simp only [h, if_true, Bool.false_eq_true, if_false]
  · have : (w - (x.len : Int)).toNat = 0 := by omega
    simp only [this, Nat.lt_irrefl, gt_iff_lt, if_false, shiftKeys_zero, Nat.zero_div]

theorem center_fmts_ext (x : AStr) {w : Int} (c : Char) (h : 0 < (w - (x.len : Int)).toNat) :
    (x.center w c true).fmts =
      padExt x.fmts x.len ((w - (x.len : Int)).toNat / 2) (x.len + (w - (x.len : Int)).toNat) := by
  unfold center padExt
  simp only [gt_iff_lt, h, if_true]
  have hl : (List.replicate ((w - (x.len : Int)).toNat / 2) c ++ x.s ++
      List.replicate ((w - (x.len : Int)).toNat - (w - (x.len : Int)).toNat / 2) c).length =
      x.len + (w - (x.len : Int)).toNat := by
    simp only [List.length_append, List.length_replicate, len]; omega
  rw [hl]
  cases hg : x.fmts.get? x.len <;> rfl

theorem act_center {x : AStr} (hw : WF x) (w : Int) (c : Char) (e : Bool) (j : Nat) :
    act (x.center w c e) j =
      padAct x ((w - (x.len : Int)).toNat / 2) (w - (x.len : Int)).toNat e j := by
  cases e with
  | false => unfold act; rw [center_fmts_plain]; exact active_shift _ _ _
  | true =>
    by_cases h : 0 < (w - (x.len : Int)).toNat
    · unfold act; rw [center_fmts_ext x c h, active_padExt hw (by omega)]; rfl
    · rw [center_noop' c true (by omega), show (w - (x.len : Int)).toNat = 0 by omega, padAct_zero hw]

/-! ### `assign_str` with a text that is not shorter -/

theorem assignStr_s (x : AStr) (t : Str) : (x.assignStr t).s = t := by
  unfold assignStr
  simp only
  split
  · split <;> rfl
  · split <;> rfl

theorem assignStr_fmts_longer {x : AStr} (hs : SortedKeys x.fmts) {t : Str} (h : x.len < t.length) :
    (x.assignStr t).fmts = padExt x.fmts x.len 0 t.length := by
  unfold assignStr padExt
  simp only [gt_iff_lt, h, if_true, shiftKeys_zero]
  cases hg : x.fmts.get? x.len with
  | none => simp only; exact (Fmts.erase_of_get?_none hs hg).symm
  | some p => rfl

theorem assignStr_fmts_same {x : AStr} {t : Str} (h : x.len = t.length) :
    (x.assignStr t).fmts = x.fmts := by
  unfold assignStr
  simp [h]

end AStr

/-! ## The hand-rolled regex matcher on the justification patterns

  `matchStart_reAligned` / `matchStart_reLeft`: closed forms of the three patterns of
  `_apply_string_format` (`try3`, `try2`, `tryS`, `alignTail`, `try0` = the alternatives in the
  matcher's priority order);
  `stripNl`, `form3 … form0`, `parse`: the same alternatives as a grammar on the text without one
  final newline; `applyStringFormat_eq`: `_apply_string_format` decided by the grammar. -/

namespace Rx
open _root_.Re Render

theorem drop_lt_takeWhile (p : Char → Bool) (s : Str) (i : Nat) (hi : i < (s.takeWhile p).length) :
    ∃ c rest, s.drop i = c :: rest ∧ p c = true := by
  induction s generalizing i with
  | nil => simp at hi
  | cons a s ih =>
    by_cases ha : p a = true
    · rw [List.takeWhile_cons_of_pos ha] at hi
      cases i with
      | zero => exact ⟨a, s, rfl, ha⟩
      | succ i => 
        simp only [List.length_cons, Nat.add_lt_add_iff_right] at hi
        simpa using ih i hi
    · rw [List.takeWhile_cons_of_neg ha] at hi
      simp at hi

theorem take_takeWhile_length (p : Char → Bool) (s : Str) :
    s.take (s.takeWhile p).length = s.takeWhile p := by
  conv => lhs; arg 2; rw [← List.takeWhile_append_dropWhile (p := p) (l := s)]
  exact List.take_left

/-- `([0-9]*)$`, the common end of the three justification patterns; as `$` also matches before one final
    newline, the pattern matches `r` iff after its leading digits nothing or `"\n"` is left (`okTail`) -/
def tailRe : Re := .seq (.cap 3 (.star Py.isDigit)) .eos

def okTail (r : Str) : Bool := (r.dropWhile Py.isDigit).isEmpty || r.dropWhile Py.isDigit == ['\n']

theorem m_tailRe (r : Str) (caps : Caps) :
    Re.m tailRe r caps (fun _ c => some c) =
      if okTail r then some ((3, r.takeWhile Py.isDigit) :: caps.filter (·.1 != 3)) else none := by
  unfold tailRe
  rw [m_seq, m_cap, m_star_exact, drop_takeWhile_length, m_eos]
  · have hlen : r.length - (r.dropWhile Py.isDigit).length = (r.takeWhile Py.isDigit).length := by
      have := congrArg List.length (List.takeWhile_append_dropWhile (p := Py.isDigit) (l := r))
      rw [List.length_append] at this; omega
    rw [hlen, take_takeWhile_length]
    simp [okTail]
  · -- a shorter run leaves a digit in front of `$`
    intro j hj
    obtain ⟨c, rest, hd, hc⟩ := drop_lt_takeWhile _ _ _ hj
    have : c ≠ '\n' := by
      intro e; subst e; simp [Py.isDigit] at hc
    rw [hd, m_eos]
    simp [this]

theorem reAligned_eq (a : Char) : reAligned a =
  .seq (.cap 1 (.opt (.cls dot))) (.seq (.cap 2 (.opt (.cls sign))) (.seq (.cls (· == a)) tailRe)) := rfl

theorem reLeft_eq : reLeft =
  .seq (.opt (.seq (.cap 1 (.opt (.cls dot))) (.seq (.cap 2 (.opt (.cls sign))) (.cls (· == '<'))))) tailRe := rfl

abbrev tw (r : Str) : Str := r.takeWhile Py.isDigit

/-- a first character of class `p`, handed to `k` together with the rest -/
def guardHead {α} (p : Char → Bool) (k : Char → Str → Option α) : Str → Option α
  | c :: r => if p c then k c r else none
  | [] => none

theorem guardHead_or {α} (p : Char → Bool) (k k' : Char → Str → Option α) (s : Str) :
    guardHead p (fun c r => (k c r).or (k' c r)) s = (guardHead p k s).or (guardHead p k' s) := by
  cases s with
  | nil => rfl
  | cons c r => by_cases h : p c = true <;> simp [guardHead, h]

theorem m_cls {α} (p : Char → Bool) (s : Str) (caps : Caps) (k : Str → Caps → Option α) :
    Re.m (.cls p) s caps k = guardHead p (fun _ r => k r caps) s := by
  cases s <;> rfl

/-- an optional one-character group: the reading that takes the character comes first -/
theorem m_capOpt {α} (n : Nat) (p : Char → Bool) (s : Str) (caps : Caps) (k : Str → Caps → Option α) :
    Re.m (.cap n (.opt (.cls p))) s caps k =
      (guardHead p (fun c r => k r ((n, [c]) :: caps.filter (·.1 != n))) s).or
        (k s ((n, []) :: caps.filter (·.1 != n))) := by
  rw [Re.m, m_opt, m_cls]
  cases s <;> simp [guardHead]

/-- `[0-9]*$` once groups 1 and 2 are decided -/
def digitsEnd (g1 g2 : Str) (r : Str) : Option Caps :=
  if okTail r then some [(3, tw r), (2, g2), (1, g1)] else none

/-- `X[0-9]*$` -/
def alignTail (X : Char) (g1 g2 : Str) : Str → Option Caps := guardHead (· == X) fun _ => digitsEnd g1 g2

/-- the readings of `(.?)([+-]?)X([0-9]*)$` by which of the two optional characters is taken: both (`try3`),
    the fill only (`try2`), the sign only (`tryS`); `try0` is `reLeft` without its optional group -/
def try3 (X : Char) : Str → Option Caps :=
  guardHead dot fun f => guardHead sign fun g => alignTail X [f] [g]
def try2 (X : Char) : Str → Option Caps := guardHead dot fun f => alignTail X [f] []
def tryS (X : Char) : Str → Option Caps := guardHead sign fun g => alignTail X [] [g]
def try0 (s : Str) : Option Caps := if okTail s then some [(3, tw s)] else none

/-- the four ways of taking or leaving `.?` and `[+-]?`, in the matcher's order -/
def alignedRef (X : Char) (s : Str) : Option Caps :=
  (try3 X s).or ((try2 X s).or ((tryS X s).or (alignTail X [] [] s)))

theorem matchStart_reAligned (X : Char) (s : Str) :
    Re.matchStart (reAligned X) s = alignedRef X s := by
  rw [reAligned_eq]
  unfold Re.matchStart alignedRef try3 try2 tryS alignTail digitsEnd
  simp only [m_seq, m_capOpt, m_cls, m_tailRe, guardHead_or, Option.or_assoc, List.filter]
  rfl

/-- `^(?:(.?)([+-]?)<)?([0-9]*)$`: the group present (then groups 1, 2 are set), else digits only -/
def leftRef (s : Str) : Option Caps := (alignedRef '<' s).or (try0 s)

theorem matchStart_reLeft (s : Str) : Re.matchStart reLeft s = leftRef s := by
  have h : Re.matchStart reLeft s =
      (Re.matchStart (reAligned '<') s).or (Re.m tailRe s [] (fun _ c => some c)) := by
    rw [reLeft_eq, reAligned_eq]
    unfold Re.matchStart
    rw [m_seq, m_opt]
    simp only [m_seq]
  rw [h, matchStart_reAligned, m_tailRe]
  rfl


/-- drop one final newline -/
def stripNl : Str → Str
  | [] => []
  | [c] => if c = '\n' then [] else [c]
  | c :: c' :: rest => c :: stripNl (c' :: rest)

theorem stripNl_cons_ne {c : Char} (h : c ≠ '\n') (r : Str) : stripNl (c :: r) = c :: stripNl r := by
  cases r <;> simp [stripNl, h]

theorem stripNl_nl (r : Str) : stripNl ('\n' :: r) = if r = [] then [] else '\n' :: stripNl r := by
  cases r <;> simp [stripNl]

theorem isDigit_ne_nl {c : Char} (h : Py.isDigit c = true) : c ≠ '\n' := by
  intro e; subst e; simp [Py.isDigit] at h

theorem okTail_eq (r : Str) : okTail r = (stripNl r).all Py.isDigit := by
  induction r with
  | nil => rfl
  | cons c r ih =>
    by_cases hd : Py.isDigit c = true
    · rw [stripNl_cons_ne (isDigit_ne_nl hd)]
      unfold okTail at ih ⊢
      rw [List.dropWhile_cons_of_pos hd, ih]
      simp [hd]
    · unfold okTail
      rw [List.dropWhile_cons_of_neg hd]
      by_cases hc : c = '\n'
      · subst hc
        rw [stripNl_nl]
        cases r <;> simp [Py.isDigit]
      · rw [stripNl_cons_ne hc]
        simp [hd, hc]

theorem tw_eq {r : Str} (h : okTail r = true) : tw r = stripNl r := by
  induction r with
  | nil => rfl
  | cons c r ih =>
    by_cases hd : Py.isDigit c = true
    · rw [stripNl_cons_ne (isDigit_ne_nl hd)]
      unfold tw at ih ⊢
      rw [List.takeWhile_cons_of_pos hd, ih]
      unfold okTail at h ⊢
      rwa [List.dropWhile_cons_of_pos hd] at h
    · unfold okTail at h
      rw [List.dropWhile_cons_of_neg hd] at h
      simp at h
      obtain ⟨h1, h2⟩ := h
      subst h1; subst h2
      rfl

/-- a reading that starts with a character of class `p` commutes with dropping the final newline,
    as no class of the patterns contains the newline -/
theorem guardHead_stripNl {α β} {p : Char → Bool} (hp : p '\n' = false) {k : Char → Str → Option α}
    {k' : Char → Str → Option β} {φ : β → α} (h : ∀ c t, k c t = (k' c (stripNl t)).map φ) (s : Str) :
    guardHead p k s = (guardHead p k' (stripNl s)).map φ := by
  cases s with
  | nil => rfl
  | cons c t =>
    by_cases hc : c = '\n'
    · subst hc
      rw [stripNl_nl]
      split <;> simp [guardHead, hp]
    · rw [stripNl_cons_ne hc]
      simp only [guardHead, h]
      split <;> rfl

/-- (fill, sign, alignment, width digits): the alternatives again as shapes of the whole text, a final
    newline stripped, so that which one applies can be read off the characters without the matcher -/
abbrev FmtParts := Option Char × Option Char × Char × Str

def form3 (X : Char) : Str → Option FmtParts
  | f :: g :: a :: ds =>
    if dot f && sign g && a == X && ds.all Py.isDigit then some (some f, some g, X, ds) else none
  | _ => none
def form2 (X : Char) : Str → Option FmtParts
  | f :: a :: ds => if dot f && a == X && ds.all Py.isDigit then some (some f, none, X, ds) else none
  | _ => none
def formS (X : Char) : Str → Option FmtParts
  | g :: a :: ds => if sign g && a == X && ds.all Py.isDigit then some (none, some g, X, ds) else none
  | _ => none
def form1 (X : Char) : Str → Option FmtParts
  | a :: ds => if a == X && ds.all Py.isDigit then some (none, none, X, ds) else none
  | _ => none
def form0 (s : Str) : Option FmtParts := if s.all Py.isDigit then some (none, none, '<', s) else none

/-- the groups 3, 2, 1 the matcher reports for these parts -/
def toCaps : FmtParts → Caps
  | (fill, sign, _, ds) => [(3, ds), (2, sign.toList), (1, fill.toList)]

theorem ite_and' {α} (P Q : Prop) [Decidable P] [Decidable Q] (a b : α) :
    (if P ∧ Q then a else b) = if P then (if Q then a else b) else b := by
  by_cases P <;> by_cases Q <;> simp [*]

/-- `X digits*` with fill and sign decided -/
def partsTail (X : Char) (f g : Option Char) : Str → Option FmtParts :=
  guardHead (· == X) fun _ ds => if ds.all Py.isDigit then some (f, g, X, ds) else none

theorem form3_eq (X : Char) (s : Str) :
    form3 X s = guardHead dot (fun f => guardHead sign fun g => partsTail X (some f) (some g)) s := by
  rcases s with _ | ⟨f, _ | ⟨g, _ | ⟨a, ds⟩⟩⟩ <;> simp [form3, partsTail, guardHead, ite_and']

theorem form2_eq (X : Char) (s : Str) :
    form2 X s = guardHead dot (fun f => partsTail X (some f) none) s := by
  rcases s with _ | ⟨f, _ | ⟨a, ds⟩⟩ <;> simp [form2, partsTail, guardHead, ite_and']

theorem formS_eq (X : Char) (s : Str) :
    formS X s = guardHead sign (fun g => partsTail X none (some g)) s := by
  rcases s with _ | ⟨g, _ | ⟨a, ds⟩⟩ <;> simp [formS, partsTail, guardHead, ite_and']

theorem form1_eq (X : Char) (s : Str) : form1 X s = partsTail X none none s := by
  rcases s with _ | ⟨a, ds⟩ <;> simp [form1, partsTail, guardHead, ite_and']

theorem sign_ne_nl {c : Char} (h : sign c = true) : c ≠ '\n' := by
  intro e; subst e; simp [sign] at h

theorem dot_iff {c : Char} : dot c = true ↔ c ≠ '\n' := by simp [dot]

theorem alignTail_eq {X : Char} (hX : X ≠ '\n') (f g : Option Char) (t : Str) :
    alignTail X f.toList g.toList t = (partsTail X f g (stripNl t)).map toCaps := by
  refine guardHead_stripNl (by simpa using hX.symm) (fun _ r => ?_) t
  rw [← okTail_eq]
  by_cases hok : okTail r = true
  · simp [digitsEnd, hok, tw_eq hok, toCaps]
  · simp [digitsEnd, hok]

theorem try0_eq (s : Str) : try0 s = (form0 (stripNl s)).map (fun p => [(3, p.2.2.2)]) := by
  unfold try0 form0
  rw [← okTail_eq]
  by_cases hok : okTail s = true
  · simp [hok, tw_eq hok]
  · simp [hok]

def alignedForms (X : Char) (s : Str) : Option FmtParts :=
  (form3 X s).or ((form2 X s).or ((formS X s).or (form1 X s)))

def parse (s : Str) : Option FmtParts :=
  ((alignedForms '<' s).or (form0 s)).or ((alignedForms '>' s).or (alignedForms '^' s))

theorem map_or {α β} (f : α → β) (a b : Option α) : (a.or b).map f = (a.map f).or (b.map f) := by
  cases a <;> rfl

theorem alignedRef_eq {X : Char} (hX : X ≠ '\n') (s : Str) :
    alignedRef X s = (alignedForms X (stripNl s)).map toCaps := by
  unfold alignedRef alignedForms try3 try2 tryS
  rw [map_or, map_or, map_or, form3_eq, form2_eq, formS_eq, form1_eq, ← alignTail_eq hX none none,
    ← guardHead_stripNl rfl (fun g => alignTail_eq hX none (some g)),
    ← guardHead_stripNl rfl (fun f => alignTail_eq hX (some f) none),
    ← guardHead_stripNl rfl (fun f => guardHead_stripNl rfl (fun g => alignTail_eq hX (some f) (some g)))]
  rfl


theorem guardHead_some {α} {p : Char → Bool} {k : Char → Str → Option α} {s : Str} {a : α}
    (h : guardHead p k s = some a) : ∃ c r, s = c :: r ∧ p c = true ∧ k c r = some a := by
  cases s with
  | nil => cases h
  | cons c r =>
    simp only [guardHead] at h
    split at h
    · exact ⟨c, r, rfl, ‹_›, h⟩
    · cases h

theorem partsTail_some {X : Char} {f g : Option Char} {s : Str} {p : FmtParts}
    (h : partsTail X f g s = some p) :
    ∃ ds, s = X :: ds ∧ ds.all Py.isDigit = true ∧ p = (f, g, X, ds) := by
  obtain ⟨a, ds, rfl, ha, h⟩ := guardHead_some h
  split at h
  · cases h
    cases beq_iff_eq.mp ha
    exact ⟨ds, rfl, ‹_›, rfl⟩
  · cases h

/-- What a reading with an alignment character says about the text.  "Sign without fill" is never
    the reading chosen: a sign character is also a fill character, and that reading comes first
    (`'-<5'` fills with `'-'` and extends). -/
theorem alignedForms_inv {X : Char} {s : Str} {p : FmtParts} (h : alignedForms X s = some p) :
    ∃ f g ds, p = (f, g, X, ds) ∧ s = f.toList ++ g.toList ++ X :: ds ∧
      (∀ c, f = some c → c ≠ '\n') ∧ (∀ c, g = some c → sign c = true) ∧
      ds.all Py.isDigit = true ∧ (f = none → g = none) := by
  unfold alignedForms at h
  rw [form3_eq, form2_eq, formS_eq, form1_eq] at h
  simp only [Option.or_eq_some_iff] at h
  rcases h with h | ⟨_, h | ⟨h2, h | ⟨_, h⟩⟩⟩
  · obtain ⟨f, _, rfl, hf, h⟩ := guardHead_some h
    obtain ⟨g, _, rfl, hg, h⟩ := guardHead_some h
    obtain ⟨ds, rfl, hds, rfl⟩ := partsTail_some h
    exact ⟨some f, some g, ds, rfl, rfl, by simpa using dot_iff.mp hf, by simpa using hg, hds, by simp⟩
  · obtain ⟨f, _, rfl, hf, h⟩ := guardHead_some h
    obtain ⟨ds, rfl, hds, rfl⟩ := partsTail_some h
    exact ⟨some f, none, ds, rfl, rfl, by simpa using dot_iff.mp hf, by simp, hds, by simp⟩
  · obtain ⟨g, _, rfl, hg, h⟩ := guardHead_some h
    obtain ⟨ds, rfl, hds, rfl⟩ := partsTail_some h
    simp [guardHead, partsTail, dot_iff.mpr (sign_ne_nl hg), hds] at h2
  · obtain ⟨ds, rfl, hds, rfl⟩ := partsTail_some h
    exact ⟨none, none, ds, rfl, rfl, by simp, by simp, hds, by simp⟩

theorem parse_cases {s : Str} {p : FmtParts} (h : parse s = some p) :
    (∃ X, align X = true ∧ alignedForms X s = some p) ∨
      (s.all Py.isDigit = true ∧ p = (none, none, '<', s)) := by
  unfold parse at h
  simp only [Option.or_eq_some_iff] at h
  rcases h with (h | ⟨_, h⟩) | ⟨_, h | ⟨_, h⟩⟩
  · exact Or.inl ⟨_, by decide, h⟩
  · unfold form0 at h
    split at h
    · cases h; exact Or.inr ⟨‹_›, rfl⟩
    · cases h
  · exact Or.inl ⟨_, by decide, h⟩
  · exact Or.inl ⟨_, by decide, h⟩

/-- what `_apply_string_format` has to do once the spec is parsed -/
def padApply (obj : AStr) (nid : Nat) (fill : Char) (extend : Bool) (al : Char) (ds : Str)
    (settings : Option Str) : Except PyErr AStr := do
  let st : SArg := .str (settings.getD [])
  let doApply : Bool := match settings with | some s => !s.isEmpty | none => false
  let obj ← if !extend ∧ doApply then obj.applyRaw nid st none none else pure obj
  let obj := if ds.isEmpty then obj else
    let w : Int := Py.digitsVal ds
    if al = '<' then obj.ljust w fill extend
    else if al = '>' then obj.rjust w fill extend
    else obj.center w fill extend
  if extend ∧ doApply then obj.applyRaw nid st none none else pure obj

def justOf (al : Char) : Just := if al = '<' then .left else if al = '>' then .right else .center

theorem group_toCaps3 (p : FmtParts) : Re.group (toCaps p) 3 = some p.2.2.2 := rfl
theorem group_toCaps2 (p : FmtParts) : Re.group (toCaps p) 2 = some p.2.1.toList := rfl
theorem group_toCaps1 (p : FmtParts) : Re.group (toCaps p) 1 = some p.1.toList := rfl

theorem applyJust_toCaps (obj : AStr) (nid : Nat) (fill sg : Option Char) {X : Char} (ds : Str)
    (settings : Option Str) (hs : ∀ c, sg = some c → sign c = true) (hX : align X = true) :
    applyJust obj nid (toCaps (fill, sg, X, ds)) (justOf X) settings =
      padApply obj nid (fill.getD ' ') (sg != some '-') X ds settings := by
  -- `not group(2) or group(2) == '+'` is "the sign is not `-`"
  have hext : (sg.toList.isEmpty || sg.toList == ['+']) = (sg != some '-') := by
    cases sg with
    | none => rfl
    | some c =>
      have := hs c rfl
      simp only [sign, Bool.or_eq_true, beq_iff_eq] at this
      rcases this with rfl | rfl <;> decide
  unfold applyJust padApply
  simp only [group_toCaps1, group_toCaps2, group_toCaps3, Option.getD_some, hext]
  -- on each of the three alignment characters both sides select the same method
  simp only [align, Bool.or_eq_true, beq_iff_eq] at hX
  rcases hX with (rfl | rfl) | rfl <;> cases fill <;> rfl

/-- `_apply_string_format`, decided by the grammar instead of the three regular expressions -/
def specApply (obj : AStr) (nid : Nat) (fmt : Str) (settings : Option Str) : Except PyErr AStr :=
  match parse (stripNl fmt) with
  | none => .error .valueError
  | some p => padApply obj nid (p.1.getD ' ') (p.2.1 != some '-') p.2.2.1 p.2.2.2 settings

theorem applyStringFormat_eq (obj : AStr) (nid : Nat) (fmt : Str) (settings : Option Str) :
    applyStringFormat obj nid fmt settings = specApply obj nid fmt settings := by
  have key : ∀ X {p}, align X = true → alignedForms X (stripNl fmt) = some p →
      applyJust obj nid (toCaps p) (justOf X) settings =
        padApply obj nid (p.1.getD ' ') (p.2.1 != some '-') p.2.2.1 p.2.2.2 settings := by
    intro X p hX h
    obtain ⟨f, g, ds, rfl, -, -, hg, -⟩ := alignedForms_inv h
    exact applyJust_toCaps obj nid f g ds settings hg hX
  unfold applyStringFormat specApply parse
  rw [matchStart_reLeft, matchStart_reAligned, matchStart_reAligned]
  unfold leftRef
  rw [alignedRef_eq (by decide), alignedRef_eq (by decide), alignedRef_eq (by decide), try0_eq]
  cases h1 : alignedForms '<' (stripNl fmt) with
  | some p => simp only [Option.map_some, Option.some_or]; exact key '<' rfl h1
  | none =>
    cases h0 : form0 (stripNl fmt) with
    | some p =>
      unfold form0 at h0
      split at h0
      · cases h0; simp only [Option.map_some, Option.map_none, Option.none_or, Option.some_or]; rfl
      · cases h0
    | none =>
      cases h2 : alignedForms '>' (stripNl fmt) with
      | some p =>
        simp only [Option.map_some, Option.map_none, Option.none_or, Option.some_or]; exact key '>' rfl h2
      | none =>
        cases h3 : alignedForms '^' (stripNl fmt) with
        | some p =>
          simp only [Option.map_some, Option.map_none, Option.none_or, Option.some_or]; exact key '^' rfl h3
        | none => simp only [Option.map_none, Option.none_or]

/-! ### The spec splitter of `to_str` on a spec whose first part is in the grammar -/


def restRe : Re := .seq (.opt (.cap 2 (.seq (.cls (· == ':')) (.star dot)))) .eos

theorem reSpec_eq : reSpec =
  .seq (.cap 1 (.seq (.opt (.cls dot)) (.seq (.opt (.cls sign)) (.seq (.opt (.cls align)) (.star Py.isDigit)))))
    restRe := rfl

/-- the text after the justification part: nothing, or `:` and an ansi part without newline -/
def suffix : Option Str → Str
  | none => []
  | some a => ':' :: a

/-- the captures of the spec splitter -/
def specCaps (core : Str) : Option Str → Caps
  | none => [(1, core)]
  | some a => [(2, ':' :: a), (1, core)]

theorem takeWhile_all {p : Char → Bool} {l : Str} (h : l.all p = true) : l.takeWhile p = l := by
  induction l with
  | nil => rfl
  | cons a l ih =>
    simp only [List.all_cons, Bool.and_eq_true] at h
    rw [List.takeWhile_cons_of_pos h.1, ih h.2]

theorem restRe_nil (caps : Caps) : Re.m restRe [] caps (fun _ c => some c) = some caps := by
  unfold restRe
  rw [m_seq, m_opt, m_cap, m_seq, m_cls_nil, m_eos]
  rfl

theorem restRe_colon (a : Str) (ha : a.all dot = true) (caps : Caps) :
    Re.m restRe (':' :: a) caps (fun _ c => some c) =
      some ((2, ':' :: a) :: caps.filter (·.1 != 2)) := by
  unfold restRe
  rw [m_seq, m_opt, m_cap, m_seq, m_cls_cons, if_pos (show (':' == ':') = true from rfl), m_star, takeWhile_all ha,
    Re.go_longest _ _ _ _ ((2, ':' :: a) :: caps.filter (·.1 != 2))]
  · rfl
  · rw [List.drop_length, m_eos]
    simp

/-- the matcher's continuation once group 1 of the spec pattern is read off the text `s0` -/
def group1Then (s0 rest : Str) (caps' : Caps) : Option Caps :=
  restRe.m rest ((1, s0.take (s0.length - rest.length)) :: caps'.filter (·.1 != 1)) fun _ c => some c

/-- `[0-9]*` at the end of group 1, then the rest of the spec pattern -/
theorem digitsStage (s0 core ds : Str) (ansi : Option Str) (hs0 : s0 = core ++ suffix ansi)
    (hds : ds.all Py.isDigit = true) (ha : ∀ a, ansi = some a → a.all dot = true) :
    Re.m (.star Py.isDigit) (ds ++ suffix ansi) [] (group1Then s0) = some (specCaps core ansi) := by
  have htw : List.takeWhile Py.isDigit (ds ++ suffix ansi) = ds := by
    rw [List.takeWhile_append]
    cases ansi with
    | none => simp [suffix, takeWhile_all hds]
    | some a => simp [suffix, takeWhile_all hds, Py.isDigit]
  have htk : List.take (s0.length - (suffix ansi).length) s0 = core := by
    rw [hs0, List.length_append, Nat.add_sub_cancel, List.take_left]
  rw [m_star]
  apply Re.go_longest
  rw [htw, List.drop_left]
  unfold group1Then
  rw [htk]
  cases ansi with
  | none => simp [suffix, restRe_nil, specCaps]
  | some a => simp [suffix, restRe_colon a (ha a rfl), List.filter, specCaps]

theorem m_optCls_take {α} {p : Char → Bool} {c : Char} (hc : p c = true) {r : Str} {caps : Caps}
    {k : Str → Caps → Option α} {a : α} (h : k r caps = some a) :
    Re.m (.opt (.cls p)) (c :: r) caps k = some a := by
  rw [m_opt, m_cls_cons, if_pos hc, h]
  rfl

theorem m_optCls_skip {α} {p : Char → Bool} {s : Str} (h : ∀ c r, s = c :: r → p c = false) (caps : Caps)
    (k : Str → Caps → Option α) : Re.m (.opt (.cls p)) s caps k = k s caps := by
  rw [m_opt]
  cases s with
  | nil => rw [m_cls_nil]; rfl
  | cons c r => rw [m_cls_cons, h c r rfl]; rfl

theorem align_ne_nl {c : Char} (h : align c = true) : c ≠ '\n' := by
  intro e; subst e; simp [align] at h

theorem align_not_sign {c : Char} (h : align c = true) : sign c = false := by
  simp [align] at h
  rcases h with (rfl | rfl) | rfl <;> decide

theorem head_not_sign_align {ds : Str} {ansi : Option Str} (hds : ds.all Py.isDigit = true)
    {c : Char} {r : Str} (h : ds ++ suffix ansi = c :: r) : sign c = false ∧ align c = false := by
  have hc : Py.isDigit c = true ∨ c = ':' := by
    cases ds with
    | nil =>
      cases ansi with
      | none => simp [suffix] at h
      | some a => simp [suffix] at h; exact Or.inr h.1.symm
    | cons d ds =>
      simp at h hds
      exact Or.inl (h.1 ▸ hds.1)
  rcases hc with hc | rfl
  · simp [Py.isDigit] at hc
    constructor
    · simp [sign]
      constructor <;> (intro e; subst e; revert hc; decide)
    · simp [align]
      refine ⟨⟨?_, ?_⟩, ?_⟩ <;> (intro e; subst e; revert hc; decide)
  · decide

/-- the shapes of a non-empty text of the grammar -/
inductive Shape : Str → Prop
  | s3 (f g X : Char) (ds : Str) : dot f = true → sign g = true → align X = true →
      ds.all Py.isDigit = true → Shape (f :: g :: X :: ds)
  | s2 (f X : Char) (ds : Str) : dot f = true → align X = true → ds.all Py.isDigit = true →
      Shape (f :: X :: ds)
  | s1 (X : Char) (ds : Str) : align X = true → ds.all Py.isDigit = true → Shape (X :: ds)
  | s0 (d : Char) (ds : Str) : Py.isDigit d = true → ds.all Py.isDigit = true → Shape (d :: ds)

/-- on a spec whose first part has one of the four shapes the splitter's group 1 is exactly that part: the
    greedy optional characters take the same reading as the shape, because what follows them (`X`, a digit,
    `:` or the end) cannot be read as sign or alignment -/
theorem matchStart_reSpec {core : Str} (hc : Shape core) (ansi : Option Str)
    (ha : ∀ a, ansi = some a → a.all dot = true) :
    Re.matchStart reSpec (core ++ suffix ansi) = some (specCaps core ansi) := by
  rw [reSpec_eq]
  unfold Re.matchStart
  rw [m_seq, m_cap]
  change Re.m _ _ [] (group1Then (core ++ suffix ansi)) = _
  simp only [m_seq]
  -- one character, then digits only: neither optional sign nor alignment is there to take
  have one : ∀ (c : Char) (ds : Str), dot c = true → ds.all Py.isDigit = true →
      Re.m (.opt (.cls dot)) (c :: (ds ++ suffix ansi)) []
        (fun rest caps' => Re.m (.opt (.cls sign)) rest caps' fun rest caps' =>
          Re.m (.opt (.cls align)) rest caps' fun rest caps' =>
            Re.m (.star Py.isDigit) rest caps' (group1Then (c :: (ds ++ suffix ansi)))) =
        some (specCaps (c :: ds) ansi) := by
    intro c ds hd hds
    refine m_optCls_take hd ?_
    rw [m_optCls_skip (fun c r h => (head_not_sign_align hds h).1),
      m_optCls_skip (fun c r h => (head_not_sign_align hds h).2)]
    exact digitsStage _ _ ds ansi rfl hds ha
  cases hc with
  | s3 f g X ds hf hg hX hds =>
    simp only [List.cons_append]
    exact m_optCls_take hf (m_optCls_take hg (m_optCls_take hX (digitsStage _ _ ds ansi rfl hds ha)))
  | s2 f X ds hf hX hds =>
    simp only [List.cons_append]
    refine m_optCls_take hf ?_
    rw [m_optCls_skip (by intro c r h; cases h; exact align_not_sign hX)]
    exact m_optCls_take hX (digitsStage _ _ ds ansi rfl hds ha)
  | s1 X ds hX hds => exact one X ds (dot_iff.mpr (align_ne_nl hX)) hds
  | s0 d ds hd hds => exact one d ds (dot_iff.mpr (isDigit_ne_nl hd)) hds

theorem all_digits_no_nl {ds : Str} (h : ds.all Py.isDigit = true) : '\n' ∉ ds := by
  intro hm
  have := List.all_eq_true.mp h _ hm
  simp [Py.isDigit] at this

theorem shape_no_nl {s : Str} (h : Shape s) : '\n' ∉ s := by
  cases h with
  | s3 f g X ds hf hg hX hds =>
    simp only [List.mem_cons, not_or]
    exact ⟨(dot_iff.mp hf).symm, (sign_ne_nl hg).symm, (align_ne_nl hX).symm, all_digits_no_nl hds⟩
  | s2 f X ds hf hX hds =>
    simp only [List.mem_cons, not_or]
    exact ⟨(dot_iff.mp hf).symm, (align_ne_nl hX).symm, all_digits_no_nl hds⟩
  | s1 X ds hX hds =>
    simp only [List.mem_cons, not_or]
    exact ⟨(align_ne_nl hX).symm, all_digits_no_nl hds⟩
  | s0 d ds hd hds =>
    simp only [List.mem_cons, not_or]
    exact ⟨(isDigit_ne_nl hd).symm, all_digits_no_nl hds⟩

theorem stripNl_of_no_nl {s : Str} (h : '\n' ∉ s) : stripNl s = s := by
  induction s with
  | nil => rfl
  | cons c s ih =>
    simp only [List.mem_cons, not_or] at h
    rw [stripNl_cons_ne (fun e => h.1 e.symm), ih h.2]

theorem alignedForms_shape {X : Char} (hX : align X = true) {s : Str} {p : FmtParts}
    (h : alignedForms X s = some p) : Shape s := by
  obtain ⟨f, g, ds, -, rfl, hf, hg, hds, hfg⟩ := alignedForms_inv h
  cases f with
  | none => cases hfg rfl; exact Shape.s1 X ds hX hds
  | some f =>
    have hf := dot_iff.mpr (hf f rfl)
    cases g with
    | none => exact Shape.s2 f X ds hf hX hds
    | some g => exact Shape.s3 f g X ds hf (hg g rfl) hX hds

theorem parse_shape {s : Str} {p : FmtParts} (h : parse s = some p) : s = [] ∨ Shape s := by
  rcases parse_cases h with ⟨X, hX, h⟩ | ⟨hd, -⟩
  · exact Or.inr (alignedForms_shape hX h)
  · cases s with
    | nil => exact Or.inl rfl
    | cons d ds =>
      simp only [List.all_cons, Bool.and_eq_true] at hd
      exact Or.inr (Shape.s0 d ds hd.1 hd.2)

theorem parse_no_nl {s : Str} {p : FmtParts} (h : parse s = some p) : '\n' ∉ s := by
  rcases parse_shape h with rfl | hs
  · simp
  · exact shape_no_nl hs

/-- the `format_parts` of `to_str` -/
def specParts (spec : Str) : Str × Option Str :=
  match Re.matchStart reSpec spec with
  | none => (spec, none)
  | some caps =>
    match Re.group caps 2 with
    | some (_ :: rest) => ((Re.group caps 1).getD [], some rest)
    | _ => ((Re.group caps 1).getD [], none)

theorem applySpec_eq (x : AStr) (nid : Nat) (spec : Str) :
    applySpec x nid spec =
      if !(specParts spec).1.isEmpty then applyStringFormat x nid (specParts spec).1 (specParts spec).2
      else match (specParts spec).2 with
        | some s => if s.isEmpty then .ok x else x.applyRaw nid (.str s) none none
        | none => .ok x := rfl

theorem specParts_grammar {core : Str} (hc : Shape core) (ansi : Option Str)
    (ha : ∀ a, ansi = some a → a.all dot = true) :
    specParts (core ++ suffix ansi) = (core, ansi) := by
  unfold specParts
  rw [matchStart_reSpec hc ansi ha]
  cases ansi <;> rfl

theorem shape_ne_nil {s : Str} (h : Shape s) : s ≠ [] := by
  cases h <;> simp

theorem toStr_grammar (x : AStr) {core : Str} {p : FmtParts} (hne : core ≠ []) (hp : parse core = some p)
    (ansi : Option Str) (ha : ∀ a, ansi = some a → a.all dot = true)
    (o rs re : Bool) (nid : Nat) :
    x.toStr (some (core ++ suffix ansi)) o rs re nid =
      (padApply x nid (p.1.getD ' ') (p.2.1 != some '-') p.2.2.1 p.2.2.2 ansi >>= fun obj =>
        pure (Render.render obj o rs re)) := by
  have hs : Shape core := by
    rcases parse_shape hp with h | h
    · exact absurd h hne
    · exact h
  have hce : core.isEmpty = false := by
    cases hs <;> rfl
  have hne' : (core ++ suffix ansi).isEmpty = false := by
    cases hs <;> rfl
  unfold AStr.toStr
  simp only [hne', Bool.not_false, Bool.not_true, Bool.false_eq_true, false_and, if_false, if_true,
    Option.getD_some]
  rw [applySpec_eq, specParts_grammar hs ansi ha]
  simp only [hce, Bool.not_false, if_true]
  rw [applyStringFormat_eq]
  unfold specApply
  rw [stripNl_of_no_nl (parse_no_nl hp), hp]

/-! ### `stripNl`, declaratively -/

def stripNlDecl (s : Str) : Str := if s.getLast? = some '\n' then s.dropLast else s

theorem stripNlDecl_eq (s : Str) : stripNlDecl s = stripNl s := by
  induction s with
  | nil => rfl
  | cons c s ih =>
    cases s with
    | nil =>
      unfold stripNlDecl stripNl
      by_cases hc : c = '\n' <;> simp [hc]
    | cons c' rest =>
      unfold stripNlDecl at ih ⊢
      rw [stripNl, ← ih]
      simp only [List.getLast?_cons_cons, List.dropLast_cons_cons]
      split <;> rfl

/-! ### The grammar as a set of texts -/

/-- the grammar of the justification part as a set of texts:
    `[fill][sign]align digits*` or `digits*` -/
def Mem (s : Str) : Prop :=
  (∃ (fill sg : Option Char) (al : Char) (ds : Str), s = fill.toList ++ sg.toList ++ al :: ds ∧
     (∀ c, fill = some c → c ≠ '\n') ∧ (∀ c, sg = some c → sign c = true) ∧ align al = true ∧
     ds.all Py.isDigit = true)
  ∨ s.all Py.isDigit = true

theorem alignedForms_isSome {al : Char} {fill sg : Option Char} {ds : Str}
    (hf : ∀ c, fill = some c → c ≠ '\n') (hs : ∀ c, sg = some c → sign c = true)
    (hds : ds.all Py.isDigit = true) :
    (alignedForms al (fill.toList ++ sg.toList ++ al :: ds)).isSome = true := by
  unfold alignedForms
  rw [Option.isSome_or, Option.isSome_or, Option.isSome_or]
  cases fill with
  | some f =>
    have hdf : dot f = true := dot_iff.mpr (hf f rfl)
    cases sg with
    | some g => simp [form3, hdf, hs g rfl, hds]
    | none => simp [form2, hdf, hds]
  | none =>
    cases sg with
    | some g => simp [formS, hs g rfl, hds]
    | none => simp [form1, hds]

theorem parse_isSome_iff (s : Str) : (parse s).isSome = true ↔ Mem s := by
  constructor
  · intro h
    obtain ⟨p, hp⟩ := Option.isSome_iff_exists.mp h
    rcases parse_cases hp with ⟨X, hX, h⟩ | ⟨hd, -⟩
    · obtain ⟨f, g, ds, -, rfl, hf, hg, hds, -⟩ := alignedForms_inv h
      exact Or.inl ⟨f, g, X, ds, rfl, hf, hg, hX, hds⟩
    · exact Or.inr hd
  · rintro (⟨fill, sg, al, ds, rfl, hf, hs, hal, hds⟩ | hd)
    · have := alignedForms_isSome (al := al) hf hs hds
      unfold parse
      simp only [Option.isSome_or]
      simp only [align, Bool.or_eq_true, beq_iff_eq] at hal
      rcases hal with (rfl | rfl) | rfl
      · simp only [this, Bool.true_or]
      · simp only [this, Bool.true_or, Bool.or_true]
      · simp only [this, Bool.or_true]
    · unfold parse
      simp [Option.isSome_or, form0, hd]

/-- the only ambiguity of the grammar: a sign character directly before the alignment character is
    read as the fill character (`'-<5'` fills with `'-'` and extends) -/
theorem parse_never_sign_without_fill {s : Str} {sg : Option Char} {al : Char} {ds : Str}
    (h : parse s = some (none, sg, al, ds)) : sg = none := by
  rcases parse_cases h with ⟨X, -, h⟩ | ⟨-, h⟩
  · obtain ⟨f, g, ds', hp, -, -, -, -, hfg⟩ := alignedForms_inv h
    cases hp
    exact hfg rfl
  · cases h; rfl

end Rx

end PadL
