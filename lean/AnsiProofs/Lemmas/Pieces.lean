import AnsiProofs.Props.C04
import AnsiProofs.Props.C10
/-
  For property C11 (settings of the pieces returned by the str-like methods).  Every piece is a slice
  `x.getSlice a b`, and character `k` of a slice is character `start + k` of `x` (C04; here `getSlice_act`,
  with `getSlice_from_act` and `getSlice_to_act` for a natural and for an omitted start).  What remains is
  that the offset the code computes is the TRUE offset of the piece: the offsets `find` recovers in a layout
  `g₀ ++ p₀ ++ g₁ ++ p₁ ++ … ++ gₙ` given by its gaps and pieces (`C11.interleave`) against the true ones
  (`C11.trueOff`): `pieceOffsets_exact` (all pieces non-empty), `pieceOffsets_early` (empty pieces allowed:
  they may be found early, the others exactly).  The shape of `_strip` is `StrLikeL.stripGen_shape`.
-/

namespace PiecesL

open StrLikeL

/-! ## slices -/

theorem getSlice_len (x : AStr) (a b : Option Int) :
    (x.getSlice a b).len = sliceIdx x.len b x.len - sliceIdx x.len a 0 := by
  show (x.getSlice a b).s.length = _
  rw [C04.getSlice_text, pySlice_length,
    Nat.min_eq_left (show sliceIdx x.len b x.len ≤ x.s.length from C04.sliceIdx_stop_le x.len b)]

/-- the settings of a slice, with the hypothesis on `k` phrased with the length of the slice -/
theorem getSlice_act (x : AStr) (h : WF x) (a b : Option Int) {k : Nat}
    (hk : k < (x.getSlice a b).len) :
    act (x.getSlice a b) k = act x (sliceIdx x.len a 0 + k) :=
  C04.getSlice_settings x h a b (by rw [getSlice_len] at hk; exact hk)

theorem getSlice_from_act (x : AStr) (h : WF x) (a : Nat) (b : Option Int) {k : Nat}
    (hk : k < (x.getSlice (some (a : Int)) b).len) :
    act (x.getSlice (some (a : Int)) b) k = act x (a + k) := by
  have hl := hk
  have hb := C04.sliceIdx_stop_le x.len b
  rw [getSlice_len, sliceIdx_ofNat] at hl
  rw [getSlice_act x h _ _ hk, sliceIdx_ofNat, Nat.min_eq_left (by omega)]

theorem getSlice_to_act (x : AStr) (h : WF x) (b : Option Int) {k : Nat}
    (hk : k < (x.getSlice none b).len) : act (x.getSlice none b) k = act x k := by
  rw [getSlice_act x h _ _ hk]
  show act x (0 + k) = _
  rw [Nat.zero_add]

theorem getSlice_nat_len (x : AStr) (a b : Nat) :
    (x.getSlice (some (a : Int)) (some (b : Int))).len = min b x.len - min a x.len := by
  rw [getSlice_len, sliceIdx_ofNat, sliceIdx_ofNat]

theorem getSlice_of_len_zero (x : AStr) (a b : Option Int) (h : (x.getSlice a b).len = 0) :
    x.getSlice a b = { s := [], fmts := [] } := by
  have hs : (x.getSlice a b).s = [] := List.eq_nil_of_length_eq_zero h
  rw [C04.getSlice_text] at hs
  exact getRange_of_empty x hs

theorem getSlice_text_at (x : AStr) (a b : Option Int) :
    pySlice x.s (sliceIdx x.len a 0) (sliceIdx x.len a 0 + (x.getSlice a b).len) =
      (x.getSlice a b).s := by
  rw [getSlice_len, C04.getSlice_text]
  rcases Nat.le_total (sliceIdx x.len a 0) (sliceIdx x.len b x.len) with hle | hle
  · rw [Nat.add_sub_cancel' hle]
  · rw [Nat.sub_eq_zero_of_le hle, Nat.add_zero, pySlice_eq, pySlice_eq,
      List.drop_eq_nil_of_le (Nat.le_trans (List.length_take_le _ _) hle),
      List.drop_eq_nil_of_le (List.length_take_le _ _)]

/-! ## the shape of `partition` -/

theorem occ_le (s sub : Str) (i : Nat) (hp : sub.isPrefixOf (s.drop i) = true) (hi : i ≤ s.length) :
    i + sub.length ≤ s.length := by
  have := congrArg List.length (occ_decomp s sub i hp)
  simp only [List.length_append, List.length_take, List.length_drop] at this
  omega

theorem partition_eq (x : AStr) (sep : Str) (r : Bool) (idx : Nat)
    (hf : (if r then Py.rfind x.s sep else Py.find x.s sep 0) = some idx) :
    x.partitionGen sep r =
      (x.getSlice (some ((0 : Nat) : Int)) (some (idx : Int)),
       x.getSlice (some (idx : Int)) (some ((idx + sep.length : Nat) : Int)),
       x.getSlice (some ((idx + sep.length : Nat) : Int)) none) := by
  unfold AStr.partitionGen
  rw [hf]
  rfl

/-! ## `_split` -/

theorem piecesAt_getElem? (x : AStr) (offs : List (Nat × Nat)) (j : Nat) :
    (x.piecesAt offs)[j]? =
      offs[j]?.map (fun ol => x.getSlice (some (ol.1 : Int)) (some ((ol.1 + ol.2 : Nat) : Int))) := by
  unfold AStr.piecesAt
  rw [List.getElem?_map]

/-- the pieces of `split`/`rsplit`/`splitlines` are slices of the source -/
theorem piecesAt_slices (x : AStr) (offs : List (Nat × Nat)) :
    ∀ p ∈ x.piecesAt offs, ∃ a b, p = x.getSlice a b := by
  intro p hp
  obtain ⟨ol, -, e⟩ := List.mem_map.mp hp
  exact ⟨_, _, e.symm⟩

theorem splitGen_slices {x : AStr} {sep : Option Str} {m : Int} {r : Bool} {ps : List AStr}
    (h : x.splitGen sep m r = .ok ps) : ∀ p ∈ ps, ∃ a b, p = x.getSlice a b := by
  unfold AStr.splitGen at h
  split at h
  · cases h
  · cases h; exact piecesAt_slices x _
  · cases h; exact piecesAt_slices x _

theorem piecesAt_wf (x : AStr) (h : WF x) (offs : List (Nat × Nat)) : ∀ p ∈ x.piecesAt offs, WF p := by
  intro p hp
  obtain ⟨a, b, rfl⟩ := piecesAt_slices x offs p hp
  exact C04.getSlice_wf x h a b

theorem split_wf (x : AStr) (h : WF x) (sep : Option Str) (m : Int) (r : Bool)
    (ps : List AStr) (hps : x.splitGen sep m r = .ok ps) : ∀ p ∈ ps, WF p := by
  intro p hp
  obtain ⟨a, b, rfl⟩ := splitGen_slices hps p hp
  exact C04.getSlice_wf x h a b

/-! ## layouts and the offsets `find` recovers in them -/

end PiecesL

namespace C11

/-- `g₀ ++ p₀ ++ g₁ ++ p₁ ++ … ++ gₙ` -/
def interleave : List Str → List Str → Str
  | g :: gs, p :: ps => g ++ p ++ interleave gs ps
  | g :: _, [] => g
  | [], _ => []

/-- the TRUE offset of piece `j` of a layout: everything that is laid out before it, i.e. the gaps
    `g₀ … gⱼ` and the pieces `p₀ … pⱼ₋₁` -/
def trueOff (gaps pieces : List Str) (j : Nat) : Nat :=
  ((gaps.take (j + 1)).map List.length).sum + ((pieces.take j).map List.length).sum

theorem trueOff_zero (g : Str) (gs : List Str) (ps : List Str) :
    trueOff (g :: gs) ps 0 = g.length := by
  simp [trueOff]

theorem trueOff_succ (g p : Str) (gs ps : List Str) (j : Nat) :
    trueOff (g :: gs) (p :: ps) (j + 1) = g.length + p.length + trueOff gs ps j := by
  simp [trueOff]; omega

end C11

namespace PiecesL

open StrLikeL
open C11 (interleave trueOff trueOff_zero trueOff_succ)

def Region (sepc : Char → Bool) (s : Str) (a b : Nat) : Prop :=
  ∀ i c, a ≤ i → i < b → s[i]? = some c → sepc c = true

theorem region_gap (sepc : Char → Bool) (pre g rest : Str) (hg : ∀ c ∈ g, sepc c = true) :
    Region sepc (pre ++ g ++ rest) pre.length (pre.length + g.length) := by
  intro i c h1 h2 hc
  rw [List.append_assoc, List.getElem?_append_right h1, List.getElem?_append_left (by omega)] at hc
  exact hg c (List.mem_of_getElem? hc)

theorem region_join {sepc : Char → Bool} {s : Str} {a b c : Nat} (h1 : Region sepc s a b)
    (h2 : Region sepc s b c) : Region sepc s a c := by
  intro i ch hi1 hi2 hc
  by_cases h : i < b
  · exact h1 i ch hi1 h hc
  · exact h2 i ch (by omega) hi2 hc

theorem region_empty (sepc : Char → Bool) (s : Str) (a : Nat) : Region sepc s a a := by
  intro i c h1 h2; omega

theorem not_prefix_of_sep (sepc : Char → Bool) (s p : Str) (i : Nat) (hne : p ≠ [])
    (hhead : ∀ c ∈ p.head?, sepc c = false) (hi : ∀ c, s[i]? = some c → sepc c = true) :
    p.isPrefixOf (s.drop i) = false := by
  cases hb : p.isPrefixOf (s.drop i) with
  | false => rfl
  | true =>
    exfalso
    obtain ⟨t, ht⟩ := List.isPrefixOf_iff_prefix.mp hb
    cases p with
    | nil => exact hne rfl
    | cons c p' =>
      have h0 : (s.drop i)[0]? = some c := by rw [← ht]; rfl
      rw [List.getElem?_drop, Nat.add_zero] at h0
      have h1 := hi c h0
      have h2 := hhead c (by simp)
      rw [h1] at h2; cases h2

theorem find_skip_region (sepc : Char → Bool) (s p : Str) (idx T : Nat) (hne : p ≠ [])
    (hhead : ∀ c ∈ p.head?, sepc c = false) (hreg : Region sepc s idx T) (hle : idx ≤ T)
    (hT : T ≤ s.length) (hocc : p.isPrefixOf (s.drop T) = true) : Py.find s p idx = some T :=
  (find_some_iff s p idx T).mpr
    ⟨hT, hle, hocc, fun i hi1 hi2 => not_prefix_of_sep sepc s p i hne hhead (fun c hc => hreg i c hi2 hi1 hc)⟩

theorem interleave_step (sepc : Char → Bool) {s pre g q : Str} {gs ps : List Str}
    (hs : s = pre ++ interleave (g :: gs) (q :: ps)) (hg : ∀ c ∈ g, sepc c = true) :
    s = (pre ++ g ++ q) ++ interleave gs ps ∧ pre.length + g.length ≤ s.length ∧
      q.isPrefixOf (s.drop (pre.length + g.length)) = true ∧
      Region sepc s pre.length (pre.length + g.length) := by
  have hs' : s = (pre ++ g) ++ q ++ interleave gs ps := by
    rw [hs, interleave]
    simp only [List.append_assoc]
  have hocc := occ_of_eq hs'
  rw [List.length_append] at hocc
  refine ⟨hs', hocc.1, hocc.2, ?_⟩
  rw [hs', List.append_assoc]
  exact region_gap sepc pre g _ hg

theorem pieceOffsets_exact (sepc : Char → Bool) (s : Str) (gaps pieces : List Str) (pre : Str)
    (hc : gaps.length = pieces.length + 1) (hs : s = pre ++ interleave gaps pieces)
    (hg : ∀ g ∈ gaps, ∀ c ∈ g, sepc c = true) (hne : ∀ p ∈ pieces, p ≠ [])
    (hp : ∀ (j : Nat) (p : Str), pieces[j]? = some p →
      (∀ c ∈ p.head?, sepc c = false) ∨ gaps[j]? = some [])
    (j : Nat) (p : Str) (hj : pieces[j]? = some p) :
    (AStr.pieceOffsets s 0 pieces pre.length)[j]? =
      some (pre.length + trueOff gaps pieces j, p.length) := by
  induction pieces generalizing gaps pre j with
  | nil => cases hj
  | cons q ps ih =>
    match gaps, hc with
    | g :: gs, hc =>
      obtain ⟨hs', hT, hocc, hreg⟩ := interleave_step sepc hs (hg g (List.mem_cons_self ..))
      have hfind : Py.find s q pre.length = some (pre.length + g.length) := by
        rcases hp 0 q rfl with hh | hh
        · exact find_skip_region sepc s q _ _ (hne q (List.mem_cons_self ..)) hh hreg
            (Nat.le_add_right ..) hT hocc
        · obtain rfl : g = [] := Option.some.inj hh
          exact find_at s q pre.length hT hocc
      rw [pieceOffsets_cons, hfind, Option.getD_some, Nat.add_zero]
      cases j with
      | zero =>
        obtain rfl : q = p := Option.some.inj hj
        rw [List.getElem?_cons_zero, trueOff_zero]
      | succ j =>
        have := ih gs (pre ++ g ++ q) (Nat.succ.inj hc) hs'
          (fun g0 h0 => hg g0 (List.mem_cons_of_mem _ h0))
          (fun p0 h0 => hne p0 (List.mem_cons_of_mem _ h0)) (fun i p0 hi => hp (i + 1) p0 hi) j hj
        rw [List.length_append, List.length_append] at this
        rw [List.getElem?_cons_succ, trueOff_succ, this, ← Nat.add_assoc, ← Nat.add_assoc]

/-- the running index `idx` may lag behind the layout by separator characters only -/
theorem pieceOffsets_early (sepc : Char → Bool) (s : Str) (gaps pieces : List Str) (pre : Str)
    (idx : Nat) (hc : gaps.length = pieces.length + 1) (hs : s = pre ++ interleave gaps pieces)
    (hidx : idx ≤ pre.length) (hreg : Region sepc s idx pre.length)
    (hg : ∀ g ∈ gaps, ∀ c ∈ g, sepc c = true) (hp : ∀ p ∈ pieces, ∀ c ∈ p.head?, sepc c = false)
    (j : Nat) (p : Str) (hj : pieces[j]? = some p) :
    ∃ e : Nat, (AStr.pieceOffsets s 0 pieces idx)[j]? = some (e, p.length) ∧
      (p ≠ [] → e = pre.length + trueOff gaps pieces j) := by
  induction pieces generalizing gaps pre idx j with
  | nil => cases hj
  | cons q ps ih =>
    match gaps, hc with
    | g :: gs, hc =>
      obtain ⟨hs', hT, hocc, hregG⟩ := interleave_step sepc hs (hg g (List.mem_cons_self ..))
      have hregT := region_join hreg hregG
      have hlen : (pre ++ g ++ q).length = pre.length + g.length + q.length := by
        rw [List.length_append, List.length_append]
      -- the offset found for `q`, and the invariant for the rest
      have key : ∃ e, Py.find s q idx = some e ∧ (q ≠ [] → e = pre.length + g.length) ∧
          e + q.length ≤ (pre ++ g ++ q).length ∧
          Region sepc s (e + q.length) (pre ++ g ++ q).length := by
        rw [hlen]
        cases q with
        | nil =>
          exact ⟨idx, by rw [find_empty, if_pos (by omega)], fun h => absurd rfl h,
            Nat.le_trans hidx (Nat.le_add_right ..), hregT⟩
        | cons c q' =>
          exact ⟨pre.length + g.length,
            find_skip_region sepc s _ _ _ (List.cons_ne_nil _ _) (hp _ (List.mem_cons_self ..)) hregT
              (by omega) hT hocc,
            fun _ => rfl, Nat.le_refl _, region_empty _ _ _⟩
      obtain ⟨e, hfind, he2, he3, he4⟩ := key
      rw [pieceOffsets_cons, hfind, Option.getD_some, Nat.add_zero]
      cases j with
      | zero =>
        obtain rfl : q = p := Option.some.inj hj
        exact ⟨e, rfl, fun hne => by rw [he2 hne, trueOff_zero]⟩
      | succ j =>
        obtain ⟨e', h1, h2⟩ := ih gs (pre ++ g ++ q) (e + q.length) (Nat.succ.inj hc) hs' he3 he4
          (fun g0 h0 => hg g0 (List.mem_cons_of_mem _ h0))
          (fun p0 h0 => hp p0 (List.mem_cons_of_mem _ h0)) j hj
        exact ⟨e', h1, fun hne => by rw [h2 hne, hlen, trueOff_succ, ← Nat.add_assoc, ← Nat.add_assoc]⟩

theorem pieceOffsets_length (s : Str) (gap : Nat) (ps : List Str) (idx : Nat) :
    (AStr.pieceOffsets s gap ps idx).length = ps.length := by
  induction ps generalizing idx with
  | nil => rfl
  | cons p rest ih => simp [AStr.pieceOffsets, ih]

/-! ## `mapText`, `assign_str` -/

theorem mapText_wf (x : AStr) (h : WF x) (t : Str) (ht : t.length = x.len) : WF (x.mapText t) where
  sorted := h.sorted
  bound := by
    intro kp hkp
    have := h.bound kp hkp
    simpa [AStr.mapText, AStr.len, ht] using (show kp.1 ≤ t.length by rw [ht]; exact this)
  noAddEnd := by
    intro kp hkp he
    exact h.noAddEnd kp hkp (by
      have : (x.mapText t).len = t.length := rfl
      rw [he, this, ht])
  ok := h.ok
  nodup := h.nodup
  closed := by
    have : (x.mapText t).len = x.len := ht
    show active x.fmts (x.mapText t).len = []
    rw [this]; exact h.closed
  coherent := h.coherent

theorem assignStr_shorter_eq (x : AStr) (t : Str) (ht : t.length < x.len) :
    x.assignStr t = (x.getSlice none (some (t.length : Int))).mapText t := by
  unfold AStr.assignStr
  have h1 : ¬ t.length > x.len := by omega
  simp only [h1, if_false, ht, if_true]
  rfl

theorem assignStr_shorter_slice_len (x : AStr) (t : Str) (ht : t.length < x.len) :
    (x.getSlice none (some (t.length : Int))).len = t.length := by
  rw [getSlice_len, StrLikeL.sliceIdx_ofNat]
  simp only [sliceIdx]
  omega

end PiecesL
