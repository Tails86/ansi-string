import AnsiProofs.Lemmas.Basic
/-
  For property C17 (`ansi_settings_at`, `settings_at`, `find_settings`):
  `active` only changes at keys, the replay triples carry `active f k`, and the pieces
  `find_settings` is made of, each as a search through the ascending keys of the range
  (`findFs_keys`, `findFe_keys`), from which what it finds and what it passes over is read off.
-/

/-! ### `active` is constant between change points -/

/-- no sortedness needed -/
theorem activeFrom_const (cur : List Setting) (f : Fmts) {i j : Nat} (hij : i ≤ j)
    (h : ∀ k ∈ f.keys, ¬ (i < k ∧ k ≤ j)) : activeFrom cur f j = activeFrom cur f i := by
  induction f generalizing cur with
  | nil => rfl
  | cons kp rest ih =>
    obtain ⟨k, p⟩ := kp
    have hk := h k List.mem_cons_self
    have hrest : ∀ k' ∈ Fmts.keys rest, ¬ (i < k' ∧ k' ≤ j) := fun k' hk' => h k' (List.mem_cons_of_mem _ hk')
    by_cases h1 : k ≤ i
    · rw [activeFrom_cons_le cur p rest h1, activeFrom_cons_le cur p rest (Nat.le_trans h1 hij)]
      exact ih _ hrest
    · have h1' := Nat.lt_of_not_le h1
      rw [activeFrom_cons_gt cur p rest h1', activeFrom_cons_gt cur p rest (Nat.lt_of_not_le fun hle => hk ⟨h1', hle⟩)]

theorem active_const (f : Fmts) {i j : Nat} (hij : i ≤ j)
    (h : ∀ k ∈ f.keys, ¬ (i < k ∧ k ≤ j)) : active f j = active f i :=
  activeFrom_const [] f hij h

theorem active_succ_of_not_key (f : Fmts) (i : Nat) (h : i + 1 ∉ f.keys) :
    active f (i + 1) = active f i := by
  apply active_const f (Nat.le_succ i)
  intro k hk hlt
  have : k = i + 1 := by omega
  exact h (this ▸ hk)

theorem active_scan (f : Fmts) (P : List Setting → Prop) {i m : Nat} (h0 : P (active f i))
    (hk : ∀ k ∈ f.keys, i < k → k < m → P (active f k)) :
    ∀ j, i ≤ j → j < m → P (active f j) := by
  intro j hij
  induction hij with
  | refl => exact fun _ => h0
  | @step j hle ih =>
    intro h2
    by_cases hkey : j + 1 ∈ f.keys
    · exact hk _ hkey (Nat.lt_succ_of_le hle) h2
    · rw [active_succ_of_not_key f j hkey]
      exact ih (Nat.lt_of_succ_lt h2)

/-! ### the replay triples -/

theorem replayFrom_keys (cur : List Setting) (f : Fmts) :
    (replayFrom cur f).map (·.1) = f.keys := by
  induction f generalizing cur with
  | nil => rfl
  | cons kp rest ih =>
    obtain ⟨k, p⟩ := kp
    simp only [replayFrom, List.map_cons, Fmts.keys]
    rw [ih]; rfl

theorem replayFrom_cur (cur : List Setting) (f : Fmts) (hs : SortedKeys f)
    (t : Nat × Point × List Setting) (ht : t ∈ replayFrom cur f) :
    t.2.2 = activeFrom cur f t.1 := by
  induction f generalizing cur with
  | nil => cases ht
  | cons kp rest ih =>
    obtain ⟨k, p⟩ := kp
    have hlt := Fmts.sorted_head_lt hs
    simp only [replayFrom, List.mem_cons] at ht
    rcases ht with e | hin
    · subst e
      simp only [activeFrom, Nat.le_refl, if_true]
      exact (activeFrom_of_all_gt _ hlt).symm
    · have hk : t.1 ∈ Fmts.keys rest := by
        rw [← replayFrom_keys (stepPoint cur p) rest]
        exact List.mem_map_of_mem hin
      obtain ⟨kp', hkp', e⟩ := List.mem_map.mp hk
      have : k < t.1 := e ▸ hlt kp' hkp'
      have hle : k ≤ t.1 := by omega
      simp only [activeFrom, hle, if_true]
      exact ih _ (Fmts.sorted_tail hs) hin

theorem replay_cur (f : Fmts) (hs : SortedKeys f) (t : Nat × Point × List Setting)
    (ht : t ∈ replay f) : t.2.2 = active f t.1 :=
  replayFrom_cur [] f hs t ht

theorem replay_cur' (f : Fmts) (hs : SortedKeys f) (k : Nat) (p : Point) (cur : List Setting)
    (ht : (k, p, cur) ∈ replay f) : cur = active f k :=
  replay_cur f hs (k, p, cur) ht

theorem replay_pairwise (f : Fmts) (hs : SortedKeys f) :
    (replay f).Pairwise (fun a b => a.1 < b.1) := by
  have h1 : (f.keys).Pairwise (· < ·) := by
    unfold Fmts.keys
    exact List.pairwise_map.mpr hs
  rw [← replayFrom_keys [] f] at h1
  exact List.pairwise_map.mp h1

/-! ### `find?` on a list sorted by a key -/

theorem find?_before {α : Type} (R : α → α → Prop) (p : α → Bool) (l : List α) (a : α)
    (hp : l.Pairwise R) (hf : l.find? p = some a) :
    ∀ b ∈ l, ¬ R a b → b ≠ a → p b = false := by
  obtain ⟨_, as, bs, hl, has⟩ := List.find?_eq_some_iff_append.mp hf
  intro b hb hR hne
  subst hl
  rcases List.mem_append.mp hb with h | h
  · simpa using has b h
  · rcases List.mem_cons.mp h with h | h
    · exact absurd h hne
    · have := (List.pairwise_append.mp hp).2.1
      exact absurd ((List.pairwise_cons.mp this).1 b h) hR

/-! ### the pieces of `find_settings` -/

/-- `idx_to_settings` -/
def findTbl (f : Fmts) (st en : Nat) : List (Nat × Point × List Setting) :=
  (replay f).filter (fun t => st ≤ t.1 ∧ t.1 ≤ en)

/-- the check of position `start` itself -/
def findFs0 (x : AStr) (want : List Str) (st en : Nat) : Option Nat :=
  if !((findTbl x.fmts st en).any (fun t => t.1 = st)) ∧ st < en then
    (if AStr.allIn want (x.ansiSettingsAt st) then some st else none)
  else none

/-- `found_start` -/
def findFs (x : AStr) (want : List Str) (st en : Nat) (rev : Bool) : Option Nat :=
  match findFs0 x want st en with
  | some i => some i
  | none =>
    ((if rev then (findTbl x.fmts st en).reverse else findTbl x.fmts st en).find?
      (fun t => t.1 < en ∧ AStr.allIn want t.2.2)).map (·.1)

/-- `found_end` for a given `found_start` -/
def findFe (f : Fmts) (want : List Str) (st en i : Nat) : Option Nat :=
  ((findTbl f st en).find? (fun t => t.1 > i ∧ !AStr.allIn want t.2.2)).map (·.1)

theorem findSettings_eq (x : AStr) (want : List Str) (start end_ : Option Int) (rev : Bool) :
    x.findSettings want start end_ rev =
      if sliceIdx x.len end_ x.len < sliceIdx x.len start 0 then (none, none)
      else if want.isEmpty then (some (sliceIdx x.len start 0), some (sliceIdx x.len end_ x.len))
      else
        match findFs x want (sliceIdx x.len start 0) (sliceIdx x.len end_ x.len) rev with
        | none => (none, none)
        | some i => (some i, findFe x.fmts want (sliceIdx x.len start 0) (sliceIdx x.len end_ x.len) i) :=
  rfl

theorem findSettings_search (x : AStr) (want : List Str) (start end_ : Option Int) (rev : Bool)
    (h1 : ¬ sliceIdx x.len end_ x.len < sliceIdx x.len start 0) (h2 : want ≠ []) :
    x.findSettings want start end_ rev =
      match findFs x want (sliceIdx x.len start 0) (sliceIdx x.len end_ x.len) rev with
      | none => (none, none)
      | some i => (some i, findFe x.fmts want (sliceIdx x.len start 0) (sliceIdx x.len end_ x.len) i) := by
  rw [findSettings_eq, if_neg h1, if_neg (by rwa [List.isEmpty_iff])]

theorem mem_findTbl {f : Fmts} {st en : Nat} {t : Nat × Point × List Setting} :
    t ∈ findTbl f st en ↔ t ∈ replay f ∧ st ≤ t.1 ∧ t.1 ≤ en := by
  simp [findTbl, List.mem_filter]

theorem findTbl_pairwise (f : Fmts) (hs : SortedKeys f) (st en : Nat) :
    (findTbl f st en).Pairwise (fun a b => a.1 < b.1) :=
  (replay_pairwise f hs).filter _

/-- the keys of `idx_to_settings`, ascending -/
def findKeys (f : Fmts) (st en : Nat) : List Nat := f.keys.filter (fun k => st ≤ k ∧ k ≤ en)

theorem mem_findKeys {f : Fmts} {st en k : Nat} : k ∈ findKeys f st en ↔ k ∈ f.keys ∧ st ≤ k ∧ k ≤ en := by
  simp [findKeys, List.mem_filter]

theorem findKeys_sorted {f : Fmts} (hs : SortedKeys f) (st en : Nat) : (findKeys f st en).Pairwise (· < ·) :=
  (List.pairwise_map.mpr hs : f.keys.Pairwise (· < ·)).filter _

theorem findTbl_keys (f : Fmts) (st en : Nat) : (findTbl f st en).map (·.1) = findKeys f st en := by
  unfold findTbl findKeys replay
  rw [← replayFrom_keys [] f, List.filter_map]
  rfl

theorem mem_dir {K : List Nat} {rev : Bool} {k : Nat} : k ∈ (if rev then K.reverse else K) ↔ k ∈ K := by
  cases rev
  · exact Iff.rfl
  · exact List.mem_reverse

theorem find?_entries {f : Fmts} (hs : SortedKeys f) (q : Nat → List Setting → Bool) :
    ∀ (C : List (Nat × Point × List Setting)), (∀ t ∈ C, t ∈ replay f) →
      (C.find? (fun t => q t.1 t.2.2)).map (·.1) = (C.map (·.1)).find? (fun k => q k (active f k))
  | [], _ => rfl
  | t :: C, hC => by
    rw [List.map_cons, List.find?_cons, List.find?_cons, ← replay_cur f hs t (hC t List.mem_cons_self)]
    cases q t.1 t.2.2
    · exact find?_entries hs q C (fun u hu => hC u (List.mem_cons_of_mem _ hu))
    · rfl

theorem findFs_keys {x : AStr} (hs : SortedKeys x.fmts) (want : List Str) {st en : Nat} (rev : Bool)
    (hse : st ≤ en) (hen : en ≤ x.len) :
    findFs x want st en rev =
      if st ∉ x.fmts.keys ∧ st < en ∧ AStr.allIn want (active x.fmts st) = true then some st
      else (if rev then (findKeys x.fmts st en).reverse else findKeys x.fmts st en).find?
        (fun k => k < en ∧ AStr.allIn want (active x.fmts k)) := by
  have hany : (findTbl x.fmts st en).any (fun t => t.1 = st) = decide (st ∈ x.fmts.keys) := by
    have e := List.any_map (f := (·.1)) (l := findTbl x.fmts st en) (p := fun k => decide (k = st))
    rw [findTbl_keys] at e
    rw [show (findTbl x.fmts st en).any (fun t => t.1 = st) = _ from e.symm]
    rw [Bool.eq_iff_iff]
    simp [mem_findKeys, hse]
  have hscan : ((if rev then (findTbl x.fmts st en).reverse else findTbl x.fmts st en).find?
        (fun t => t.1 < en ∧ AStr.allIn want t.2.2)).map (·.1) =
      (if rev then (findKeys x.fmts st en).reverse else findKeys x.fmts st en).find?
        (fun k => k < en ∧ AStr.allIn want (active x.fmts k)) := by
    rw [← findTbl_keys]
    cases rev
    · exact find?_entries hs (fun k c => k < en ∧ AStr.allIn want c) _ (fun t ht => (mem_findTbl.mp ht).1)
    · rw [← List.map_reverse]
      exact find?_entries hs (fun k c => k < en ∧ AStr.allIn want c) _
        (fun t ht => (mem_findTbl.mp (List.mem_reverse.mp ht)).1)
  unfold findFs findFs0
  rw [hany, hscan]
  by_cases hlt : st < en
  · rw [ansiSettingsAt_nat x st (Nat.lt_of_lt_of_le hlt hen)]
    by_cases hk : st ∈ x.fmts.keys
    · simp [hk]
    · cases hh : AStr.allIn want (active x.fmts st) <;> simp [hk, hlt]
  · simp [hlt]

theorem findFe_keys {f : Fmts} (hs : SortedKeys f) (want : List Str) (st en i : Nat) :
    findFe f want st en i =
      (findKeys f st en).find? (fun k => k > i ∧ !AStr.allIn want (active f k)) := by
  unfold findFe
  rw [← findTbl_keys]
  exact find?_entries hs (fun k c => k > i ∧ !AStr.allIn want c) _ (fun t ht => (mem_findTbl.mp ht).1)

/-! ### `found_start` -/

theorem findFs_in_range {x : AStr} (hs : SortedKeys x.fmts) {want : List Str} {st en : Nat} {rev : Bool}
    (hse : st ≤ en) (hen : en ≤ x.len) {i : Nat} (h : findFs x want st en rev = some i) :
    st ≤ i ∧ i < en ∧ AStr.allIn want (active x.fmts i) = true := by
  rw [findFs_keys hs want rev hse hen] at h
  split at h
  · next hc =>
    cases h
    exact ⟨Nat.le_refl _, hc.2⟩
  · exact ⟨(mem_findKeys.mp (mem_dir.mp (List.mem_of_find?_eq_some h))).2.1, by simpa using List.find?_some h⟩

theorem scan_keys {x : AStr} {want : List Str} {st en m : Nat} (hm : m ≤ en)
    (h0 : ¬ (st ∉ x.fmts.keys ∧ st < en ∧ AStr.allIn want (active x.fmts st) = true))
    (hk : ∀ k ∈ findKeys x.fmts st en, k < m → AStr.allIn want (active x.fmts k) = false) :
    ∀ j, st ≤ j → j < m → AStr.allIn want (active x.fmts j) = false := by
  intro j h1 h2
  have hse : st < en := Nat.lt_of_lt_of_le (Nat.lt_of_le_of_lt h1 h2) hm
  have hst : AStr.allIn want (active x.fmts st) = false := by
    by_cases hkey : st ∈ x.fmts.keys
    · exact hk st (mem_findKeys.mpr ⟨hkey, Nat.le_refl _, Nat.le_of_lt hse⟩) (Nat.lt_of_le_of_lt h1 h2)
    · exact Bool.eq_false_iff.mpr fun hh => h0 ⟨hkey, hse, hh⟩
  exact active_scan x.fmts (fun c => AStr.allIn want c = false) hst
    (fun k hkk h3 h4 =>
      hk k (mem_findKeys.mpr ⟨hkk, Nat.le_of_lt h3, Nat.le_of_lt (Nat.lt_of_lt_of_le h4 hm)⟩) h4) j h1 h2

theorem findFs_none {x : AStr} (hs : SortedKeys x.fmts) {want : List Str} {st en : Nat} {rev : Bool}
    (hse : st ≤ en) (hen : en ≤ x.len) (h : findFs x want st en rev = none) :
    ∀ i, st ≤ i → i < en → AStr.allIn want (active x.fmts i) = false := by
  rw [findFs_keys hs want rev hse hen] at h
  split at h
  · cases h
  · next hc =>
    refine scan_keys (Nat.le_refl en) hc fun k hk hlt => ?_
    simpa [hlt] using List.find?_eq_none.mp h k (mem_dir.mpr hk)

theorem findFs_first {x : AStr} (hs : SortedKeys x.fmts) {want : List Str} {st en : Nat}
    (hse : st ≤ en) (hen : en ≤ x.len) {i : Nat} (h : findFs x want st en false = some i) :
    ∀ j, st ≤ j → j < i → AStr.allIn want (active x.fmts j) = false := by
  have hr := (findFs_in_range hs hse hen h).2.1
  rw [findFs_keys hs want false hse hen] at h
  split at h
  · cases h
    intro j h1 h2
    omega
  · next hc =>
    refine scan_keys (Nat.le_of_lt hr) hc fun k hk hlt => ?_
    have := find?_before _ _ _ i (findKeys_sorted hs st en) h k hk (Nat.lt_asymm hlt) (Nat.ne_of_lt hlt)
    simpa [Nat.lt_trans hlt hr] using this

theorem findFs_rev_last {x : AStr} (hs : SortedKeys x.fmts) {want : List Str} {st en : Nat}
    (hse : st ≤ en) (hen : en ≤ x.len) {i : Nat} (h : findFs x want st en true = some i)
    (hi : i ∈ x.fmts.keys) :
    ∀ k ∈ x.fmts.keys, i < k → k < en → AStr.allIn want (active x.fmts k) = false := by
  have hr := (findFs_in_range hs hse hen h).1
  rw [findFs_keys hs want true hse hen] at h
  split at h
  · next hc =>
    cases h
    exact absurd hi hc.1
  · intro k hk h1 h2
    have := find?_before _ _ _ i (List.pairwise_reverse.mpr (findKeys_sorted hs st en)) h k
      (List.mem_reverse.mpr (mem_findKeys.mpr ⟨hk, Nat.le_of_lt (Nat.lt_of_le_of_lt hr h1), Nat.le_of_lt h2⟩))
      (Nat.lt_asymm h1) (Nat.ne_of_gt h1)
    simpa [h2] using this

/-! ### `found_end` -/

theorem findFe_some {f : Fmts} (hs : SortedKeys f) {want : List Str} {st en i p : Nat}
    (h : findFe f want st en i = some p) :
    i < p ∧ p ≤ en ∧ AStr.allIn want (active f p) = false ∧
    ∀ k ∈ f.keys, st ≤ k → i < k → k < p → AStr.allIn want (active f k) = true := by
  rw [findFe_keys hs] at h
  have hp : i < p ∧ AStr.allIn want (active f p) = false := by simpa using List.find?_some h
  have hpe := (mem_findKeys.mp (List.mem_of_find?_eq_some h)).2.2
  refine ⟨hp.1, hpe, hp.2, fun k hk h4 h5 h6 => ?_⟩
  have := find?_before _ _ _ p (findKeys_sorted hs st en) h k
    (mem_findKeys.mpr ⟨hk, h4, Nat.le_trans (Nat.le_of_lt h6) hpe⟩) (Nat.lt_asymm h6) (Nat.ne_of_lt h6)
  simpa [h5] using this

theorem findFe_none {f : Fmts} (hs : SortedKeys f) {want : List Str} {st en i : Nat}
    (h : findFe f want st en i = none) :
    ∀ k ∈ f.keys, st ≤ k → i < k → k ≤ en → AStr.allIn want (active f k) = true := by
  rw [findFe_keys hs] at h
  intro k hk h1 h2 h3
  simpa [h2] using List.find?_eq_none.mp h k (mem_findKeys.mpr ⟨hk, h1, h3⟩)

theorem findFe_run {f : Fmts} (hs : SortedKeys f) {want : List Str} {st en i : Nat} (hsi : st ≤ i)
    (hi : AStr.allIn want (active f i) = true) :
    ∀ j, i ≤ j → j < en → (∀ p, findFe f want st en i = some p → j < p) →
      AStr.allIn want (active f j) = true := by
  intro j h1 h2 h3
  cases hfe : findFe f want st en i with
  | none =>
    exact active_scan f (fun c => AStr.allIn want c = true) hi
      (fun k hk h4 h5 => findFe_none hs hfe k hk (Nat.le_trans hsi (Nat.le_of_lt h4)) h4 (Nat.le_of_lt h5)) j h1 h2
  | some p =>
    have hjp := h3 p hfe
    obtain ⟨_, _, _, hk⟩ := findFe_some hs hfe
    exact active_scan f (fun c => AStr.allIn want c = true) hi
      (fun k hkk h4 h5 => hk k hkk (Nat.le_trans hsi (Nat.le_of_lt h4)) h4 h5) j h1 hjp

/-! ### the two components of the result -/

theorem findSettings_fst (x : AStr) (want : List Str) (start end_ : Option Int) (rev : Bool)
    (h1 : sliceIdx x.len start 0 ≤ sliceIdx x.len end_ x.len) (h2 : want ≠ []) :
    (x.findSettings want start end_ rev).1 =
      findFs x want (sliceIdx x.len start 0) (sliceIdx x.len end_ x.len) rev := by
  rw [findSettings_search x want start end_ rev (Nat.not_lt.mpr h1) h2]
  cases findFs x want (sliceIdx x.len start 0) (sliceIdx x.len end_ x.len) rev with
  | none => rfl
  | some i => rfl

theorem findSettings_snd (x : AStr) (want : List Str) (start end_ : Option Int) (rev : Bool)
    (h1 : sliceIdx x.len start 0 ≤ sliceIdx x.len end_ x.len) (h2 : want ≠ []) {i : Nat}
    (hi : (x.findSettings want start end_ rev).1 = some i) :
    (x.findSettings want start end_ rev).2 =
      findFe x.fmts want (sliceIdx x.len start 0) (sliceIdx x.len end_ x.len) i := by
  rw [findSettings_fst x want start end_ rev h1 h2] at hi
  rw [findSettings_search x want start end_ rev (Nat.not_lt.mpr h1) h2, hi]

theorem findSettings_snd_none (x : AStr) (want : List Str) (start end_ : Option Int) (rev : Bool)
    (hi : (x.findSettings want start end_ rev).1 = none) :
    (x.findSettings want start end_ rev).2 = none := by
  rw [findSettings_eq] at hi ⊢
  by_cases h1 : sliceIdx x.len end_ x.len < sliceIdx x.len start 0
  · rw [if_pos h1]
  · rw [if_neg h1] at hi ⊢
    by_cases h2 : want.isEmpty = true
    · rw [if_pos h2] at hi
      cases hi
    · rw [if_neg h2] at hi ⊢
      cases hf : findFs x want (sliceIdx x.len start 0) (sliceIdx x.len end_ x.len) rev with
      | none => rfl
      | some i =>
        rw [hf] at hi
        cases hi
