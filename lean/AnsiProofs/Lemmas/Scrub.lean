import AnsiProofs.Lemmas.Effects
import AnsiProofs.Lemmas.Matcher
import AnsiProofs.Lemmas.StrLit
/-
  Lemmas for properties C14 (`_scrub_ansi_settings` and friends) and C15 (`AnsiSetting.valid` / `.parsable`).
-/

namespace ScrubL

/-- decide a closed Boolean fact about `Gen.formatTable` in the kernel, its string literals
    rewritten to character lists first (otherwise the kernel decodes the UTF-8 of every name) -/
macro "scrubl_table_decide" : tactic =>
  `(tactic| (simp only [Gen.formatTable, strLitToList]; decide +kernel))


/-! ## a decidable strict order on strings (lexicographic on code points) -/

def ltStr : Str → Str → Bool
  | [], [] => false
  | [], _ :: _ => true
  | _ :: _, [] => false
  | a :: as, b :: bs => decide (a.toNat < b.toNat) || (a == b && ltStr as bs)

theorem ltStr_irrefl : ∀ s : Str, ltStr s s = false
  | [] => rfl
  | a :: as => by simp [ltStr, ltStr_irrefl as]

theorem ltStr_trans : ∀ a b c : Str, ltStr a b = true → ltStr b c = true → ltStr a c = true
  | [], [], _, h, _ => by simp [ltStr] at h
  | [], _ :: _, [], _, h => by simp [ltStr] at h
  | [], _ :: _, _ :: _, _, _ => by simp [ltStr]
  | _ :: _, [], _, h, _ => by simp [ltStr] at h
  | _ :: _, _ :: _, [], _, h => by simp [ltStr] at h
  | x :: xs, y :: ys, z :: zs, h₁, h₂ => by
    simp only [ltStr, Bool.or_eq_true, decide_eq_true_eq, Bool.and_eq_true, beq_iff_eq] at h₁ h₂ ⊢
    rcases h₁ with h₁ | ⟨rfl, h₁⟩
    · rcases h₂ with h₂ | ⟨rfl, _⟩
      · left; omega
      · left; exact h₁
    · rcases h₂ with h₂ | ⟨rfl, h₂⟩
      · left; exact h₂
      · right; exact ⟨rfl, ltStr_trans xs ys zs h₁ h₂⟩

/-- adjacent keys strictly ascending (one linear pass) -/
def ascKeys {β} : List (Str × β) → Bool
  | [] => true
  | [_] => true
  | a :: b :: rest => ltStr a.1 b.1 && ascKeys (b :: rest)

theorem ascKeys_tail {β} {a : Str × β} {l : List (Str × β)} (h : ascKeys (a :: l) = true) :
    ascKeys l = true := by
  cases l with
  | nil => rfl
  | cons b rest => simp [ascKeys] at h; exact h.2

theorem ascKeys_head_lt {β} : ∀ {a : Str × β} {l : List (Str × β)}, ascKeys (a :: l) = true →
    ∀ r ∈ l, ltStr a.1 r.1 = true
  | _, [], _, r, hr => by simp at hr
  | a, b :: rest, h, r, hr => by
    simp only [ascKeys, Bool.and_eq_true] at h
    rcases List.mem_cons.1 hr with rfl | hr
    · exact h.1
    · exact ltStr_trans _ _ _ h.1 (ascKeys_head_lt h.2 r hr)

theorem find?_of_ascKeys {β} : ∀ {l : List (Str × β)}, ascKeys l = true → ∀ r ∈ l,
    l.find? (fun x => x.1 == r.1) = some r
  | [], _, r, hr => by simp at hr
  | a :: l, h, r, hr => by
    rcases List.mem_cons.1 hr with rfl | hr
    · simp
    · have hlt := ascKeys_head_lt h r hr
      have hne : (a.1 == r.1) = false := by
        apply Bool.eq_false_iff.2
        intro he
        have : a.1 = r.1 := by simpa using he
        rw [this, ltStr_irrefl] at hlt
        exact Bool.noConfusion hlt
      rw [List.find?_cons, hne]
      exact find?_of_ascKeys (ascKeys_tail h) r hr

/-! ## the member table: three linear passes, and lookup -/

def isNameChar (c : Char) : Bool := ('A' ≤ c && c ≤ 'Z') || ('0' ≤ c && c ≤ '9') || c == '_'

def nameOk (n : Str) : Bool := n.head?.any (fun c => 'A' ≤ c && c ≤ 'Z') && n.all isNameChar

open Scrub SettingTxt

def codeVals (t : Str) : List Nat :=
  (toList t).filterMap (fun c => match c with | .int i => some i.toNat | .str _ => none)

/-- `groupVals`, decided -/
def groupCheck : List Nat → Bool
  | [] => false
  | first :: rest =>
    (first :: rest).all (fun v => decide (v ≤ 255)) && !decide (first = 0) && (Term.specEffect first).isSome &&
      if first = 38 ∨ first = 48 ∨ first = 58 then
        (match rest with
         | [5, _] => true
         | [2, _, _, _] => true
         | _ => false)
      else rest.isEmpty

def itemVals (t : Str) : List Nat := (Py.splitOnChar ';' t).map Py.digitsVal

/-- a setting text in canonical form: every item is `str` of its value, and the values are one group -/
def canonical (t : Str) : Bool :=
  (Py.splitOnChar ';' t).all (fun v => Py.natStr (Py.digitsVal v) == v) && groupCheck (itemVals t)

def rowOk (r : Str × List Str) : Bool := !r.2.isEmpty && r.2.all canonical

set_option maxRecDepth 100000 in
/-- the three passes over the member table, decided together so that its literals are rewritten once -/
theorem table_checks : ascKeys Gen.formatTable = true ∧
    Gen.formatTable.all (fun r => nameOk r.1) = true ∧ Gen.formatTable.all rowOk = true := by
  scrubl_table_decide

theorem table_asc : ascKeys Gen.formatTable = true := table_checks.1
theorem table_names : Gen.formatTable.all (fun r => nameOk r.1) = true := table_checks.2.1
theorem table_rows : Gen.formatTable.all rowOk = true := table_checks.2.2

theorem lookup_of_mem {r : Str × List Str} (hr : r ∈ Gen.formatTable) : lookupFormat r.1 = some r.2 := by
  unfold lookupFormat
  rw [find?_of_ascKeys table_asc r hr]; rfl

theorem mem_of_lookup {n : Str} {ts : List Str} (h : lookupFormat n = some ts) : (n, ts) ∈ Gen.formatTable := by
  unfold lookupFormat at h
  obtain ⟨r, hf, rfl⟩ := Option.map_eq_some_iff.1 h
  have hn : r.1 = n := by simpa using List.find?_some hf
  exact hn ▸ List.mem_of_find?_eq_some hf

/-- Two members the examples of C14 and C16 use.  The entry is found by walking down the table by
    unification (with the names left folded a wrong entry is refused at once), so the proofs do not
    depend on where the regenerated table has it. -/
theorem bold_mem : ("BOLD".toList, ["1".toList]) ∈ Gen.formatTable := by
  unfold Gen.formatTable
  with_reducible_and_instances repeat constructor

theorem red_mem : ("RED".toList, ["31".toList]) ∈ Gen.formatTable := by
  unfold Gen.formatTable
  with_reducible_and_instances repeat constructor

theorem nameOk_of_mem {r : Str × List Str} (hr : r ∈ Gen.formatTable) : nameOk r.1 = true :=
  List.all_eq_true.1 table_names r hr

theorem lookup_none_of_not_nameOk {n : Str} (h : nameOk n = false) : lookupFormat n = none := by
  cases hl : lookupFormat n with
  | none => rfl
  | some ts => rw [nameOk_of_mem (mem_of_lookup hl)] at h; cases h

theorem nameOk_chars {n : Str} (h : nameOk n = true) : n ≠ [] ∧ ∀ c ∈ n, isNameChar c = true := by
  rw [nameOk, Bool.and_eq_true, List.all_eq_true] at h
  refine ⟨?_, h.2⟩
  rintro rfl
  cases h.1

theorem lookup_none_of_char {n : Str} {c : Char} (hc : c ∈ n) (hn : isNameChar c = false) :
    lookupFormat n = none := by
  apply lookup_none_of_not_nameOk
  rw [nameOk, Bool.and_eq_false_iff, List.all_eq_false]
  exact Or.inr ⟨c, hc, by simp [hn]⟩

theorem combineInts_settings (ts : List Str) : combineInts (ts.map SOut.setting) [] = ts := by
  induction ts with
  | nil => rfl
  | cons t ts ih => simp [combineInts, ih]

theorem scrubItems_append (l₁ l₂ : List SArg) :
    scrubItems (l₁ ++ l₂) = (do let a ← scrubItems l₁; let b ← scrubItems l₂; pure (a ++ b)) := by
  induction l₁ with
  | nil => 
    simp [scrubItems]
    cases scrubItems l₂ <;> rfl
  | cons a l₁ ih =>
    simp only [List.cons_append, scrubItems, ih]
    cases scrubItem a <;> cases scrubItems l₁ <;> cases scrubItems l₂ <;> simp [bind, Except.bind, pure, Except.pure]

theorem char_le_iff (a b : Char) : a ≤ b ↔ a.toNat ≤ b.toNat := by
  rw [Char.le_def, UInt32.le_iff_toNat_le]; rfl

theorem char_eq_iff (a b : Char) : a = b ↔ a.toNat = b.toNat := by
  constructor
  · intro h; rw [h]
  · intro h; rw [← Char.ofNat_toNat a, ← Char.ofNat_toNat b, h]

def normChar (c : Char) : Char := let c := upperAscii c; if c == ' ' || c == '-' then '_' else c

theorem normName_eq_map (s : Str) : normName s = s.map normChar := rfl

theorem isNameChar_iff (n : Char) : isNameChar n = true ↔
    (65 ≤ n.toNat ∧ n.toNat ≤ 90) ∨ (48 ≤ n.toNat ∧ n.toNat ≤ 57) ∨ n.toNat = 95 := by
  simp [isNameChar, char_le_iff, char_eq_iff, or_assoc]

theorem normChar_variant (n c : Char) (hn : isNameChar n = true)
    (h1 : 'A' ≤ n ∧ n ≤ 'Z' → c = n ∨ c.toNat = n.toNat + 32)
    (h2 : n = '_' → c = '_' ∨ c = '-' ∨ c = ' ')
    (h3 : '0' ≤ n ∧ n ≤ '9' → c = n) : normChar c = n := by
  rw [isNameChar_iff] at hn
  by_cases hu : n = '_'
  · subst hu
    rcases h2 rfl with rfl | rfl | rfl <;> rfl
  · -- a letter or a digit: `upper()` gives `n`, which is neither a space nor a hyphen
    simp only [char_le_iff, char_eq_iff, Char.reduceToNat] at h1 h3 hu
    have hup : upperAscii c = n := by
      unfold upperAscii
      simp only [char_le_iff, Char.reduceToNat, Bool.and_eq_true, decide_eq_true_eq]
      split
      · rw [← Char.ofNat_toNat n]; congr 1; omega
      · apply (char_eq_iff _ _).2; omega
    have a : n ≠ ' ' ∧ n ≠ '-' := by
      simp only [ne_eq, char_eq_iff, Char.reduceToNat]; omega
    simp [normChar, hup, a]

theorem normName_of_pointwise {name v : Str} (hlen : name.length = v.length)
    (h : ∀ i (h1 : i < name.length) (h2 : i < v.length), normChar v[i] = name[i]) :
    normName v = name := by
  apply List.ext_getElem
  · simp [normName_eq_map, hlen]
  · intro i h1 h2
    simp only [normName_eq_map, List.getElem_map]
    exact h i h2 (by simpa [normName_eq_map] using h1)
theorem scrub_str_eq (v : Str) : scrub (.str v) = (do let r ← scrubString v; pure (combineInts r [])) := by
  simp [scrub, scrubItem]

theorem scrubDirective_of_lookup {v : Str} {ts : List Str} (h : lookupFormat (normName v) = some ts) :
    scrubDirective v = .ok (ts.map .setting) := by
  simp [scrubDirective, h]

theorem scrub_member {r : Str × List Str} (hr : r ∈ Gen.formatTable) : scrub (.member r.1) = .ok r.2 := by
  simp [scrub, scrubItem, lookup_of_mem hr, bind, Except.bind, pure, Except.pure, combineInts_settings]

theorem scrub_verbatim {t : Str} (ht : t ≠ []) : scrub (.str ('[' :: t)) = .ok [t] := by
  have : t.isEmpty = false := by cases t <;> simp_all
  simp [scrub, scrubItem, scrubString, this, bind, Except.bind, pure, Except.pure, combineInts]

theorem scrub_obj (t : Str) : scrub (.obj t) = .ok [t] := by
  simp [scrub, scrubItem, bind, Except.bind, pure, Except.pure, combineInts]

theorem scrub_neg_int {i : Int} (h : i < 0) : scrub (.int i) = .error .valueError := by
  simp [scrub, scrubItem, h, bind, Except.bind]

theorem scrub_bad (t : Bool) : scrub (.bad t) = .error .typeError := by
  simp [scrub, scrubItem, bind, Except.bind]

theorem scrub_list_err {pre post : List SArg} {a : SArg} {e : PyErr} {p : List SOut}
    (hp : scrubItems pre = .ok p) (ha : scrubItem a = .error e) :
    scrub (.list (pre ++ [a] ++ post)) = .error e := by
  simp [scrub, scrubItems_append, scrubItems, hp, ha, bind, Except.bind]

/-! ## decimal digits (`str(n)`, `strip`, `split` and `int()` on them: `Eff`) -/

theorem isDigit_iff (c : Char) : Py.isDigit c = true ↔ 48 ≤ c.toNat ∧ c.toNat ≤ 57 := by
  simp [Py.isDigit, char_le_iff]

theorem isDigit_isHex {c : Char} (h : Py.isDigit c = true) : isHex c = true := by simp [isHex, h]

theorem isDigit_ne {c d : Char} (h : Py.isDigit c = true) (hd : Py.isDigit d = false) : c ≠ d := by
  intro e; subst e; simp [h] at hd


theorem ctrlFns_eq : Gen.ctrlFns = [([38,5],1), ([38,2],3), ([48,5],1), ([48,2],3), ([58,5],1), ([58,2],3)] :=
  Eff.ctrlFns_eq

set_option linter.unusedSimpArgs false

theorem startsWithFn1_nat (m : Nat) (rest : List Nat) :
    startsWithFn [m] (natCodes rest) = match rest with | [] => false | b :: _ => decide (b = m) := by
  cases rest with
  | nil => rfl
  | cons b r => simp [startsWithFn, natCodes, codeInt_beq]; omega

/-! ## the spec's tokenizer functions coincide with the model's primitives -/

theorem isWs_eq : Term.isWs = Py.isSpace := rfl
theorem termIsDigit_eq : Term.isDigit = Py.isDigit := rfl
theorem trim_eq (s : Str) : Term.trim s = Py.strip s := rfl
theorem decimal_eq (s : Str) : Term.decimal s = Py.digitsVal s := Eff.decimal_eq s

/-! ## membership through split / strip -/

theorem joinSep_splitOnChar (sep : Char) : ∀ s : Str, joinSep [sep] (Py.splitOnChar sep s) = s
  | [] => rfl
  | c :: rest => by
    obtain ⟨a, l, hs⟩ := List.exists_cons_of_ne_nil (Eff.splitOnChar_ne_nil sep rest)
    have ih := joinSep_splitOnChar sep rest
    rw [hs] at ih
    rw [Py.splitOnChar, hs]
    split
    · rename_i h
      rw [eq_of_beq h]
      simp [joinSep, ih]
    · cases l with
      | nil => simpa [joinSep] using ih
      | cons b l => simp only [joinSep, List.cons_append] at ih ⊢; rw [ih]

theorem mem_joinSep {sep : Str} : ∀ (l : List Str) (c : Char), c ∈ joinSep sep l → c ∈ sep ∨ ∃ it ∈ l, c ∈ it
  | [], c, h => by simp [joinSep] at h
  | [a], c, h => Or.inr ⟨a, by simp, h⟩
  | a :: b :: l, c, h => by
    simp only [joinSep, List.mem_append] at h
    rcases h with (h | h) | h
    · exact Or.inr ⟨a, by simp, h⟩
    · exact Or.inl h
    · rcases mem_joinSep (b :: l) c h with h | ⟨it, hit, hc⟩
      · exact Or.inl h
      · exact Or.inr ⟨it, List.mem_cons_of_mem _ hit, hc⟩

theorem mem_split (sep : Char) (s : Str) (c : Char) (h : c ∈ s) : c = sep ∨ ∃ it ∈ Py.splitOnChar sep s, c ∈ it := by
  rw [← joinSep_splitOnChar sep s] at h
  simpa using mem_joinSep _ c h

theorem mem_dropWhile_or {p : Char → Bool} : ∀ (s : Str) (c : Char), c ∈ s → p c = true ∨ c ∈ s.dropWhile p
  | [], c, h => by simp at h
  | d :: rest, c, h => by
    by_cases hd : p d = true
    · rw [List.dropWhile_cons_of_pos hd]
      rcases List.mem_cons.1 h with rfl | h
      · exact Or.inl hd
      · exact mem_dropWhile_or rest c h
    · rw [List.dropWhile_cons_of_neg hd]; exact Or.inr h

theorem mem_strip (s : Str) (c : Char) (h : c ∈ s) : Py.isSpace c = true ∨ c ∈ Py.strip s := by
  unfold Py.strip Py.rstripBy
  rcases mem_dropWhile_or (p := Py.isSpace) s c h with h | h
  · exact Or.inl h
  · rcases mem_dropWhile_or (p := Py.isSpace) _ c (List.mem_reverse.2 h) with h | h
    · exact Or.inl h
    · exact Or.inr (List.mem_reverse.2 h)

/-! ## `to_list()` -/

def items (t : Str) : List Str := (Py.splitOnChar ';' t).map Py.strip

theorem toList_eq (t : Str) :
    toList t = (items t).map (fun v => if Py.isdigit v then Code.int (Py.digitsVal v) else Code.str v) := by
  simp [toList, items, List.map_map, Function.comp_def]

theorem toList_digits {t : Str} (h : ∀ v ∈ items t, Py.isdigit v = true) :
    toList t = natCodes ((items t).map Py.digitsVal) := by
  rw [toList_eq, natCodes, List.map_map]
  apply List.map_congr_left
  intro v hv
  simp [h v hv]

theorem parsableCodes_all_int {codes : List Code} (h : parsableCodes codes = true) :
    ∀ c ∈ codes, ∃ i, c = Code.int i := by
  unfold parsableCodes at h
  split at h
  · cases h
  · simp only [Bool.if_false_left, Bool.and_eq_true, Bool.decide_eq_true, Bool.not_not, List.all_eq_true] at h
    intro c hc
    have := h.2.1 c hc
    cases c with
    | int i => exact ⟨i, rfl⟩
    | str s => cases this

theorem items_digits_of_parsableCodes {t : Str} (h : parsableCodes (toList t) = true) :
    ∀ v ∈ items t, Py.isdigit v = true := by
  intro v hv
  have := parsableCodes_all_int h (if Py.isdigit v then Code.int (Py.digitsVal v) else Code.str v)
    (by rw [toList_eq]; exact List.mem_map.2 ⟨v, hv, rfl⟩)
  cases hd : Py.isdigit v with
  | true => rfl
  | false => rw [hd] at this; obtain ⟨i, hi⟩ := this; simp at hi

theorem not_isTerm_of {c : Char} (h : c = ';' ∨ Py.isSpace c = true ∨ Py.isDigit c = true) : isTerm c = false := by
  have e : Gen.termLo = 64 := rfl
  simp only [isTerm, e]
  rcases h with rfl | h | h
  · decide
  · simp only [Py.isSpace, Bool.or_eq_true, beq_iff_eq, Bool.and_eq_true, decide_eq_true_eq, char_eq_iff] at h
    have : ' '.toNat = 32 := rfl
    have : ¬ 64 ≤ c.toNat := by omega
    simp [this]
  · rw [isDigit_iff] at h
    have : ¬ 64 ≤ c.toNat := by omega
    simp [this]

theorem valid_of_items_digits {t : Str} (h : ∀ v ∈ items t, Py.isdigit v = true) : valid t = true := by
  simp only [valid, List.all_eq_true, Bool.not_eq_true']
  intro c hc
  apply not_isTerm_of
  rcases mem_split ';' t c hc with h1 | ⟨it, hit, hcit⟩
  · exact Or.inl h1
  · rcases mem_strip it c hcit with h2 | h2
    · exact Or.inr (Or.inl h2)
    · have := h (Py.strip it) (List.mem_map.2 ⟨it, hit, rfl⟩)
      exact Or.inr (Or.inr ((Eff.isdigit_iff.1 this).2 c h2))

theorem parsable_iff_items (t : Str) : parsable t = true ↔
    (∀ v ∈ items t, Py.isdigit v = true) ∧ groupVals ((items t).map Py.digitsVal) := by
  rw [parsable_eq, Bool.and_eq_true]
  constructor
  · rintro ⟨_, hp⟩
    have hd := items_digits_of_parsableCodes hp
    rw [toList_digits hd, parsableCodes_nat] at hp
    exact ⟨hd, hp⟩
  · rintro ⟨hd, hg⟩
    refine ⟨valid_of_items_digits hd, ?_⟩
    rw [toList_digits hd, parsableCodes_nat]; exact hg

/-! ## `';'.join(str(n) …)` and back -/

theorem joinSep_cons_ne_nil {sep a : Str} {l : List Str} (ha : a ≠ []) : joinSep sep (a :: l) ≠ [] := by
  cases l with
  | nil => exact ha
  | cons b l => simp [joinSep, ha]

theorem natStr_ok (n : Nat) : Py.natStr n ≠ [] ∧ ∀ c ∈ Py.natStr n, Py.isDigit c = true :=
  ⟨(Eff.natStr_spec n).1, (Eff.natStr_spec n).2.1⟩

theorem ne_of_not_mem {c : Char} {s : Str} (h : c ∉ s) : ∀ d ∈ s, d ≠ c := fun _ hd e => h (e ▸ hd)

theorem semi_not_mem_natStr (n : Nat) : ';' ∉ Py.natStr n :=
  fun h => absurd ((natStr_ok n).2 _ h) (by decide)

theorem split_joinNats {l : List Nat} (h : l ≠ []) : Py.splitOnChar ';' (joinNats l) = l.map Py.natStr :=
  Eff.split_joinNats h

theorem toList_joinNats {l : List Nat} (h : l ≠ []) : toList (joinNats l) = natCodes l :=
  Eff.toList_joinNats h

theorem natStr_eq_joinNats (n : Nat) : Py.natStr n = joinNats [n] := rfl

/-! ## the regular-expression matcher on literals, optional classes and runs of digits -/

open Re

theorem m_lit_append {α} : ∀ (p s : Str) (caps : Caps) (k : Str → Caps → Option α),
    m (lit p) (p ++ s) caps k = k s caps
  | [], s, caps, k => by simp [lit, m_eps]
  | c :: p, s, caps, k => by
    simp only [lit, List.cons_append, m_seq, m_cls_cons, beq_self_eq_true, if_true]
    exact m_lit_append p s caps k

theorem m_lit_none {α} : ∀ (p s : Str) (caps : Caps) (k : Str → Caps → Option α),
    Py.startsWith s p = false → m (lit p) s caps k = none
  | [], s, _, _, h => by cases s <;> simp [Py.startsWith] at h
  | c :: p, [], caps, k, _ => by simp [lit, m_seq, m_cls_nil]
  | c :: p, d :: s, caps, k, h => by
    simp only [Py.startsWith, Bool.and_eq_false_iff] at h
    simp only [lit, m_seq, m_cls_cons]
    by_cases hdc : d = c
    · subst hdc
      simp only [beq_self_eq_true, if_true]
      rcases h with h | h
      · simp at h
      · exact m_lit_none p s caps k h
    · simp [hdc]

theorem m_opt_cls_skip {α} (p : Char → Bool) (s : Str) (caps : Caps) (k : Str → Caps → Option α)
    (h : ∀ c, s.head? = some c → p c = false) : m (opt (cls p)) s caps k = k s caps := by
  rw [m_opt]
  cases s with
  | nil => rw [m_cls_nil]; rfl
  | cons c r => rw [m_cls_cons, h c rfl]; rfl


theorem takeWhile_append_run (p : Char → Bool) : ∀ (run rest : Str), (∀ c ∈ run, p c = true) →
    (∀ c, rest.head? = some c → p c = false) → (run ++ rest).takeWhile p = run
  | [], rest, _, h2 => by
    cases rest with
    | nil => rfl
    | cons c r => simp [h2 c rfl]
  | d :: run, rest, h1, h2 => by
    simp only [List.cons_append, List.takeWhile, h1 d (by simp)]
    rw [takeWhile_append_run p run rest (fun c hc => h1 c (List.mem_cons_of_mem _ hc)) h2]

/-- `([..]+)` as capture `b` on a run `ds` followed by a non-class character, when the
    continuation cannot start with a class character: deterministic, captures `ds` -/
theorem m_plus_cap_exact {α} (b : Nat) (p : Char → Bool) (ds rest : Str) (caps : Caps)
    (k : Str → Caps → Option α) (hne : ds ≠ []) (hp : ∀ c ∈ ds, p c = true)
    (hrest : ∀ c, rest.head? = some c → p c = false)
    (hk : ∀ d more caps', p d = true → k (d :: more) caps' = none) :
    m (cap b (plus p)) (ds ++ rest) caps k = k rest ((b, ds) :: caps.filter (·.1 != b)) := by
  cases ds with
  | nil => exact absurd rfl hne
  | cons d ds' =>
    have hp' : ∀ c ∈ ds', p c = true := fun c hc => hp c (List.mem_cons_of_mem _ hc)
    have htw := takeWhile_append_run p ds' rest hp' hrest
    rw [m_cap, plus, m_seq, List.cons_append, m_cls_cons, hp d (by simp), if_pos rfl]
    rw [m_star_exact]
    · rw [htw, List.drop_left]
      simp only [List.length_cons, List.length_append]
      have : ds'.length + rest.length + 1 - rest.length = ds'.length + 1 := by omega
      rw [this, List.take_succ_cons, List.take_left]
    · intro j hj
      rw [htw] at hj
      rw [List.drop_append_of_le_length (by omega), List.drop_eq_getElem_cons hj]
      exact hk _ _ _ (hp' _ (List.getElem_mem hj))

theorem startsWith_0x_false (ds rest : Str) (hne : ds ≠ []) (hd : ∀ c ∈ ds, Py.isDigit c = true)
    (hx : ∀ c, rest.head? = some c → c ≠ 'x') : Py.startsWith (ds ++ rest) "0x".toList = false := by
  have e : "0x".toList = ['0', 'x'] := by simp only [strLitToList]
  rw [e]
  match ds, hne, hd with
  | [d], _, _ =>
    cases rest with
    | nil => simp [Py.startsWith]
    | cons c r => simp [Py.startsWith, hx c rfl]
  | d :: d' :: r, _, hd =>
    have : d' ≠ 'x' := by
      intro h; have := hd d' (by simp); rw [h] at this; revert this; decide
    simp [Py.startsWith, this]

/-- `(0x)?([0-9a-fA-F]+)` on a decimal run followed by a non-hex character other than `x` -/
theorem m_reNum_exact {α} (a b : Nat) (ds rest : Str) (caps : Caps) (k : Str → Caps → Option α)
    (hne : ds ≠ []) (hd : ∀ c ∈ ds, Py.isDigit c = true)
    (hrest : ∀ c, rest.head? = some c → isHex c = false ∧ c ≠ 'x')
    (hk : ∀ d more caps', isHex d = true → k (d :: more) caps' = none) :
    m (reNum a b) (ds ++ rest) caps k = k rest ((b, ds) :: caps.filter (·.1 != b)) := by
  rw [reNum, m_seq, m_opt, m_cap,
    m_lit_none _ _ _ _ (startsWith_0x_false ds rest hne hd (fun c hc => (hrest c hc).2)), Option.none_or]
  exact m_plus_cap_exact b isHex ds rest caps k hne (fun c hc => isDigit_isHex (hd c hc))
    (fun c hc => (hrest c hc).1) hk


theorem isHex_iff (c : Char) : isHex c = true ↔
    (48 ≤ c.toNat ∧ c.toNat ≤ 57) ∨ (97 ≤ c.toNat ∧ c.toNat ≤ 102) ∨ (65 ≤ c.toNat ∧ c.toNat ≤ 70) := by
  simp [isHex, Py.isDigit, char_le_iff, or_assoc]

theorem isHex_not_space {c : Char} (h : isHex c = true) : Py.isSpace c = false := by
  rw [isHex_iff] at h
  have : ¬ c = ' ' := by rw [char_eq_iff]; show ¬ c.toNat = 32; omega
  simp [Py.isSpace, this]; omega

theorem isHex_ne {c d : Char} (h : isHex c = true) (hd : isHex d = false) : c ≠ d := by
  intro e; subst e; simp [h] at hd

theorem head?_append_mem {ds rest : Str} {c : Char} (hne : ds ≠ []) (h : (ds ++ rest).head? = some c) : c ∈ ds := by
  cases ds with
  | nil => exact absurd rfl hne
  | cons d r => simp at h; simp [h]

/-- `\s*(0x)?([0-9a-fA-F]+)\s*` on a decimal run followed by a character that is neither hex, `x`
    nor white space, when the continuation cannot start with a hex digit -/
theorem m_ws_num_ws {α} (a b : Nat) (ds rest : Str) (caps : Caps) (k : Str → Caps → Option α)
    (hne : ds ≠ []) (hd : ∀ c ∈ ds, Py.isDigit c = true)
    (hrest : ∀ c, rest.head? = some c → isHex c = false ∧ c ≠ 'x' ∧ Py.isSpace c = false)
    (hk : ∀ d more caps', isHex d = true → k (d :: more) caps' = none) :
    m reWs (ds ++ rest) caps (fun r c => m (reNum a b) r c (fun r c => m reWs r c k)) =
      k rest ((b, ds) :: caps.filter (·.1 != b)) := by
  rw [reWs, m_star_skip Py.isSpace _ _ _ (fun c hc => Eff.isWs_of_isDigit (hd c (head?_append_mem hne hc)))]
  rw [m_reNum_exact a b ds rest caps _ hne hd (fun c hc => ⟨(hrest c hc).1, (hrest c hc).2.1⟩)]
  · exact m_star_skip _ _ _ _ (fun c hc => (hrest c hc).2.2)
  · intro d more caps' hdx
    rw [m_star_skip _ _ _ _ (fun c hc => by
      simp only [List.head?_cons, Option.some.injEq] at hc; subst hc; exact isHex_not_space hdx)]
    exact hk d more caps' hdx

/-- the continuation `Re.matchStart` starts the matcher with: whatever is left, the groups so far -/
def k0 : Str → Caps → Option Caps := fun _ caps => some caps

/-- the closing part `[\)\]]?\)$` on `")"` -/
theorem m_close {α} (caps : Caps) (k : Str → Caps → Option α) :
    m reClose [')'] caps (fun r c => m (lit ")".toList) r c (fun r c => m eos r c k)) = k [] caps := by
  simp [reClose, m_opt, m_cls_cons, m_cls_nil, strLitToList, lit, m_seq, m_eps, m_eos]

theorem hex_digit_facts {d : Char} (h : isHex d = true) :
    (d == ',') = false ∧ (d == ')') = false ∧ (d == ']') = false ∧ (d == '[') = false ∧ (d == '(') = false := by
  rw [isHex_iff] at h
  simp only [beq_eq_false_iff_ne, ne_eq, char_eq_iff]
  refine ⟨?_, ?_, ?_, ?_, ?_⟩ <;> (intro e; rw [e] at h; revert h; decide)

theorem paren_head : ∀ c, [')'].head? = some c → isHex c = false ∧ c ≠ 'x' ∧ Py.isSpace c = false := by
  intro c hc; simp only [List.head?_cons, Option.some.injEq] at hc; subst hc; decide

theorem open_skip_digits {α} (V rest : Str) (caps : Caps) (k : Str → Caps → Option α)
    (hV : V ≠ [] ∧ ∀ c ∈ V, Py.isDigit c = true) : m reOpen (V ++ rest) caps k = k (V ++ rest) caps := by
  rw [reOpen, m_opt_cls_skip _ _ _ _ (fun c hc => by
    have := hV.2 c (head?_append_mem hV.1 hc)
    have := hex_digit_facts (isDigit_isHex this)
    simp [this])]

/-- the continuation `[\)\]]?\)$` cannot start with a hex digit -/
theorem close_none_hex {α} (d : Char) (more : Str) (caps : Caps) (k : Str → Caps → Option α)
    (hd : isHex d = true) :
    m reClose (d :: more) caps (fun r c => m (lit ")".toList) r c (fun r c => m eos r c k)) = none := by
  have f := hex_digit_facts hd
  rw [reClose, m_opt_cls_skip _ _ _ _ (fun c hc => by
    simp only [List.head?_cons, Option.some.injEq] at hc; subst hc; simp [f])]
  simp [strLitToList, lit, m_seq, m_cls_cons, f]

theorem comma_none_hex {α} (d : Char) (more : Str) (caps : Caps) (k : Str → Caps → Option α)
    (hd : isHex d = true) : m reComma (d :: more) caps k = none := by
  rw [reComma, m_cls_cons, (hex_digit_facts hd).1]; rfl

theorem comma_head (s : Str) :
    ∀ c, (',' :: s).head? = some c → isHex c = false ∧ c ≠ 'x' ∧ Py.isSpace c = false := by
  intro c hc; simp only [List.head?_cons, Option.some.injEq] at hc; subst hc; decide

/-- continuation that cannot start with one of the prefix letters -/
def NoPfxStart {α} (k : Str → Caps → Option α) : Prop :=
  ∀ c rest caps, c = 'f' ∨ c = 'b' ∨ c = 'u' ∨ c = 'd' → k (c :: rest) caps = none

theorem take_len_sub (p s : Str) : (p ++ s).take ((p ++ s).length - s.length) = p := by
  simp

theorem m_rePrefix_none {α} (s : Str) (caps : Caps) (k : Str → Caps → Option α)
    (hs : ∀ c, s.head? = some c → c ≠ 'f' ∧ c ≠ 'b' ∧ c ≠ 'u' ∧ c ≠ 'd') :
    m rePrefix s caps k = k s ((1, []) :: caps.filter (·.1 != 1)) := by
  cases s with
  | nil => simp [rePrefix, m_cap, m_alt, m_opt, strLitToList, lit, m_seq, m_cls_nil]
  | cons c rest => simp [rePrefix, m_cap, m_alt, m_opt, strLitToList, lit, m_seq, m_cls_cons, hs c rfl]

/-- the spellings of the component prefix -/
def prefixes : List Str := [[], "fg_".toList, "bg_".toList, "ul_".toList, "dul_".toList]

theorem m_rePrefix_lit {α} {pfx : Str} (hp : pfx ∈ prefixes.tail) (s : Str) (caps : Caps)
    (k : Str → Caps → Option α) (hk : NoPfxStart k) :
    m rePrefix (pfx ++ s) caps k = k s ((1, pfx) :: caps.filter (·.1 != 1)) := by
  have h := fun c rest caps hc => hk c rest caps hc
  simp only [prefixes, strLitToList, List.tail, List.mem_cons, List.not_mem_nil, or_false] at hp
  rcases hp with rfl | rfl | rfl | rfl <;>
    simp [rePrefix, m_cap, m_alt, m_opt, lit, m_seq, m_cls_cons, m_eps, h, Nat.add_sub_cancel_left, Nat.add_assoc]

theorem m_rePrefix_gen {α} (pfx : Str) (hp : pfx ∈ prefixes) (s : Str) (caps : Caps)
    (k : Str → Caps → Option α) (hs : ∀ c, s.head? = some c → c ≠ 'f' ∧ c ≠ 'b' ∧ c ≠ 'u' ∧ c ≠ 'd')
    (hk : NoPfxStart k) :
    m rePrefix (pfx ++ s) caps k = k s ((1, pfx) :: caps.filter (·.1 != 1)) := by
  rw [prefixes] at hp
  rcases List.mem_cons.1 hp with rfl | hp
  · exact m_rePrefix_none s caps k hs
  · exact m_rePrefix_lit hp s caps k hk

theorem m_lit_head_ne {α} {w : Str} {c0 : Char} (hw : w.head? = some c0) (s : Str) (caps : Caps)
    (k : Str → Caps → Option α) (hs : ∀ c, s.head? = some c → c ≠ c0) : m (lit w) s caps k = none := by
  cases w with
  | nil => simp at hw
  | cons w0 w' =>
    simp only [List.head?_cons, Option.some.injEq] at hw
    subst hw
    cases s with
    | nil => simp [m_seq, lit, m_cls_nil]
    | cons c rest => simp [m_seq, lit, m_cls_cons, hs c rfl]

theorem noPfxStart_lit {α} {w : Str} {c0 : Char} (hw : w.head? = some c0)
    (hc0 : c0 ≠ 'f' ∧ c0 ≠ 'b' ∧ c0 ≠ 'u' ∧ c0 ≠ 'd') (k : Str → Caps → Option α) :
    NoPfxStart (fun r c => m (lit w) r c k) := by
  intro c rest caps hc
  apply m_lit_head_ne hw
  intro c' h e
  simp only [List.head?_cons, Option.some.injEq] at h
  subst h e
  rcases hc with rfl | rfl | rfl | rfl <;> simp at hc0

theorem rgbLit_head : "rgb(".toList.head? = some 'r' := by simp only [strLitToList]; rfl
theorem coloLit_head : "colo".toList.head? = some 'c' := by simp only [strLitToList]; rfl

theorem head_rgb (X : Str) : ∀ c, ("rgb(".toList ++ X).head? = some c → c ≠ 'f' ∧ c ≠ 'b' ∧ c ≠ 'u' ∧ c ≠ 'd' := by
  intro c hc
  have e : "rgb(".toList = ['r','g','b','('] := by simp only [strLitToList]
  rw [e] at hc; simp at hc; subst hc; decide
theorem head_colo (X : Str) :
    ∀ c, ("colo".toList ++ X).head? = some c → (c ≠ 'f' ∧ c ≠ 'b' ∧ c ≠ 'u' ∧ c ≠ 'd') ∧ c ≠ 'r' := by
  intro c hc
  have e : "colo".toList = ['c','o','l','o'] := by simp only [strLitToList]
  rw [e] at hc; simp at hc; subst hc; decide

theorem match_none_of_lit {w : Str} {c0 : Char} (hw : w.head? = some c0)
    (hc0 : c0 ≠ 'f' ∧ c0 ≠ 'b' ∧ c0 ≠ 'u' ∧ c0 ≠ 'd') (X : Re) {pfx : Str} (hp : pfx ∈ prefixes) {s : Str}
    (hs : ∀ c, s.head? = some c → (c ≠ 'f' ∧ c ≠ 'b' ∧ c ≠ 'u' ∧ c ≠ 'd') ∧ c ≠ c0) :
    matchStart (.seq rePrefix (.seq (lit w) X)) (pfx ++ s) = none := by
  show m _ _ [] k0 = none
  simp only [m_seq]
  rw [m_rePrefix_gen pfx hp _ _ _ (fun c hc => (hs c hc).1) (noPfxStart_lit hw hc0 _)]
  exact m_lit_head_ne hw s _ _ (fun c hc => (hs c hc).2)

/-- `^(prefix)rgb\(N,N,N\)$` on canonical decimal arguments -/
theorem match_rgb3 (pfx : Str) (hp : pfx ∈ prefixes) (R G B : Str)
    (hR : R ≠ [] ∧ ∀ c ∈ R, Py.isDigit c = true) (hG : G ≠ [] ∧ ∀ c ∈ G, Py.isDigit c = true)
    (hB : B ≠ [] ∧ ∀ c ∈ B, Py.isDigit c = true) :
    matchStart reRgb3 (pfx ++ ("rgb(".toList ++ (R ++ ',' :: (G ++ ',' :: (B ++ [')']))))) =
      some [(7, B), (5, G), (3, R), (1, pfx)] := by
  show m reRgb3 _ [] k0 = _
  simp only [reRgb3, m_seq]
  rw [m_rePrefix_gen pfx hp _ _ _ (head_rgb _) (noPfxStart_lit rgbLit_head (by decide) _),
    m_lit_append, open_skip_digits R _ _ _ hR,
    m_ws_num_ws 2 3 R _ _ _ hR.1 hR.2 (comma_head _) (fun d more caps' hd => comma_none_hex d more caps' _ hd),
    reComma, m_cls_cons, if_pos (by decide),
    m_ws_num_ws 4 5 G _ _ _ hG.1 hG.2 (comma_head _) (fun d more caps' hd => comma_none_hex d more caps' _ hd),
    m_cls_cons, if_pos (by decide),
    m_ws_num_ws 6 7 B _ _ _ hB.1 hB.2 paren_head (fun d more caps' hd => close_none_hex d more caps' k0 hd),
    m_close]
  rfl


/-- `\([\[\()]?\s*N\s*[\)\]]?\)$` on one canonical decimal argument -/
theorem m_arg1 (V : Str) (caps : Caps) (hV : V ≠ [] ∧ ∀ c ∈ V, Py.isDigit c = true) :
    m reOpen (V ++ [')']) caps (fun r c => m reWs r c (fun r c => m (reNum 2 3) r c (fun r c => m reWs r c
      (fun r c => m reClose r c (fun r c => m (lit ")".toList) r c (fun r c => m eos r c k0)))))) =
      some ((3, V) :: caps.filter (·.1 != 3)) := by
  rw [open_skip_digits V _ _ _ hV]
  rw [m_ws_num_ws 2 3 V _ _ _ hV.1 hV.2 paren_head (fun d more caps' hd => close_none_hex d more caps' k0 hd)]
  rw [m_close]; rfl

/-- the three-value pattern does not match a one-value string: it wants a `,` after the first number -/
theorem match_rgb3_single (V : Str) (hV : V ≠ [] ∧ ∀ c ∈ V, Py.isDigit c = true) :
    matchStart reRgb3 ("rgb(".toList ++ (V ++ [')'])) = none := by
  show m reRgb3 _ [] k0 = _
  simp only [reRgb3, m_seq]
  rw [m_rePrefix_none _ _ _ (head_rgb _), m_lit_append, open_skip_digits V _ _ _ hV,
    m_ws_num_ws 2 3 V _ _ _ hV.1 hV.2 paren_head (fun d more caps' hd => comma_none_hex d more caps' _ hd),
    reComma, m_cls_cons]
  rfl

theorem match_rgb1 (V : Str) (hV : V ≠ [] ∧ ∀ c ∈ V, Py.isDigit c = true) :
    matchStart reRgb1 ("rgb(".toList ++ (V ++ [')'])) = some [(3, V), (1, [])] := by
  show m reRgb1 _ [] k0 = _
  simp only [reRgb1, m_seq]
  rw [m_rePrefix_none _ _ _ (head_rgb _), m_lit_append, m_arg1 V _ hV]
  rfl

theorem match_color (pfx : Str) (hp : pfx ∈ prefixes) (u : Bool) (V : Str)
    (hV : V ≠ [] ∧ ∀ c ∈ V, Py.isDigit c = true) :
    matchStart reColor (pfx ++ ("colo".toList ++ ((if u then ['u'] else []) ++ ("r256(".toList ++ (V ++ [')']))))) =
      some [(3, V), (1, pfx)] := by
  have e : "r256(".toList = ['r','2','5','6','('] := by simp only [strLitToList]
  show m reColor _ [] k0 = _
  simp only [reColor, m_seq]
  rw [m_rePrefix_gen pfx hp _ _ _ (fun c hc => (head_colo _ c hc).1) (noPfxStart_lit coloLit_head (by decide) _),
    m_lit_append]
  cases u with
  | false =>
    rw [if_neg (by simp), List.nil_append, m_opt_cls_skip _ _ _ _ (fun c hc => by
      rw [e] at hc; simp at hc; subst hc; decide), m_lit_append, m_arg1 V _ hV]
    rfl
  | true =>
    rw [if_pos rfl, m_opt, List.singleton_append, m_cls_cons, if_pos (by decide), m_lit_append, m_arg1 V _ hV]
    rfl


/-! ## `_parse_rgb_string` on the canonical spellings -/

theorem numVal_digits {V : Str} (hV : ∀ c ∈ V, Py.isDigit c = true) : numVal V false = some (Py.digitsVal V) := by
  have : V.all Py.isDigit = true := List.all_eq_true.2 hV
  simp [numVal, this]

theorem parse_rgb3 (pfx : Str) (hp : pfx ∈ prefixes) (r g b : Nat) :
    parseRgbString (pfx ++ ("rgb(".toList ++ (Py.natStr r ++ ',' :: (Py.natStr g ++ ',' :: (Py.natStr b ++ [')']))))) =
      some (.ok (colorSettings (component (some pfx)) true [min 255 r, min 255 g, min 255 b])) := by
  unfold parseRgbString
  rw [match_rgb3 pfx hp _ _ _ (natStr_ok r) (natStr_ok g) (natStr_ok b)]
  simp [Re.group, numVal_digits (natStr_ok _).2, (Eff.natStr_spec _).2.2]

theorem parse_rgb1 (v : Nat) :
    parseRgbString ("rgb(".toList ++ (Py.natStr v ++ [')'])) =
      some (.ok (colorSettings 0 true [(v / 65536) % 256, (v / 256) % 256, v % 256])) := by
  unfold parseRgbString
  rw [match_rgb3_single _ (natStr_ok v), match_rgb1 _ (natStr_ok v)]
  simp [Re.group, numVal_digits (natStr_ok _).2, (Eff.natStr_spec _).2.2, component]

theorem parse_color (pfx : Str) (hp : pfx ∈ prefixes) (u : Bool) (n : Nat) :
    parseRgbString (pfx ++ ("colo".toList ++ ((if u then ['u'] else []) ++ ("r256(".toList ++ (Py.natStr n ++ [')']))))) =
      some (.ok (colorSettings (component (some pfx)) false [n])) := by
  unfold parseRgbString
  rw [show matchStart reRgb3 _ = none from match_none_of_lit rgbLit_head (by decide) _ hp (head_colo _),
    show matchStart reRgb1 _ = none from match_none_of_lit rgbLit_head (by decide) _ hp (head_colo _),
    match_color pfx hp u _ (natStr_ok n)]
  simp [Re.group, numVal_digits (natStr_ok _).2, (Eff.natStr_spec _).2.2]

/-! ## integers given as text -/

theorem nameOk_digit_head {d : Char} (r : Str) (h : Py.isDigit d = true) : nameOk (d :: r) = false := by
  rw [isDigit_iff] at h
  have : ¬ (65 ≤ d.toNat ∧ d.toNat ≤ 90) := by omega
  simp [nameOk, char_le_iff, this]

theorem normChar_digit {c : Char} (h : Py.isDigit c = true) : normChar c = c :=
  normChar_variant c c (by simp [isNameChar, Py.isDigit] at h ⊢; simp [h])
    (fun _ => Or.inl rfl) (fun e => by rw [e] at h; exact absurd h (by decide)) (fun _ => rfl)

theorem normName_digits {ds : Str} (h : ∀ c ∈ ds, Py.isDigit c = true) : normName ds = ds := by
  rw [normName_eq_map]
  conv => rhs; rw [← List.map_id ds]
  exact List.map_congr_left (fun c hc => normChar_digit (h c hc))

theorem parseRgb_none_of_head {s : Str}
    (h : ∀ c, s.head? = some c → (c ≠ 'f' ∧ c ≠ 'b' ∧ c ≠ 'u' ∧ c ≠ 'd') ∧ c ≠ 'r' ∧ c ≠ 'c') :
    parseRgbString s = none := by
  have hp : ([] : Str) ∈ prefixes := List.mem_cons_self ..
  have r3 : matchStart reRgb3 s = none :=
    match_none_of_lit rgbLit_head (by decide) _ hp fun c hc => ⟨(h c hc).1, (h c hc).2.1⟩
  have r1 : matchStart reRgb1 s = none :=
    match_none_of_lit rgbLit_head (by decide) _ hp fun c hc => ⟨(h c hc).1, (h c hc).2.1⟩
  have rc : matchStart reColor s = none :=
    match_none_of_lit coloLit_head (by decide) _ hp fun c hc => ⟨(h c hc).1, (h c hc).2.2⟩
  simp [parseRgbString, r3, r1, rc]

theorem digit_head_facts {c : Char} (h : Py.isDigit c = true) :
    (c ≠ 'f' ∧ c ≠ 'b' ∧ c ≠ 'u' ∧ c ≠ 'd') ∧ c ≠ 'r' ∧ c ≠ 'c' := by
  refine ⟨⟨?_, ?_, ?_, ?_⟩, ?_, ?_⟩ <;> (intro e; rw [e] at h; revert h; decide)

theorem scrubDirective_digits {ds : Str} (hne : ds ≠ []) (h : ∀ c ∈ ds, Py.isDigit c = true) :
    scrubDirective ds = .ok [.int (Py.digitsVal ds : Int)] := by
  have hhead : ∀ c, ds.head? = some c → Py.isDigit c = true := fun c hc => h c (List.mem_of_mem_head? hc)
  have hl : lookupFormat (normName ds) = none := by
    rw [normName_digits h]
    cases ds with
    | nil => exact absurd rfl hne
    | cons d r => exact lookup_none_of_not_nameOk (nameOk_digit_head r (h d (by simp)))
  have hp : parseRgbString ds = none := parseRgb_none_of_head (fun c hc => digit_head_facts (hhead c hc))
  have he : ds.isEmpty = false := by cases ds <;> simp_all
  have hnn : ¬ ((Py.digitsVal ds : Int) < 0) := by omega
  simp [scrubDirective, hl, hp, he, Eff.int_digits hne h, hnn]

/-! ## the directive loop -/

/-- the directive loop of `_scrub_ansi_format_string` -/
def scrubDirectives : List Str → Except PyErr (List SOut)
  | [] => .ok []
  | f :: fs => do
    let r ← scrubDirective f
    let rs ← scrubDirectives fs
    pure (r ++ rs)

theorem scrubDirectives_cons (f : Str) (fs : List Str) :
    scrubDirectives (f :: fs) = (do let r ← scrubDirective f; let rs ← scrubDirectives fs; pure (r ++ rs)) := by
  rw [scrubDirectives]

theorem scrubDirectives_nil : scrubDirectives [] = .ok [] := by rw [scrubDirectives]

theorem foldlM_directives : ∀ (fs : List Str) (acc : List SOut),
    fs.foldlM (fun acc fmt => do let r ← scrubDirective fmt; pure (acc ++ r)) acc =
      (do let rs ← scrubDirectives fs; pure (acc ++ rs))
  | [], acc => by simp [scrubDirectives, bind, Except.bind, pure, Except.pure]
  | f :: fs, acc => by
    simp only [List.foldlM_cons, scrubDirectives]
    cases hd : scrubDirective f with
    | error e => simp [bind, Except.bind]
    | ok r =>
      simp only [bind, Except.bind, pure, Except.pure]
      have := foldlM_directives fs (acc ++ r)
      simp only [bind, Except.bind, pure, Except.pure] at this
      rw [this]
      cases scrubDirectives fs <;> simp

/- NB: `scrubDirective`/`lookupFormat` must never be unfolded on a *closed* argument inside a proof
   term: the kernel would then evaluate the lookup over `Gen.formatTable`, including the UTF-8
   decoding of all its string literals.  Hence the detour through a variable. -/
theorem scrubDirective_nil' (s : Str) (hs : s = []) : scrubDirective s = .ok [] := by
  have hl : lookupFormat (normName s) = none := lookup_none_of_not_nameOk (by rw [hs]; rfl)
  have hp : parseRgbString s = none := parseRgb_none_of_head (fun c hc => by subst hs; simp at hc)
  have he : s.isEmpty = true := by subst hs; rfl
  unfold scrubDirective
  rw [hl, hp]
  simp only [he, if_true]

theorem scrubDirective_nil : scrubDirective [] = .ok [] := scrubDirective_nil' [] rfl

theorem scrubString_as_directives {s : Str} (hb : s.head? ≠ some '[') :
    scrubString s = scrubDirectives (Py.splitOnChar ';' s) := by
  cases s with
  | nil =>
    have e : Py.splitOnChar ';' [] = [[]] := rfl
    have e2 : scrubString [] = .ok [] := rfl
    rw [e, e2, scrubDirectives_cons, scrubDirectives_nil, scrubDirective_nil]
    rfl
  | cons c rest =>
    have hc : c ≠ '[' := fun h => hb (by simp [h])
    unfold scrubString
    split
    · rename_i h; cases h
    · rename_i h; injection h with h1 h2; exact absurd h1 hc
    · rw [foldlM_directives]
      cases scrubDirectives (Py.splitOnChar ';' (c :: rest)) <;> simp [bind, Except.bind, pure, Except.pure]

theorem scrubString_single {v : Str} (hb : v.head? ≠ some '[') (hs : ';' ∉ v) :
    scrubString v = scrubDirective v := by
  rw [scrubString_as_directives hb, Eff.splitOnChar_noSep (ne_of_not_mem hs), scrubDirectives_cons,
    scrubDirectives_nil]
  cases scrubDirective v <;> simp [bind, Except.bind, pure, Except.pure]

theorem scrubString_multi {a b : Str} (hb : a.head? ≠ some '[') (hs : ';' ∉ a) :
    scrubString (a ++ ';' :: b) =
      (do let r ← scrubDirective a; let rs ← scrubDirectives (Py.splitOnChar ';' b); pure (r ++ rs)) := by
  have h : (a ++ ';' :: b).head? ≠ some '[' := by
    cases a with
    | nil => simp
    | cons c r => simpa using hb
  rw [scrubString_as_directives h, Eff.splitOnChar_append_sep b (ne_of_not_mem hs), scrubDirectives_cons]

theorem scrub_str_name {v : Str} {ts : List Str} (hb : v.head? ≠ some '[') (hs : ';' ∉ v)
    (hl : lookupFormat (normName v) = some ts) : scrub (.str v) = .ok ts := by
  rw [scrub_str_eq, scrubString_single hb hs, scrubDirective_of_lookup hl]
  simp [bind, Except.bind, pure, Except.pure, combineInts_settings]

/-- a directive containing `(` is not an AnsiFormat name; if `_parse_rgb_string` accepts it, its
    settings are the result -/
theorem scrub_str_rgb {s : Str} {ts : List Str} (hs : ';' ∉ s) (hp : '(' ∈ s) (hb : s.head? ≠ some '[')
    (h : parseRgbString s = some (.ok ts)) : scrub (.str s) = .ok ts := by
  have hl : lookupFormat (normName s) = none :=
    lookup_none_of_char (c := '(') (List.mem_map.2 ⟨'(', hp, by decide⟩) (by decide)
  rw [scrub_str_eq, scrubString_single hb hs]
  simp [scrubDirective, hl, h, bind, Except.bind, pure, Except.pure, combineInts_settings]

theorem scrubDirectives_digits : ∀ (l : List Nat),
    scrubDirectives (l.map Py.natStr) = .ok (l.map (fun (n : Nat) => SOut.int (n : Int)))
  | [] => rfl
  | n :: l => by
    simp [scrubDirectives, scrubDirective_digits (natStr_ok n).1 (natStr_ok n).2, (Eff.natStr_spec n).2.2,
      scrubDirectives_digits l, bind, Except.bind, pure, Except.pure]

theorem scrubItems_ints : ∀ (l : List Nat),
    scrubItems (l.map (fun (n : Nat) => SArg.int (n : Int))) = .ok (l.map (fun (n : Nat) => SOut.int (n : Int)))
  | [] => rfl
  | n :: l => by
    have : ¬ ((n : Int) < 0) := by omega
    simp [scrubItems, scrubItem, this, scrubItems_ints l, bind, Except.bind, pure, Except.pure]

theorem joinNats_head {l : List Nat} (h : l ≠ []) : ∀ c, (joinNats l).head? = some c → Py.isDigit c = true := by
  intro c hc
  match l, h with
  | [n], _ => exact (natStr_ok n).2 c (List.mem_of_mem_head? hc)
  | n :: n' :: r, _ =>
    simp only [joinNats, List.map_cons, joinSep] at hc
    rw [List.append_assoc] at hc
    exact (natStr_ok n).2 c (head?_append_mem (natStr_ok n).1 hc)

theorem scrub_codes_string {l : List Nat} (h : l ≠ []) :
    scrub (.str (joinNats l)) = scrub (.list (l.map (fun (n : Nat) => SArg.int (n : Int)))) := by
  have hb : (joinNats l).head? ≠ some '[' := by
    intro e; have := joinNats_head h _ e; revert this; decide
  rw [scrub_str_eq, scrubString_as_directives hb, split_joinNats h, scrubDirectives_digits]
  simp [scrub, scrubItems_ints]

/-! ## canonical texts: `parse_graphic_sequence(codes, add_erroneous=True)` gives them back -/

theorem pgsLoop_group {g : List Nat} (hg : groupVals g) (rest : List Nat) (l : Int) (out : List Str) :
    pgsLoop true (natCodes (g ++ rest)) ⟨l, [], out⟩ =
      pgsLoop true (natCodes rest) ⟨0, [], out ++ [joinNats g]⟩ := by
  rw [natCodes, List.map_append]
  exact Eff.loop_keep (Eff.GroupVals_of_groupVals hg) _ l out

theorem groupVals_of_check : ∀ {vals : List Nat}, groupCheck vals = true → groupVals vals
  | first :: rest, h => by
    simp only [groupCheck, Bool.and_eq_true, List.all_eq_true, decide_eq_true_eq, Bool.not_eq_true',
      decide_eq_false_iff_not, Option.isSome_iff_ne_none] at h
    obtain ⟨⟨⟨hall, h0⟩, hs⟩, hl⟩ := h
    refine ⟨hall, first, rest, rfl, h0, hs, ?_⟩
    split at hl
    · rename_i hc
      rw [if_pos hc]
      split at hl
      · exact Or.inl ⟨_, rfl⟩
      · exact Or.inr ⟨_, _, _, rfl⟩
      · cases hl
    · rename_i hc
      rw [if_neg hc]
      exact List.isEmpty_iff.1 hl

theorem codeVals_joinNats {l : List Nat} (h : l ≠ []) : codeVals (joinNats l) = l := by
  rw [codeVals, toList_joinNats h, natCodes, List.filterMap_map]
  show l.filterMap (fun n : Nat => some (n : Int).toNat) = l
  simp

theorem canonical_group {t : Str} (h : canonical t = true) :
    joinNats (codeVals t) = t ∧ groupVals (codeVals t) := by
  rw [canonical, Bool.and_eq_true, List.all_eq_true] at h
  -- the text is the join of its items, and these are the `str` of their values
  have ht : joinNats (itemVals t) = t := by
    rw [joinNats, itemVals, List.map_map]
    rw [(List.map_congr_left fun v hv => eq_of_beq (h.1 v hv) :
      (Py.splitOnChar ';' t).map (Py.natStr ∘ Py.digitsVal) = (Py.splitOnChar ';' t).map id), List.map_id]
    exact joinSep_splitOnChar ';' t
  have hne : itemVals t ≠ [] := by simp [itemVals, Eff.splitOnChar_ne_nil]
  rw [← ht, codeVals_joinNats hne]
  exact ⟨rfl, groupVals_of_check h.2⟩

theorem canonical_parsable {t : Str} (h : canonical t = true) : parsable t = true := by
  obtain ⟨ht, hg⟩ := canonical_group h
  have hne : codeVals t ≠ [] := by
    obtain ⟨_, _, _, hv, _⟩ := hg
    simp [hv]
  rw [← ht, parsable_joinNats hne]
  exact hg

theorem pgsLoop_groups : ∀ (ts : List Str), (∀ t ∈ ts, canonical t = true) → ∀ (l : Int) (out : List Str),
    ∃ l', pgsLoop true (natCodes (ts.flatMap codeVals)) ⟨l, [], out⟩ = ⟨l', [], out ++ ts⟩
  | [], _, l, out => ⟨l, by simp [natCodes, pgsLoop]⟩
  | t :: ts, h, l, out => by
    obtain ⟨ht, hg⟩ := canonical_group (h t (by simp))
    obtain ⟨l', ih⟩ := pgsLoop_groups ts (fun t' ht' => h t' (List.mem_cons_of_mem _ ht')) 0 (out ++ [t])
    refine ⟨l', ?_⟩
    rw [List.flatMap_cons, pgsLoop_group hg, ht, ih, List.append_assoc, List.singleton_append]

theorem combineInts_ints : ∀ (l : List Nat) (run : List Int),
    combineInts (l.map (fun (n : Nat) => SOut.int (n : Int))) run =
      if run.isEmpty ∧ l.isEmpty then [] else pgsList (run.map Code.int ++ natCodes l) true
  | [], run => by simp [combineInts, natCodes]
  | n :: l, run => by simp [combineInts, combineInts_ints l, natCodes]

theorem pgsItemsOfList_natCodes (l : List Nat) : pgsItemsOfList (natCodes l) = natCodes l := by
  unfold pgsItemsOfList natCodes
  rw [List.map_map]
  rfl

theorem scrub_codes_of_canonical {ts : List Str} (hne : ts ≠ []) (h : ∀ t ∈ ts, canonical t = true) :
    scrub (.list ((ts.flatMap codeVals).map (fun (n : Nat) => SArg.int (n : Int)))) = .ok ts := by
  obtain ⟨t, ts', rfl⟩ := List.exists_cons_of_ne_nil hne
  obtain ⟨c, tl, hc, _⟩ := (canonical_group (h t (by simp))).2.2
  obtain ⟨l', hl⟩ := pgsLoop_groups (t :: ts') h 0 []
  have hL : (t :: ts').flatMap codeVals ≠ [] := by simp [hc]
  have hN : ¬ (natCodes ((t :: ts').flatMap codeVals)).isEmpty = true :=
    fun h => hL (List.map_eq_nil_iff.1 (List.isEmpty_iff.1 h))
  have hs : ∀ l : List Nat, scrub (.list (l.map (fun (n : Nat) => SArg.int (n : Int)))) =
      .ok (combineInts (l.map (fun (n : Nat) => SOut.int (n : Int))) []) := fun l => by
    simp only [scrub, scrubItems_ints, bind, Except.bind, pure, Except.pure]
  rw [hs, combineInts_ints, if_neg (fun h => hL (List.isEmpty_iff.1 h.2)), List.map_nil, List.nil_append, pgsList,
    if_neg hN, pgsItemsOfList_natCodes, pgsItems, hl]
  simp

theorem joinSep_append (sep : Str) : ∀ {xs ys : List Str}, xs ≠ [] → ys ≠ [] →
    joinSep sep (xs ++ ys) = joinSep sep xs ++ sep ++ joinSep sep ys
  | [], _, h, _ => absurd rfl h
  | [a], y :: ys, _, _ => rfl
  | a :: b :: xs, ys, _, h => by
    have ih := joinSep_append sep (xs := b :: xs) (by simp) h
    rw [List.cons_append] at ih
    simp [joinSep, ih]

theorem joinSep_canonical : ∀ {ts : List Str}, ts ≠ [] → (∀ t ∈ ts, canonical t = true) →
    joinSep semi ts = joinNats (ts.flatMap codeVals)
  | [], h, _ => absurd rfl h
  | [t], _, h => by simp [joinSep, (canonical_group (h t (by simp))).1]
  | t :: t' :: ts, _, h => by
    obtain ⟨ht, _, c, tl, hv, _⟩ := canonical_group (h t (by simp))
    obtain ⟨_, _, c', tl', hv', _⟩ := canonical_group (h t' (by simp))
    have ih := joinSep_canonical (ts := t' :: ts) (by simp) (fun x hx => h x (List.mem_cons_of_mem _ hx))
    rw [List.flatMap_cons, joinNats, List.map_append, joinSep_append semi (by simp [hv]) (by simp [hv']),
      ← joinNats, ← joinNats, ht, ← ih]
    rfl

theorem row_facts {r : Str × List Str} (hr : r ∈ Gen.formatTable) :
    r.2 ≠ [] ∧ ∀ t ∈ r.2, canonical t = true := by
  have h := List.all_eq_true.1 table_rows r hr
  simpa [rowOk] using h

/-! ## nesting -/

theorem scrubItem_list_of_settings {l : List SArg} {ts : List Str}
    (h : scrubItems l = .ok (ts.map SOut.setting)) : scrubItem (.list l) = scrubItems l := by
  simp [scrubItem, h, bind, Except.bind, pure, Except.pure, combineInts_settings]

theorem scrub_nested_singleton (l : List SArg) : scrub (.list [.list l]) = scrub (.list l) := by
  simp only [scrub, scrubItems, scrubItem]
  cases scrubItems l with
  | error e => rfl
  | ok r => simp [bind, Except.bind, pure, Except.pure, combineInts_settings]

theorem normName_cons (c : Char) (cs : Str) : normName (c :: cs) = normChar c :: normName cs := rfl

theorem name_string_facts {v : Str} (h : nameOk (normName v) = true) : v.head? ≠ some '[' ∧ ';' ∉ v := by
  have hc : ∀ c ∈ v, isNameChar (normChar c) = true := fun c hc =>
    (nameOk_chars h).2 _ (List.mem_map.2 ⟨c, hc, rfl⟩)
  exact ⟨fun e => absurd (hc _ (List.mem_of_mem_head? e)) (by decide), fun e => absurd (hc _ e) (by decide)⟩

/-! ## rejections, assembled from facts about a (possibly closed) string without letting the
    kernel evaluate the table lookup -/

theorem lookup_none_of_all_ne {n : Str} (h : Gen.formatTable.all (fun r => r.1 != n) = true) :
    lookupFormat n = none := by
  unfold lookupFormat
  rw [List.all_eq_true] at h
  rw [List.find?_eq_none.2 (fun r hr => by simpa using h r hr)]; rfl

theorem scrubDirective_unknown {s : Str} (hl : lookupFormat (normName s) = none)
    (hp : parseRgbString s = none) (he : s ≠ []) (hi : (Py.int s).all (· < 0) = true) :
    scrubDirective s = .error .valueError := by
  have he' : s.isEmpty = false := by cases s <;> simp_all
  unfold scrubDirective; rw [hl, hp]; simp only [he']
  cases h : Py.int s with
  | none => rfl
  | some i => rw [h] at hi; simp [of_decide_eq_true hi]

theorem scrubDirective_rgb_error {s : Str} {e : PyErr} (hl : lookupFormat (normName s) = none)
    (hp : parseRgbString s = some (.error e)) : scrubDirective s = .error e := by
  unfold scrubDirective; rw [hl, hp]

theorem scrub_str_single_error {s : Str} {e : PyErr} (hb : s.head? ≠ some '[') (hs : ';' ∉ s)
    (h : scrubDirective s = .error e) : scrub (.str s) = .error e := by
  rw [scrub_str_eq, scrubString_single hb hs, h]; rfl

theorem scrub_str_multi_error_snd {a b : Str} {e : PyErr} {ra : List SOut}
    (hb : a.head? ≠ some '[') (hs : ';' ∉ a) (hs' : ';' ∉ b)
    (ha : scrubDirective a = .ok ra) (h : scrubDirective b = .error e) :
    scrub (.str (a ++ ';' :: b)) = .error e := by
  rw [scrub_str_eq, scrubString_multi hb hs, Eff.splitOnChar_noSep (ne_of_not_mem hs'),
    scrubDirectives_cons, ha, h]
  rfl

theorem scrub_str_paren_error {s : Str} (h : '(' ∈ s ∧ s.head? ≠ some '[' ∧ ';' ∉ s)
    (hp : parseRgbString s = none) (hi : (Py.int s).all (· < 0) = true) :
    scrub (.str s) = .error .valueError :=
  scrub_str_single_error h.2.1 h.2.2
    (scrubDirective_unknown (lookup_none_of_char (c := '(') (List.mem_map.2 ⟨'(', h.1, by decide⟩) (by decide))
      hp (List.ne_nil_of_mem h.1) hi)

/-! ## `scrub` of the canonical colour spellings -/

theorem semi_not_mem_prefix {pfx : Str} (hp : pfx ∈ prefixes) : ';' ∉ pfx := by
  simp only [prefixes, strLitToList, List.mem_cons, List.not_mem_nil, or_false] at hp
  rcases hp with rfl | rfl | rfl | rfl | rfl <;> decide

theorem prefix_head {pfx : Str} (hp : pfx ∈ prefixes) (c0 : Char) (X : Str) (h0 : c0 ≠ '[') :
    (pfx ++ c0 :: X).head? ≠ some '[' := by
  simp only [prefixes, strLitToList, List.mem_cons, List.not_mem_nil, or_false] at hp
  rcases hp with rfl | rfl | rfl | rfl | rfl <;> simp [h0]

/-- `[fg_|bg_|ul_|dul_]rgb(r,g,b)`: the 24-bit colour of the component, values clamped to 0..255 -/
theorem scrub_rgb3 {pfx : Str} (hp : pfx ∈ prefixes) (r g b : Nat) :
    scrub (.str (pfx ++ "rgb(".toList ++ Py.natStr r ++ [','] ++ Py.natStr g ++ [','] ++ Py.natStr b ++ [')'])) =
      .ok (colorSettings (component (some pfx)) true [min 255 r, min 255 g, min 255 b]) := by
  have e : "rgb(".toList = ['r','g','b','('] := by simp only [strLitToList]
  simp only [List.append_assoc, List.singleton_append]
  apply scrub_str_rgb _ _ _ (parse_rgb3 pfx hp r g b)
  · simp [e, semi_not_mem_prefix hp, semi_not_mem_natStr]
  · simp [e]
  · rw [e]; exact prefix_head hp 'r' _ (by decide)

/-- the settings of a colour helper: its parameter group, after `4` or `21` for the two underline
    components (0 FOREGROUND, 1 BACKGROUND, 2 UNDERLINE, 3 DOUBLE_UNDERLINE) -/
theorem colorSettings_eq (comp : Nat) (is24 : Bool) (args : List Nat) :
    colorSettings comp is24 args =
      (if comp = 2 then [Py.natStr 4] else if comp = 3 then [Py.natStr 21] else []) ++
        [joinNats ((if comp = 1 then 48 else if comp = 0 then 38 else 58) :: (if is24 then 2 else 5) :: args)] := by
  by_cases h0 : comp = 0
  · subst h0; cases is24 <;> rfl
  by_cases h1 : comp = 1
  · subst h1; cases is24 <;> rfl
  by_cases h2 : comp = 2
  · subst h2; cases is24 <;> rfl
  by_cases h3 : comp = 3
  · subst h3; cases is24 <;> rfl
  cases is24 <;> simp [colorSettings, h0, h1, h2, h3] <;> rfl

/-! ## decidable equality of results (for closed examples) -/

instance decEqExcept {ε α : Type} [DecidableEq ε] [DecidableEq α] : DecidableEq (Except ε α)
  | .ok a, .ok b => if h : a = b then isTrue (by rw [h]) else isFalse (by intro e; injection e with e; exact h e)
  | .error a, .error b => if h : a = b then isTrue (by rw [h]) else isFalse (by intro e; injection e with e; exact h e)
  | .ok _, .error _ => isFalse (by intro e; cases e)
  | .error _, .ok _ => isFalse (by intro e; cases e)

/-- remaining spellings (hex with `0x`, brackets, spaces), on instances: the string is recognised
    by `_parse_rgb_string` (evaluated in the kernel) and `scrub` returns exactly its settings -/
theorem spelled (s : String) (ts : List String)
    (h : Scrub.parseRgbString s.toList = some (.ok (ts.map String.toList)))
    (h1 : ';' ∉ s.toList) (h2 : '(' ∈ s.toList) (h3 : s.toList.head? ≠ some '[') :
    Scrub.scrub (.str s.toList) = .ok (ts.map String.toList) := scrub_str_rgb h1 h2 h3 h


end ScrubL
