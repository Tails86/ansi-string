import AnsiSpec
/-
  For C18 (and the feed algebra that C01 uses too):
  digits/number round trips, split/join, the hand-written abstraction `alpha` from the library's
  effect dict to a terminal state, table agreement, algebra of `Term.feed`, what `AnsiSetting.parsable`
  accepts on a list of code values (`ScrubL.parsable_joinNats`, for C15 too), and the loop of
  `parse_graphic_sequence` against the terminal's reading of a code list (`Reads`).
-/
open Term
open Scrub (joinNats)

namespace Eff

/-! ## characters and digit strings -/


theorem isDigit_range {c : Char} (h : Py.isDigit c = true) : 48 ≤ c.toNat ∧ c.toNat ≤ 57 := by
  simp only [Py.isDigit, Bool.and_eq_true, decide_eq_true_eq, Char.le_def, UInt32.le_iff_toNat_le,
    Char.toNat_val] at h
  exact h

theorem term_isDigit_eq : Term.isDigit = Py.isDigit := rfl

theorem isSpace_of_isDigit {c : Char} (h : Py.isDigit c = true) : Py.isSpace c = false := by
  have := isDigit_range h
  have h32 : c ≠ ' ' := by
    intro e; subst e; simp at this
  simp [Py.isSpace, h32]
  omega

theorem isWs_of_isDigit {c : Char} (h : Py.isDigit c = true) : Term.isWs c = false :=
  isSpace_of_isDigit h

theorem ne_semi_of_isDigit {c : Char} (h : Py.isDigit c = true) : c ≠ ';' := by
  intro e; subst e; simp [Py.isDigit] at h

theorem isTerm_of_isDigit {c : Char} (h : Py.isDigit c = true) : isTerm c = false := by
  have := isDigit_range h
  have h' : ¬ (Gen.termLo ≤ c.toNat) := by simp only [Gen.termLo]; omega
  simp [isTerm, h']


/-! ## `str(n)` -/


def AllDigits (s : Str) : Prop := ∀ c ∈ s, Py.isDigit c = true

theorem digitChar_spec : ∀ k, k < 10 →
    (Char.ofNat ('0'.toNat + k)).toNat - '0'.toNat = k ∧ Py.isDigit (Char.ofNat ('0'.toNat + k)) = true := by
  decide

theorem digitsVal_append_single (ds : Str) (c : Char) :
    Py.digitsVal (ds ++ [c]) = 10 * Py.digitsVal ds + (c.toNat - '0'.toNat) := by
  simp [Py.digitsVal, List.foldl_append]

theorem natDigitsAux_spec : ∀ (fuel n : Nat) (acc : Str), n < fuel →
    ∃ ds, Py.natDigitsAux fuel n acc = ds ++ acc ∧ ds ≠ [] ∧ AllDigits ds ∧ Py.digitsVal ds = n := by
  intro fuel
  induction fuel with
  | zero => intro n acc h; omega
  | succ fuel ih =>
    intro n acc h
    have hd := digitChar_spec (n % 10) (Nat.mod_lt _ (by omega))
    simp only [Py.natDigitsAux]
    by_cases h0 : n / 10 = 0
    · simp only [h0, if_true]
      refine ⟨[Char.ofNat ('0'.toNat + n % 10)], rfl, by simp, ?_, ?_⟩
      · intro c hc; simp at hc; subst hc; exact hd.2
      · have : n % 10 = n := by omega
        simp only [Py.digitsVal, List.foldl_cons, List.foldl_nil]
        omega
    · simp only [h0, if_false]
      obtain ⟨ds, h1, h2, h3, h4⟩ := ih (n / 10) (Char.ofNat ('0'.toNat + n % 10) :: acc) (by omega)
      refine ⟨ds ++ [Char.ofNat ('0'.toNat + n % 10)], by rw [h1, List.append_assoc]; rfl, by simp, ?_, ?_⟩
      · intro c hc
        rcases List.mem_append.1 hc with hc | hc
        · exact h3 c hc
        · simp at hc; subst hc; exact hd.2
      · rw [digitsVal_append_single, h4]; omega

theorem natStr_spec (n : Nat) : Py.natStr n ≠ [] ∧ AllDigits (Py.natStr n) ∧ Py.digitsVal (Py.natStr n) = n := by
  obtain ⟨ds, h1, h2, h3, h4⟩ := natDigitsAux_spec (n + 1) n [] (by omega)
  simp only [List.append_nil] at h1
  rw [Py.natStr, h1]; exact ⟨h2, h3, h4⟩


/-! ## split / join / strip -/


theorem splitSemi_eq (s : List Char) : Term.splitSemi s = Py.splitOnChar ';' s := by
  induction s with
  | nil => rfl
  | cons c rest ih =>
    simp only [Term.splitSemi, Py.splitOnChar, ih]
    cases Py.splitOnChar ';' rest <;> rfl

theorem splitOnChar_ne_nil (sep : Char) (s : Str) : Py.splitOnChar sep s ≠ [] := by
  induction s with
  | nil => simp [Py.splitOnChar]
  | cons c rest ih =>
    simp only [Py.splitOnChar]
    split
    · simp
    · split <;> simp

theorem splitOnChar_noSep {sep : Char} {s : Str} (h : ∀ c ∈ s, c ≠ sep) : Py.splitOnChar sep s = [s] := by
  induction s with
  | nil => rfl
  | cons c rest ih =>
    have hc : (c == sep) = false := by simpa using h c (by simp)
    simp only [Py.splitOnChar, hc, ih (fun d hd => h d (by simp [hd]))]
    simp

theorem splitOnChar_append_sep {sep : Char} {a : Str} (b : Str) (h : ∀ c ∈ a, c ≠ sep) :
    Py.splitOnChar sep (a ++ sep :: b) = a :: Py.splitOnChar sep b := by
  induction a with
  | nil => simp [Py.splitOnChar]
  | cons c rest ih =>
    have hc : (c == sep) = false := by simpa using h c (by simp)
    simp only [List.cons_append, Py.splitOnChar, hc, ih (fun d hd => h d (by simp [hd]))]
    simp

theorem splitOnChar_joinSep {sep : Char} : ∀ (l : List Str), l ≠ [] → (∀ a ∈ l, ∀ c ∈ a, c ≠ sep) →
    Py.splitOnChar sep (joinSep [sep] l) = l
  | [], h, _ => absurd rfl h
  | [a], _, h => by simpa [joinSep] using splitOnChar_noSep (h a (by simp))
  | a :: b :: rest, _, h => by
    have ih := splitOnChar_joinSep (b :: rest) (by simp) (fun x hx => h x (by simp [hx]))
    simp only [joinSep, List.append_assoc, List.singleton_append]
    rw [splitOnChar_append_sep _ (h a (by simp)), ih]

theorem dropWhile_eq_self_of_head {p : Char → Bool} : ∀ {s : Str}, (∀ c, s.head? = some c → p c = false) → s.dropWhile p = s
  | [], _ => rfl
  | c :: rest, h => by simp [List.dropWhile, h c rfl]

theorem strip_digits {s : Str} (h : AllDigits s) : Py.strip s = s := by
  have h1 : s.dropWhile Py.isSpace = s :=
    dropWhile_eq_self_of_head (fun c hc => isSpace_of_isDigit (h c (List.mem_of_mem_head? hc)))
  have h2 : s.reverse.dropWhile Py.isSpace = s.reverse :=
    dropWhile_eq_self_of_head (fun c hc => isSpace_of_isDigit (h c (by simpa using List.mem_of_mem_head? hc)))
  simp only [Py.strip, Py.rstripBy, h1, h2, List.reverse_reverse]

theorem trim_digits {s : Str} (h : AllDigits s) : Term.trim s = s := strip_digits h

theorem decimal_eq (s : Str) : Term.decimal s = Py.digitsVal s := rfl


/-! ## reading numbers -/


theorem isdigit_iff {s : Str} : Py.isdigit s = true ↔ s ≠ [] ∧ AllDigits s := by
  simp [Py.isdigit, AllDigits]

theorem parseDigitsU_digits : ∀ (s : Str) (a : Nat), AllDigits s →
    Py.parseDigitsU s (some a) false = some (s.foldl (fun n c => 10 * n + (c.toNat - '0'.toNat)) a)
  | [], a, _ => by simp [Py.parseDigitsU]
  | c :: rest, a, h => by
    have hc : Py.isDigit c = true := h c (by simp)
    simp only [Py.parseDigitsU, hc, if_true, Option.getD_some, List.foldl_cons]
    exact parseDigitsU_digits rest _ (fun d hd => h d (by simp [hd]))

theorem int_digits {s : Str} (hne : s ≠ []) (h : AllDigits s) : Py.int s = some (Py.digitsVal s : Int) := by
  unfold Py.int
  rw [strip_digits h]
  match s, hne, h with
  | c :: rest, _, h =>
    have hc : Py.isDigit c = true := h c (by simp)
    have hp : Py.parseDigitsU (c :: rest) none false = some (Py.digitsVal (c :: rest)) := by
      simp only [Py.parseDigitsU, hc, if_true, Option.getD_none]
      rw [parseDigitsU_digits rest _ (fun d hd => h d (by simp [hd]))]
      simp [Py.digitsVal]
    split
    · rename_i heq; cases heq; simp [Py.isDigit] at hc
    · rename_i heq; cases heq; simp [Py.isDigit] at hc
    · rw [hp]; rfl

theorem param_digits {s : Str} (hne : s ≠ []) (h : AllDigits s) : Term.param s = some (Py.digitsVal s) := by
  unfold Term.param
  simp only [trim_digits h]
  have h1 : s.isEmpty = false := by simpa [List.isEmpty_iff] using hne
  have h2 : s.all Term.isDigit = true := by simpa [AllDigits, term_isDigit_eq] using h
  simp [h1, h2, Term.decimal, Py.digitsVal]

theorem int_natStr (n : Nat) : Py.int (Py.natStr n) = some (n : Int) := by
  have := natStr_spec n
  rw [int_digits this.1 this.2.1, this.2.2]


/-! ## the terminal: equations of `Term.feed` and facts about `Term.specEffect` -/


theorem feed_nil (t : TState) : feed t [] = t := feed.eq_1 t
theorem feed_none (t : TState) (rest) : feed t (none :: rest) = feed t rest := feed.eq_2 t rest
theorem feed_unknown {c : Nat} (h : specEffect c = none) (t : TState) (rest) :
    feed t (some c :: rest) = feed t rest := feed.eq_3 t c rest h
theorem feed_reset {c : Nat} (h : specEffect c = some .reset) (t : TState) (rest) :
    feed t (some c :: rest) = feed Term.default rest := feed.eq_4 t c rest h
theorem feed_set {c : Nat} {g} (h : specEffect c = some (.set g)) (t : TState) (rest) :
    feed t (some c :: rest) = feed (t.put g [c]) rest := feed.eq_5 t c rest g h
theorem feed_clear {c : Nat} {g} (h : specEffect c = some (.clear g)) (t : TState) (rest) :
    feed t (some c :: rest) = feed (t.drop g) rest := feed.eq_6 t c rest g h
theorem feed_ext5 {c : Nat} {g} (h : specEffect c = some (.ext g)) (t : TState) (n : Nat) (rest) :
    feed t (some c :: some 5 :: some n :: rest) =
      feed (if n ≤ 255 then t.put g [c, 5, n] else t) rest := feed.eq_7 t c g rest n h
theorem feed_ext5_end {c : Nat} {g} (h : specEffect c = some (.ext g)) (t : TState) :
    feed t [some c, some 5] = t := feed.eq_9 t c g h
theorem feed_ext2 {c : Nat} {g} (h : specEffect c = some (.ext g)) (t : TState) (r gr b : Nat) (rest) :
    feed t (some c :: some 2 :: some r :: some gr :: some b :: rest) =
      feed (if r ≤ 255 ∧ gr ≤ 255 ∧ b ≤ 255 then t.put g [c, 2, r, gr, b] else t) rest :=
  feed.eq_10 t c g rest r gr b h
theorem feed_ext2_short {c : Nat} {g} (h : specEffect c = some (.ext g)) (t : TState) (rest)
    (hl : rest.length < 3) : feed t (some c :: some 2 :: rest) = t := by
  refine feed.eq_12 t c rest ?_ g h
  intro r gr b rest' e; subst e; simp at hl; omega
theorem feed_ext_other {c : Nat} {g} (h : specEffect c = some (.ext g)) (t : TState) (rest)
    (h5 : rest.head? ≠ some (some 5)) (h2 : rest.head? ≠ some (some 2)) :
    feed t (some c :: rest) = feed t rest := by
  refine feed.eq_13 t c rest g h ?_ ?_ ?_ ?_ <;> (intros; subst_vars; simp at h5 h2)


theorem specEffect_ge {c : Nat} (h : 108 ≤ c) : specEffect c = none := by
  unfold specEffect
  repeat (rw [if_neg (by omega)])

def extOK (c : Nat) : Bool :=
  match specEffect c with
  | some (.ext g) => (c == 38 && g == .fg) || (c == 48 && g == .bg) || (c == 58 && g == .ulColor)
  | _ => true

theorem extOK_all : (List.range 108).all extOK = true := by decide +kernel

theorem specEffect_ext {c : Nat} {g : Group} (h : specEffect c = some (.ext g)) :
    (c = 38 ∧ g = .fg) ∨ (c = 48 ∧ g = .bg) ∨ (c = 58 ∧ g = .ulColor) := by
  by_cases hc : c < 108
  · have := List.all_eq_true.1 extOK_all c (List.mem_range.2 hc)
    simp [extOK, h] at this
    rcases this with (h | h) | h <;> simp [h]
  · rw [specEffect_ge (by omega)] at h; cases h



/-! ## the library's tables against the terminal's -/

/-- the library's effect numbers (`AnsiParamEffect` values) as terminal groups; 1 = RESET has none -/
def groupOfEff : Nat → Option Term.Group
  | 2 => some .boldness | 3 => some .italics | 4 => some .underline | 5 => some .overline
  | 6 => some .blinking | 7 => some .swap | 8 => some .visibility | 9 => some .crossedOut
  | 10 => some .font | 11 => some .spacing | 12 => some .boxing | 13 => some .fg | 14 => some .bg
  | 15 => some .ulColor | _ => none

def effOfGroup : Term.Group → Nat
  | .boldness => 2 | .italics => 3 | .underline => 4 | .overline => 5 | .blinking => 6 | .swap => 7
  | .visibility => 8 | .crossedOut => 9 | .font => 10 | .spacing => 11 | .boxing => 12 | .fg => 13
  | .bg => 14 | .ulColor => 15

theorem groupOfEff_effOfGroup (g : Term.Group) : groupOfEff (effOfGroup g) = some g := by
  cases g <;> rfl

theorem groupOfEff_eq_some {e : Nat} {g : Term.Group} : groupOfEff e = some g ↔ e = effOfGroup g := by
  constructor
  · intro h
    unfold groupOfEff at h
    split at h <;> first | (cases h; rfl) | cases h
  · intro h; subst h; exact groupOfEff_effOfGroup g

/-- the numbering `groupOfEff` assumes is the library's: a renumbering of `AnsiParamEffect` is noticed here -/
theorem effNames_eq : Gen.effNames =
    [(1, "RESET"), (2, "BOLDNESS"), (3, "ITALICS"), (4, "UNDERLINE"), (5, "OVERLINE"), (6, "BLINKING"),
     (7, "SWAP_BG_FG"), (8, "VISIBILITY"), (9, "CROSSED_OUT"), (10, "FONT_TYPE"), (11, "SPACING"),
     (12, "BOXING"), (13, "FG_COLOR"), (14, "BG_COLOR"), (15, "UL_COLOR")] := rfl

theorem ctrlFns_eq : Gen.ctrlFns = [([38,5],1), ([38,2],3), ([48,5],1), ([48,2],3), ([58,5],1), ([58,2],3)] := rfl

theorem fn_distinct : Gen.fnResetAll ≠ Gen.fnApply ∧ Gen.fnResetAll ≠ Gen.fnClear ∧ Gen.fnApply ≠ Gen.fnClear := by
  decide

/-- one row of the comparison library table / terminal table -/
def paramAgrees (c : Nat) : Bool :=
  match ansiParam (c : Int), Term.specEffect c with
  | none, none => true
  | some (e, fn), some a =>
    if fn = Gen.fnResetAll then a == .reset
    else if fn = Gen.fnClear then
      match groupOfEff e with
      | some g => a == .clear g
      | none => false
    else if fn = Gen.fnApply then
      match groupOfEff e with
      | some g => a == .set g || a == .ext g || (c == 10 && a == .clear g)
      | none => false
    else false
  | _, _ => false

def tablesAgreeCheck : Bool :=
  decide (Gen.fnResetAll ≠ Gen.fnApply ∧ Gen.fnResetAll ≠ Gen.fnClear ∧ Gen.fnApply ≠ Gen.fnClear) &&
  Gen.paramTable.all (fun r => r.1 < 256) &&
  (List.range 256).all paramAgrees

theorem ansiParam_natCast (c : Nat) :
    ansiParam (c : Int) = (Gen.paramTable.find? (fun r => r.1 == c)).map (·.2) := by
  have : ¬ ((c : Int) < 0) := by omega
  simp [ansiParam, this]

theorem paramTable_keys : Gen.paramTable.all (fun r => r.1 < 108) = true := by decide +kernel

theorem ansiParam_unknown {c : Nat} (h : 108 ≤ c) : ansiParam (c : Int) = none := by
  rw [ansiParam_natCast, Option.map_eq_none_iff, List.find?_eq_none]
  intro r hr
  have := List.all_eq_true.1 paramTable_keys r hr
  simp at this ⊢; omega

theorem ansiParam_ge {c : Nat} (h : 256 ≤ c) : ansiParam (c : Int) = none := ansiParam_unknown (by omega)

/-- From 108 on neither side knows a code (`ansiParam_unknown`, `specEffect_ge`), and evaluating the
    check as it stands would spend two thirds of its time there: only the rows below are compared one by one. -/
theorem tables_agree : tablesAgreeCheck = true := by
  have lo : (List.range 108).all paramAgrees = true := by decide +kernel
  have keys : Gen.paramTable.all (fun r => r.1 < 256) = true :=
    List.all_eq_true.2 fun r hr => by
      have := List.all_eq_true.1 paramTable_keys r hr
      simp at this ⊢; omega
  simp only [tablesAgreeCheck, Bool.and_eq_true, decide_eq_true_eq]
  refine ⟨⟨fn_distinct, keys⟩, List.all_eq_true.2 fun c _ => ?_⟩
  by_cases h : c < 108
  · exact List.all_eq_true.1 lo c (List.mem_range.2 h)
  · rw [paramAgrees, ansiParam_unknown (by omega), specEffect_ge (by omega)]

/-- how the library's `AnsiParam(c)` and the terminal's reading of `c` relate -/
inductive ParamSpec (c : Nat) : Option (Nat × Nat) → Option Action → Prop
  | unknown : ParamSpec c none none
  | reset (e : Nat) : ParamSpec c (some (e, Gen.fnResetAll)) (some .reset)
  | clear (e : Nat) (g : Group) : groupOfEff e = some g → ParamSpec c (some (e, Gen.fnClear)) (some (.clear g))
  | set (e : Nat) (g : Group) : groupOfEff e = some g → ParamSpec c (some (e, Gen.fnApply)) (some (.set g))
  | ext (e : Nat) (g : Group) : groupOfEff e = some g → ParamSpec c (some (e, Gen.fnApply)) (some (.ext g))
  | font10 (e : Nat) (g : Group) : c = 10 → groupOfEff e = some g →
      ParamSpec c (some (e, Gen.fnApply)) (some (.clear g))

theorem param_spec (c : Nat) : ParamSpec c (ansiParam (c : Int)) (specEffect c) := by
  by_cases hc : c < 256
  · have h := tables_agree
    simp only [tablesAgreeCheck, Bool.and_eq_true] at h
    have h := List.all_eq_true.1 h.2 c (List.mem_range.2 hc)
    unfold paramAgrees at h
    split at h
    · rename_i h1 h2; rw [h1, h2]; exact .unknown
    · rename_i e fn a h1 h2
      rw [h1, h2]
      split at h
      · rename_i hf; subst hf; simp at h; subst h; exact .reset e
      · split at h
        · rename_i hf; subst hf
          split at h
          · rename_i g hg; simp at h; subst h; exact .clear e g hg
          · cases h
        · split at h
          · rename_i hf; subst hf
            split at h
            · rename_i g hg
              simp only [Bool.or_eq_true, beq_iff_eq, Bool.and_eq_true] at h
              rcases h with (h | h) | h
              · subst h; exact .set e g hg
              · subst h; exact .ext e g hg
              · rw [h.2]; exact .font10 e g h.1 hg
            · cases h
          · cases h
    · cases h
  · rw [ansiParam_ge (by omega), specEffect_ge (by omega)]; exact .unknown




/-- one row of `EFFECT_CLEAR_DICT` against the terminal -/
def clearAgrees (r : Nat × Nat) : Bool :=
  if r.1 = 1 then Term.specEffect r.2 == some .reset
  else match groupOfEff r.1 with
    | some g => Term.specEffect r.2 == some (.clear g)
    | none => false

def clearCheck : Bool :=
  Gen.clearTable.all clearAgrees &&
  (List.range' 2 14).all (fun e => Gen.clearTable.any (fun r => r.1 == e))

theorem clear_check : clearCheck = true := by decide +kernel

theorem clearAgrees_of_mem {r : Nat × Nat} (h : r ∈ Gen.clearTable) : clearAgrees r = true :=
  List.all_eq_true.1 (Bool.and_eq_true_iff.1 clear_check).1 r h

theorem clear_row {e code : Nat} (h : (e, code) ∈ Gen.clearTable) (he : e ≠ 1) :
    ∃ g, groupOfEff e = some g ∧ Term.specEffect code = some (.clear g) := by
  have := clearAgrees_of_mem h
  simp only [clearAgrees, he, if_false] at this
  split at this
  · rename_i g hg; exact ⟨g, hg, by simpa using this⟩
  · cases this

theorem clear_row_reset {code : Nat} (h : (1, code) ∈ Gen.clearTable) : Term.specEffect code = some .reset := by
  simpa [clearAgrees] using clearAgrees_of_mem h

theorem clear_total {e : Nat} (h2 : 2 ≤ e) (h15 : e ≤ 15) : ∃ code, (e, code) ∈ Gen.clearTable := by
  have := List.all_eq_true.1 (Bool.and_eq_true_iff.1 clear_check).2 e (List.mem_range'.2 ⟨e - 2, by omega, by omega⟩)
  simp only [List.any_eq_true, beq_iff_eq] at this
  obtain ⟨⟨e', code⟩, hm, rfl⟩ := this
  exact ⟨code, hm⟩

/-! ## the abstraction function -/

/-- the codes of a setting text, if every parameter is a number -/
def settingVal (t : Str) : Option (List Nat) :=
  if (Term.params t).all Option.isSome then some ((Term.params t).filterMap id) else none

/-- what a dict entry filed under group `g` stands for: its codes, except that the default font
    (code 10, which the library files as an *apply* of FONT_TYPE) stands for "nothing set" -/
def entryVal (g : Group) (s : Setting) : Option Val :=
  if g = .font ∧ settingVal s.txt = some [10] then none else settingVal s.txt

/-- the terminal state a `settings_to_dict` result stands for -/
def alpha (d : PyDict) : Term.TState := fun g =>
  (d.find? (fun kv => groupOfEff kv.1 == some g)).bind (fun kv => entryVal g kv.2)

theorem settingVal_of_params {t : Str} {vals : List Nat} (h : Term.params t = vals.map some) :
    settingVal t = some vals := by
  have h1 : (vals.map some).all Option.isSome = true := by simp
  have h2 : (vals.map some).filterMap id = vals := by simp [List.filterMap_map]
  simp [settingVal, h, h2]

theorem groupOfEff_beq (k : Nat) (g : Group) : (groupOfEff k == some g) = (k == effOfGroup g) := by
  rw [Bool.eq_iff_iff]; simp [groupOfEff_eq_some]

theorem effOfGroup_inj {g g' : Group} (h : effOfGroup g = effOfGroup g') : g = g' := by
  have := groupOfEff_effOfGroup g
  rw [h, groupOfEff_effOfGroup] at this
  exact (Option.some.inj this).symm

theorem alpha_eq (d : PyDict) (g : Group) :
    alpha d g = (d.find? (fun kv => kv.1 == effOfGroup g)).bind (fun kv => entryVal g kv.2) := by
  simp only [alpha, groupOfEff_beq]

theorem alpha_nil : alpha [] = Term.default := rfl

theorem find_insert (d : PyDict) (e : Nat) (s : Setting) (k : Nat) :
    (d.insert e s).find? (fun kv => kv.1 == k) =
      if k = e then some (e, s) else d.find? (fun kv => kv.1 == k) := by
  induction d with
  | nil => by_cases h : k = e <;> simp [PyDict.insert, h, Ne.symm]
  | cons kv rest ih =>
    obtain ⟨k', v'⟩ := kv
    by_cases hk : k' = e
    · subst hk
      by_cases h : k = k' <;> simp [PyDict.insert, h, Ne.symm]
    · by_cases h : k' = k
      · subst h; simp [PyDict.insert, hk]
      · simp [PyDict.insert, hk, h, ih]

theorem find_erase (d : PyDict) (e : Nat) (k : Nat) :
    (d.erase e).find? (fun kv => kv.1 == k) =
      if k = e then none else d.find? (fun kv => kv.1 == k) := by
  rw [PyDict.erase, List.find?_filter]
  split
  · subst_vars; exact List.find?_eq_none.2 (by simp)
  · rename_i h
    congr; funext kv
    by_cases hk : kv.1 = k
    · simp [hk, h]
    · simp [hk]

theorem alpha_insert {e : Nat} {g : Group} (hg : groupOfEff e = some g) (d : PyDict) (s : Setting) :
    alpha (d.insert e s) = fun g' => if g' = g then entryVal g s else alpha d g' := by
  funext g'
  rw [groupOfEff_eq_some] at hg
  rw [alpha_eq, alpha_eq, find_insert]
  by_cases h : g' = g
  · subst h; simp [hg]
  · have : effOfGroup g' ≠ e := fun h' => h (effOfGroup_inj (h'.trans hg))
    simp [h, this]

theorem alpha_erase {e : Nat} {g : Group} (hg : groupOfEff e = some g) (d : PyDict) :
    alpha (d.erase e) = (alpha d).drop g := by
  funext g'
  rw [groupOfEff_eq_some] at hg
  rw [TState.drop, alpha_eq, alpha_eq, find_erase]
  by_cases h : g' = g
  · subst h; simp [hg]
  · have : effOfGroup g' ≠ e := fun h' => h (effOfGroup_inj (h'.trans hg))
    simp [h, this]


/-! ## group texts -/

/-- the numbers of a digits-only setting text -/
def valsOf (t : Str) : List Nat := (Py.splitOnChar ';' t).map Py.digitsVal

/-- the shapes `isGroupTxt` allows: one code that does not open an extended colour, or a complete
    extended-colour group -/
inductive GroupVals : List Nat → Prop
  | single (c : Nat) : c ≠ 38 → c ≠ 48 → c ≠ 58 → GroupVals [c]
  | idx (c n : Nat) : (c = 38 ∨ c = 48 ∨ c = 58) → n ≤ 255 → GroupVals [c, 5, n]
  | rgb (c r g b : Nat) : (c = 38 ∨ c = 48 ∨ c = 58) → r ≤ 255 → g ≤ 255 → b ≤ 255 →
      GroupVals [c, 2, r, g, b]

theorem isGroupTxt_spec {t : Str} (h : isGroupTxt t = true) :
    (∀ it ∈ Py.splitOnChar ';' t, Py.isdigit it = true) ∧ GroupVals (valsOf t) := by
  unfold isGroupTxt at h
  simp only [Bool.and_eq_true, List.all_eq_true] at h
  refine ⟨h.1, ?_⟩
  have h2 := h.2
  unfold valsOf
  split at h2
  · rename_i c heq; rw [heq]; simp at h2; exact .single c h2.1.1 h2.1.2 h2.2
  · rename_i c n heq; rw [heq]; simp at h2; exact .idx c n (or_assoc.1 h2.1) h2.2
  · rename_i c r g b heq; rw [heq]; simp at h2
    exact .rgb c r g b (or_assoc.1 h2.1.1.1) h2.1.1.2 h2.1.2 h2.2
  · cases h2

theorem isGroupTxt_of_spec {t : Str} (h1 : ∀ it ∈ Py.splitOnChar ';' t, Py.isdigit it = true)
    (h2 : GroupVals (valsOf t)) : isGroupTxt t = true := by
  unfold isGroupTxt
  simp only [Bool.and_eq_true, List.all_eq_true]
  refine ⟨h1, ?_⟩
  unfold valsOf at h2
  generalize List.map Py.digitsVal (Py.splitOnChar ';' t) = l at h2
  cases h2 with
  | single c a b d => simp [a, b, d]
  | idx c n hc hn => rcases hc with rfl | rfl | rfl <;> simp [hn]
  | rgb c r g b hc hr hg hb => rcases hc with rfl | rfl | rfl <;> simp [hr, hg, hb]

theorem params_of_digits {t : Str} (h : ∀ it ∈ Py.splitOnChar ';' t, Py.isdigit it = true) :
    Term.params t = (valsOf t).map some := by
  unfold Term.params valsOf
  rw [splitSemi_eq, List.map_map]
  apply List.map_congr_left
  intro it hit
  have := isdigit_iff.1 (h it hit)
  exact param_digits this.1 this.2

theorem initialParam_of_digits {t : Str} (h : ∀ it ∈ Py.splitOnChar ';' t, Py.isdigit it = true) :
    SettingTxt.initialParam t = ((valsOf t).head?.map (fun c => ((c : Nat) : Int))).bind ansiParam := by
  unfold SettingTxt.initialParam valsOf
  cases hs : Py.splitOnChar ';' t with
  | nil => exact absurd hs (splitOnChar_ne_nil _ _)
  | cons v rest =>
    have := isdigit_iff.1 (h v (by simp [hs]))
    simp [int_digits this.1 this.2]


/-! ## feed algebra: a complete group is consumed as a unit -/

theorem specEffect_of_extCode {c : Nat} (hc : c = 38 ∨ c = 48 ∨ c = 58) :
    ∃ g, specEffect c = some (.ext g) := by
  rcases hc with rfl | rfl | rfl <;> exact ⟨_, rfl⟩

/-- what a terminal does with one complete group -/
def groupEffect (st : TState) (vals : List Nat) : TState :=
  match vals.head?.bind specEffect with
  | none => st
  | some .reset => Term.default
  | some (.clear g) => st.drop g
  | some (.set g) | some (.ext g) => st.put g vals

theorem feed_group {vals : List Nat} (h : GroupVals vals) (st : TState) (rest : List (Option Nat)) :
    feed st (vals.map some ++ rest) = feed (groupEffect st vals) rest := by
  cases h with
  | single c a b d =>
    simp only [groupEffect, List.head?_cons, Option.bind_some]
    cases hs : specEffect c with
    | none => exact feed_unknown hs st rest
    | some act =>
      cases act with
      | reset => exact feed_reset hs st rest
      | set g => exact feed_set hs st rest
      | clear g => exact feed_clear hs st rest
      | ext g => rcases specEffect_ext hs with h | h | h <;> simp_all
  | idx c n hc hn =>
    obtain ⟨g, hg⟩ := specEffect_of_extCode hc
    simp only [groupEffect, List.head?_cons, Option.bind_some, hg]
    exact (feed_ext5 hg st n rest).trans (by rw [if_pos hn])
  | rgb c r g b hc hr hg hb =>
    obtain ⟨gr, hgr⟩ := specEffect_of_extCode hc
    simp only [groupEffect, List.head?_cons, Option.bind_some, hgr]
    exact (feed_ext2 hgr st r g b rest).trans (by rw [if_pos ⟨hr, hg, hb⟩])

theorem feed_group_nil {vals : List Nat} (h : GroupVals vals) (st : TState) :
    feed st (vals.map some) = groupEffect st vals := by
  simpa [feed_nil] using feed_group h st []

theorem feed_groupTxt {t : Str} (h : isGroupTxt t = true) (st : TState) (rest : List (Option Nat)) :
    feed st (Term.params t ++ rest) = feed (feed st (Term.params t)) rest := by
  obtain ⟨h1, h2⟩ := isGroupTxt_spec h
  rw [params_of_digits h1, feed_group h2, feed_group_nil h2]

theorem codesOf_nil : codesOf [] = [] := rfl
theorem codesOf_cons (s : Setting) (l : List Setting) : codesOf (s :: l) = Term.params s.txt ++ codesOf l := by
  simp [codesOf]
theorem codesOf_append (l l' : List Setting) : codesOf (l ++ l') = codesOf l ++ codesOf l' := by
  simp [codesOf]

theorem feed_codesOf_append' {l : List Setting} (h : ∀ s ∈ l, isGroupTxt s.txt = true) (st : TState)
    (rest : List (Option Nat)) : feed st (codesOf l ++ rest) = feed (feed st (codesOf l)) rest := by
  induction l generalizing st with
  | nil => simp [codesOf_nil, feed_nil]
  | cons s l ih =>
    have hs := h s (by simp)
    have hl : ∀ s ∈ l, isGroupTxt s.txt = true := fun x hx => h x (by simp [hx])
    rw [codesOf_cons, List.append_assoc, feed_groupTxt hs, ih hl, feed_groupTxt hs st (codesOf l)]

theorem feed_codesOf_append {l : List Setting} (h : ∀ s ∈ l, isGroupTxt s.txt = true) (st : TState)
    (l' : List Setting) : feed st (codesOf (l ++ l')) = feed (feed st (codesOf l)) (codesOf l') := by
  rw [codesOf_append, feed_codesOf_append' h]


/-! ## `settings_to_dict` against the terminal -/

/-- one iteration of `settings_to_dict` -/
def dictStep (d : PyDict) (s : Setting) : PyDict :=
  match SettingTxt.initialParam s.txt with
  | none => d
  | some (eff, fn) =>
    if fn == Gen.fnApply then d.insert eff s
    else if fn == Gen.fnClear then d.erase eff
    else []

theorem settingsToDict_eq (ss : List Setting) (d : PyDict) : settingsToDict ss d = ss.foldl dictStep d := rfl
theorem settingsToDict_nil (d : PyDict) : settingsToDict [] d = d := rfl
theorem settingsToDict_cons (s : Setting) (ss : List Setting) (d : PyDict) :
    settingsToDict (s :: ss) d = settingsToDict ss (dictStep d s) := rfl
theorem settingsToDict_append (l l' : List Setting) (d : PyDict) :
    settingsToDict (l ++ l') d = settingsToDict l' (settingsToDict l d) := by
  simp [settingsToDict_eq, List.foldl_append]

theorem entryVal_of_params {s : Setting} {vals : List Nat} (h : Term.params s.txt = vals.map some)
    (g : Group) (hv : vals ≠ [10]) : entryVal g s = some vals := by
  simp [entryVal, settingVal_of_params h, hv]

theorem entryVal_font10 {s : Setting} (h : Term.params s.txt = [some 10]) : entryVal .font s = none := by
  have : settingVal s.txt = some [10] := settingVal_of_params (vals := [10]) h
  simp [entryVal, this]

theorem specEffect_10 : specEffect 10 = some (.clear .font) := by decide

theorem alpha_dictStep {s : Setting} (h : isGroupTxt s.txt = true) (d : PyDict) :
    alpha (dictStep d s) = feed (alpha d) (Term.params s.txt) := by
  obtain ⟨h1, h2⟩ := isGroupTxt_spec h
  have hp := params_of_digits h1
  rw [hp, feed_group_nil h2, dictStep, initialParam_of_digits h1, groupEffect]
  generalize valsOf s.txt = vals at *
  obtain ⟨c, tl, rfl⟩ : ∃ c tl, vals = c :: tl := by cases h2 <;> exact ⟨_, _, rfl⟩
  have ps := param_spec c
  simp only [List.head?_cons, Option.map_some, Option.bind_some]
  generalize ansiParam (c : Int) = q at ps
  generalize hs : specEffect c = a at ps
  -- `entryVal` reads a text as its codes unless they are `[10]`, and a terminal clears the font on 10
  have hv : c :: tl = [10] → a = some (.clear .font) := fun e => by cases e; exact hs ▸ specEffect_10
  -- the three `AnsiParamEffectFn` values are numerals, so the `if`s of `dictStep` evaluate
  cases ps with
  | unknown => rfl
  | reset e => rfl
  | clear e g hg => exact alpha_erase hg d
  | set e g hg | ext e g hg =>
    exact (alpha_insert hg d s).trans (by rw [entryVal_of_params hp g (fun e => nomatch hv e)]; rfl)
  | font10 e g h10 hg =>
    subst h10
    rw [specEffect_10] at hs
    cases hs
    have : tl = [] := by cases h2 <;> simp_all
    subst this
    exact (alpha_insert hg d s).trans (by rw [entryVal_font10 hp]; rfl)

theorem alpha_settingsToDict {ss : List Setting} (h : ∀ s ∈ ss, isGroupTxt s.txt = true) (old : PyDict) :
    alpha (settingsToDict ss old) = feed (alpha old) (codesOf ss) := by
  induction ss generalizing old with
  | nil => rw [settingsToDict_nil, codesOf_nil, feed_nil]
  | cons s ss ih =>
    have hs := h s (by simp)
    rw [settingsToDict_cons, ih (fun x hx => h x (by simp [hx])), alpha_dictStep hs, codesOf_cons,
      feed_groupTxt hs]


/-- what a dict built by `settings_to_dict` from group texts looks like: keys pairwise distinct, every
    entry is a group text filed under the effect its first code applies -/
def DictOK (d : PyDict) : Prop :=
  d.Pairwise (fun a b => a.1 ≠ b.1) ∧
  ∀ kv ∈ d, isGroupTxt kv.2.txt = true ∧ SettingTxt.initialParam kv.2.txt = some (kv.1, Gen.fnApply)

theorem dictOK_nil : DictOK [] := ⟨List.Pairwise.nil, by simp⟩

theorem mem_insert {d : PyDict} {e : Nat} {s : Setting} {kv : Nat × Setting} (h : kv ∈ d.insert e s) :
    kv = (e, s) ∨ kv ∈ d := by
  induction d with
  | nil => simpa [PyDict.insert] using h
  | cons x rest ih =>
    simp only [PyDict.insert] at h
    split at h
    · rcases List.mem_cons.1 h with h | h
      · exact .inl h
      · exact .inr (List.mem_cons_of_mem _ h)
    · rcases List.mem_cons.1 h with h | h
      · exact .inr (h ▸ List.mem_cons_self)
      · exact (ih h).imp_right (List.mem_cons_of_mem _)

theorem pairwise_insert {d : PyDict} (h : d.Pairwise (fun a b => a.1 ≠ b.1)) (e : Nat) (s : Setting) :
    (d.insert e s).Pairwise (fun a b => a.1 ≠ b.1) := by
  induction d with
  | nil => simp [PyDict.insert]
  | cons x rest ih =>
    obtain ⟨k', v'⟩ := x
    rw [List.pairwise_cons] at h
    by_cases hk : k' = e
    · subst hk
      simp only [PyDict.insert, beq_self_eq_true, if_true]
      exact List.pairwise_cons.2 ⟨h.1, h.2⟩
    · have hk' : (k' == e) = false := by simpa using hk
      simp only [PyDict.insert, hk', Bool.false_eq_true, if_false]
      refine List.pairwise_cons.2 ⟨?_, ih h.2⟩
      intro b hb
      rcases mem_insert hb with hb | hb
      · subst hb; exact hk
      · exact h.1 b hb

theorem dictOK_insert {d : PyDict} (h : DictOK d) {e : Nat} {s : Setting} (hs : isGroupTxt s.txt = true)
    (hi : SettingTxt.initialParam s.txt = some (e, Gen.fnApply)) : DictOK (d.insert e s) := by
  refine ⟨pairwise_insert h.1 e s, ?_⟩
  intro kv hkv
  rcases mem_insert hkv with hkv | hkv
  · subst hkv; exact ⟨hs, hi⟩
  · exact h.2 kv hkv

theorem dictOK_erase {d : PyDict} (h : DictOK d) (e : Nat) : DictOK (d.erase e) :=
  ⟨h.1.filter _, fun kv hkv => h.2 kv (List.mem_filter.1 hkv).1⟩

theorem dictOK_dictStep {d : PyDict} (h : DictOK d) {s : Setting} (hs : isGroupTxt s.txt = true) :
    DictOK (dictStep d s) := by
  unfold dictStep
  split
  · exact h
  · rename_i e fn hi
    split
    · rename_i hf
      have : fn = Gen.fnApply := by simpa using hf
      subst this
      exact dictOK_insert h hs hi
    · split
      · exact dictOK_erase h e
      · exact dictOK_nil

theorem dictOK_settingsToDict {ss : List Setting} (h : ∀ s ∈ ss, isGroupTxt s.txt = true) {old : PyDict}
    (ho : DictOK old) : DictOK (settingsToDict ss old) := by
  induction ss generalizing old with
  | nil => exact ho
  | cons s ss ih =>
    rw [settingsToDict_cons]
    exact ih (fun x hx => h x (by simp [hx])) (dictOK_dictStep ho (h s (by simp)))

theorem isGroupTxt_zero : isGroupTxt ['0'] = true := by decide


/-! ## texts made by `parse_graphic_sequence`: `';'.join(str(c) for c in group)` -/

theorem intStr_natCast (n : Nat) : Py.intStr (n : Int) = Py.natStr n := by
  have : ¬ ((n : Int) < 0) := by omega
  simp [Py.intStr, this]

theorem joinInts_natCast (l : List Nat) : joinInts (l.map (fun c => ((c : Nat) : Int))) = joinNats l := by
  simp [joinInts, joinNats, semi, List.map_map, Function.comp_def, intStr_natCast]

theorem natStr_noSemi (n : Nat) : ∀ c ∈ Py.natStr n, c ≠ ';' :=
  fun c hc => ne_semi_of_isDigit ((natStr_spec n).2.1 c hc)

theorem isdigit_natStr (n : Nat) : Py.isdigit (Py.natStr n) = true :=
  isdigit_iff.2 ⟨(natStr_spec n).1, (natStr_spec n).2.1⟩

theorem split_joinNats {l : List Nat} (h : l ≠ []) : Py.splitOnChar ';' (joinNats l) = l.map Py.natStr := by
  apply splitOnChar_joinSep
  · simpa using h
  · intro a ha
    obtain ⟨n, _, rfl⟩ := List.mem_map.1 ha
    exact natStr_noSemi n

theorem split_natStr (n : Nat) : Py.splitOnChar ';' (Py.natStr n) = [Py.natStr n] :=
  splitOnChar_noSep (natStr_noSemi n)

theorem joinNats_single (n : Nat) : joinNats [n] = Py.natStr n := rfl

theorem items_joinNats {l : List Nat} (h : l ≠ []) : ∀ it ∈ Py.splitOnChar ';' (joinNats l), Py.isdigit it = true := by
  rw [split_joinNats h]
  intro it hit
  obtain ⟨n, _, rfl⟩ := List.mem_map.1 hit
  exact isdigit_natStr n

theorem valsOf_joinNats {l : List Nat} (h : l ≠ []) : valsOf (joinNats l) = l := by
  rw [valsOf, split_joinNats h, List.map_map]
  conv => rhs; rw [← List.map_id l]
  apply List.map_congr_left
  intro n _
  exact (natStr_spec n).2.2

theorem params_joinNats {l : List Nat} (h : l ≠ []) : Term.params (joinNats l) = l.map some := by
  rw [params_of_digits (items_joinNats h), valsOf_joinNats h]

theorem isGroupTxt_joinNats {l : List Nat} (h : GroupVals l) : isGroupTxt (joinNats l) = true := by
  have hne : l ≠ [] := by cases h <;> simp
  exact isGroupTxt_of_spec (items_joinNats hne) (by rw [valsOf_joinNats hne]; exact h)

theorem toList_joinNats {l : List Nat} (h : l ≠ []) :
    SettingTxt.toList (joinNats l) = l.map (fun (c : Nat) => Code.int (c : Int)) := by
  rw [SettingTxt.toList, split_joinNats h, List.map_map]
  apply List.map_congr_left
  intro n _
  have hs := natStr_spec n
  simp [strip_digits hs.2.1, isdigit_natStr, hs.2.2]

theorem valid_natStr (n : Nat) : SettingTxt.valid (Py.natStr n) = true :=
  List.all_eq_true.2 fun c hc => by rw [isTerm_of_isDigit ((natStr_spec n).2.1 c hc)]; rfl

theorem valid_joinNats : ∀ l : List Nat, SettingTxt.valid (joinNats l) = true
  | [] => rfl
  | [a] => valid_natStr a
  | a :: b :: rest => by
    have ih := valid_joinNats (b :: rest)
    simp only [SettingTxt.valid, joinNats, List.map_cons, joinSep, List.all_append, Bool.and_eq_true] at ih ⊢
    exact ⟨⟨valid_natStr a, by decide⟩, ih⟩


end Eff

/-! ## what `AnsiSetting.parsable` accepts, as a predicate on the code values -/

namespace ScrubL
open SettingTxt

/-- the grammar on the list of values -/
def groupVals (vals : List Nat) : Prop :=
  (∀ v ∈ vals, v ≤ 255) ∧
  ∃ first rest, vals = first :: rest ∧ first ≠ 0 ∧ Term.specEffect first ≠ none ∧
    (if first = 38 ∨ first = 48 ∨ first = 58 then
       (∃ n, rest = [5, n]) ∨ (∃ r g b, rest = [2, r, g, b])
     else rest = [])

/-- `parsable` after the `valid` test, as a function of `to_list()` -/
def parsableCodes (codes : List Code) : Bool :=
  match codes with
  | [] => false
  | c0 :: _ =>
    if c0 == Code.int 0 then false
    else if !(codes.all (fun c => match c with | .int i => 0 ≤ i ∧ i ≤ 255 | .str _ => false)) then false
    else
      match c0 with
      | .str _ => false
      | .int i0 =>
        if (ansiParam i0).isNone then false
        else
          match parsableFnLoop codes Gen.ctrlFns false with
          | (some b, _) => b
          | (none, true) => false
          | (none, false) => codes.length == 1

theorem parsable_eq (t : Str) : parsable t = (valid t && parsableCodes (toList t)) := by
  unfold parsable parsableCodes
  cases valid t <;> rfl

def natCodes (l : List Nat) : List Code := l.map (fun (n : Nat) => Code.int (n : Int))

/-- `AnsiParam` knows exactly the codes that the specification knows (`Eff.tables_agree`) -/
theorem ansiParam_spec (c : Nat) : (ansiParam (c : Int)).isNone = (Term.specEffect c).isNone := by
  have h := Eff.param_spec c
  generalize ansiParam (c : Int) = q at h ⊢
  generalize Term.specEffect c = a at h ⊢
  cases h <;> rfl

theorem codeInt_beq (i j : Int) : (Code.int i == Code.int j) = decide (i = j) := by
  by_cases h : i = j
  · subst h; simp
  · have : Code.int i ≠ Code.int j := by
      intro e; injection e with e; exact h e
    simp [h, this]

/-- the verdict of the function loop and the final length test of `parsable` -/
def loopVerdict (codes : List Code) : Bool :=
  match parsableFnLoop codes Gen.ctrlFns false with
  | (some b, _) => b
  | (none, true) => false
  | (none, false) => codes.length == 1

theorem codeNat_beq (a b : Nat) : (Code.int (a : Int) == Code.int (b : Int)) = decide (a = b) := by
  simp [codeInt_beq, Int.natCast_inj]

theorem parsableFnLoop_cons_nat (a s0 s1 n : Nat) (rest : List Nat) (fns : List (List Nat × Nat)) (found : Bool) :
    parsableFnLoop (natCodes (a :: rest)) (([s0, s1], n) :: fns) found =
      if a = s0 then
        if rest.head? = some s1 then (some (rest.length + 1 == 2 + n), found)
        else parsableFnLoop (natCodes (a :: rest)) fns true
      else parsableFnLoop (natCodes (a :: rest)) fns found := by
  cases rest with
  | nil => by_cases h : a = s0 <;> simp [parsableFnLoop, startsWithFn, natCodes, codeNat_beq, h]
  | cons b r => by_cases h : a = s0 <;> by_cases h' : b = s1 <;> simp [parsableFnLoop, startsWithFn, natCodes, codeNat_beq, h, h']

theorem loopVerdict_nat (a : Nat) (rest : List Nat) : loopVerdict (natCodes (a :: rest)) = true ↔
    (if a = 38 ∨ a = 48 ∨ a = 58 then (∃ n, rest = [5, n]) ∨ (∃ r g b, rest = [2, r, g, b])
     else rest = []) := by
  have nil : ∀ f, parsableFnLoop (natCodes (a :: rest)) [] f = (none, f) := fun _ => rfl
  by_cases h : a = 38 ∨ a = 48 ∨ a = 58
  · -- the loop stops at the function `a;5` (one argument) or `a;2` (three)
    have key : parsableFnLoop (natCodes (a :: rest)) Gen.ctrlFns false =
        if rest.head? = some 5 then (some (rest.length == 2), false)
        else if rest.head? = some 2 then (some (rest.length == 4), true) else (none, true) := by
      rw [Eff.ctrlFns_eq]
      rcases h with rfl | rfl | rfl <;> simp [parsableFnLoop_cons_nat, nil]
    rw [loopVerdict, key, if_pos h]
    rcases rest with _ | ⟨b, r⟩
    · simp
    · by_cases h5 : b = 5
      · subst h5
        simp [List.length_eq_one_iff]
      · by_cases h2 : b = 2
        · subst h2
          rcases r with _ | ⟨c, _ | ⟨d, _ | ⟨e, _ | ⟨f, r⟩⟩⟩⟩ <;> simp
        · simp [h5, h2]
  · -- no function begins with `a`
    have key : parsableFnLoop (natCodes (a :: rest)) Gen.ctrlFns false = (none, false) := by
      rw [Eff.ctrlFns_eq]
      simp only [not_or] at h
      simp [parsableFnLoop_cons_nat, nil, h]
    rw [loopVerdict, key, if_neg h]
    simp [natCodes]

theorem parsableCodes_cons (a : Nat) (rest : List Nat) :
    parsableCodes (natCodes (a :: rest)) =
      (!decide (a = 0) && (a :: rest).all (fun v => decide (v ≤ 255)) && !(ansiParam (a : Int)).isNone &&
        loopVerdict (natCodes (a :: rest))) := by
  have hall : (natCodes (a :: rest)).all (fun c => match c with | .int i => 0 ≤ i ∧ i ≤ 255 | .str _ => false)
      = (a :: rest).all (fun v => decide (v ≤ 255)) := by
    rw [natCodes, List.all_map]
    congr 1
    funext v
    exact decide_eq_decide.2 (by omega)
  unfold parsableCodes loopVerdict
  simp only [natCodes, List.map_cons] at hall ⊢
  rw [show (Code.int (a : Int) == Code.int 0) = decide (a = 0) from codeNat_beq a 0, hall]
  simp only [Bool.if_false_left, Bool.decide_eq_true, Bool.not_not, Bool.and_assoc]

theorem parsableCodes_nat (vals : List Nat) : parsableCodes (natCodes vals) = true ↔ groupVals vals := by
  cases vals with
  | nil => simp [parsableCodes, natCodes, groupVals]
  | cons a rest =>
    rw [parsableCodes_cons]
    simp only [Bool.and_eq_true, Bool.not_eq_true', decide_eq_false_iff_not, List.all_eq_true,
      decide_eq_true_eq, loopVerdict_nat, groupVals]
    constructor
    · rintro ⟨⟨⟨h0, hall⟩, hp⟩, hl⟩
      refine ⟨hall, a, rest, rfl, h0, ?_, hl⟩
      rw [ansiParam_spec] at hp
      intro hn; rw [hn] at hp; simp at hp
    · rintro ⟨hall, f, r, he, h0, hs, hl⟩
      injection he with e1 e2
      subst e1; subst e2
      refine ⟨⟨⟨h0, hall⟩, ?_⟩, hl⟩
      rw [ansiParam_spec]
      cases h : Term.specEffect a with
      | none => exact absurd h hs
      | some _ => rfl

theorem parsable_joinNats {l : List Nat} (h : l ≠ []) : parsable (joinNats l) = true ↔ groupVals l := by
  rw [parsable_eq, Eff.valid_joinNats, Eff.toList_joinNats h, Bool.true_and]
  exact parsableCodes_nat l

end ScrubL

namespace Eff

theorem GroupVals_of_groupVals {vals : List Nat} (h : ScrubL.groupVals vals) : GroupVals vals := by
  obtain ⟨hle, first, rest, rfl, _, _, hif⟩ := h
  by_cases hext : first = 38 ∨ first = 48 ∨ first = 58
  · rw [if_pos hext] at hif
    rcases hif with ⟨n, rfl⟩ | ⟨r, g, b, rfl⟩
    · exact .idx first n hext (hle n (by simp))
    · exact .rgb first r g b hext (hle r (by simp)) (hle g (by simp)) (hle b (by simp))
  · rw [if_neg hext] at hif
    subst hif
    simp only [not_or] at hext
    exact .single first hext.1 hext.2.1 hext.2.2

/-! ## the loop of `parse_graphic_sequence` -/

/-- codes that open an extended-colour group -/
def IsExt (c : Nat) : Prop := c = 38 ∨ c = 48 ∨ c = 58

instance (c : Nat) : Decidable (IsExt c) := by unfold IsExt; infer_instance

abbrev ci (c : Nat) : Code := Code.int (c : Int)

/-- the rows of `_AnsiControlFn` whose setup sequence does not start with a code other than `c` -/
theorem ctrlFns_filter (c : Nat) :
    Gen.ctrlFns.filter (fun r => r.1.head?.all (· == c)) = if IsExt c then [([c, 5], 1), ([c, 2], 3)] else [] := by
  rw [ctrlFns_eq]
  by_cases h : IsExt c
  · rw [if_pos h]
    rcases h with rfl | rfl | rfl <;> rfl
  · rw [if_neg h]
    simp only [IsExt, not_or] at h
    have h1 : (38 == c) = false := beq_eq_false_iff_ne.2 (Ne.symm h.1)
    have h2 : (48 == c) = false := beq_eq_false_iff_ne.2 (Ne.symm h.2.1)
    have h3 : (58 == c) = false := beq_eq_false_iff_ne.2 (Ne.symm h.2.2)
    simp only [List.filter, List.head?_cons, Option.all_some, h1, h2, h3]

theorem startsWithFn_ne {c m : Nat} (h : m ≠ c) (ms : List Nat) (tl : List Code) :
    SettingTxt.startsWithFn (m :: ms) (ci c :: tl) = false := by
  have : ((c : Nat) : Int) ≠ (m : Int) := by omega
  simp [SettingTxt.startsWithFn, this]

/-- both loops over `_AnsiControlFn` pass over a row that starts with another code than the one under
    the cursor: only the rows of `ctrlFns_filter` count -/
theorem pgsFnLoop_filter (c : Nat) (tl : List Code) : ∀ (rows : List (List Nat × Nat)) (acc : Nat × Bool × Bool),
    pgsFnLoop (ci c :: tl) (c : Int) rows acc =
      pgsFnLoop (ci c :: tl) (c : Int) (rows.filter (fun r => r.1.head?.all (· == c))) acc
  | [], _ => rfl
  | (setup, n) :: rows, (l, s, f) => by
    simp only [List.filter_cons]
    by_cases h : setup.head?.all (· == c) = true
    · rw [if_pos h, pgsFnLoop, pgsFnLoop]
      simp only [pgsFnLoop_filter c tl rows]
    · rw [if_neg h, pgsFnLoop, ← pgsFnLoop_filter c tl rows]
      cases setup with
      | nil => simp at h
      | cons m ms =>
        have hm : m ≠ c := by simpa using h
        have hi : ¬ ((m : Int) = (c : Int)) := by omega
        simp [startsWithFn_ne hm, hi]

/-- what `parse_graphic_sequence` finds out about the code under the cursor: `(left_in_set, fn_set, fn_found)` -/
theorem pgsFnLoop_ctrl (c : Nat) (tl : List Code) :
    pgsFnLoop (ci c :: tl) (c : Int) Gen.ctrlFns (1, false, false) =
      if IsExt c then
        if tl.head? = some (Code.int 5) then (3, true, true)
        else if tl.head? = some (Code.int 2) then (5, true, true)
        else (1, false, true)
      else (1, false, false) := by
  rw [pgsFnLoop_filter, ctrlFns_filter]
  by_cases h : IsExt c
  · simp only [if_pos h]
    cases tl with
    | nil => simp [pgsFnLoop, SettingTxt.startsWithFn]
    | cons x tl =>
      by_cases h5 : x = Code.int 5
      · subst h5; simp [pgsFnLoop, SettingTxt.startsWithFn]
      · by_cases h2 : x = Code.int 2
        · subst h2; simp [pgsFnLoop, SettingTxt.startsWithFn]
        · simp [pgsFnLoop, SettingTxt.startsWithFn, h5, h2]
  · simp only [if_neg h]; rfl

/-- a complete extended-colour group is parsable exactly when its arguments are in range -/
theorem parsable_ext {c k : Nat} {args : List Nat} (h : IsExt c)
    (hk : k = 5 ∧ args.length = 1 ∨ k = 2 ∧ args.length = 3) :
    SettingTxt.parsable (joinNats (c :: k :: args)) = args.all (· ≤ 255) := by
  have hc : c ≤ 255 ∧ c ≠ 0 ∧ specEffect c ≠ none := by rcases h with rfl | rfl | rfl <;> decide
  rw [Bool.eq_iff_iff, ScrubL.parsable_joinNats (by simp), List.all_eq_true]
  simp only [decide_eq_true_eq]
  constructor
  · exact fun hg v hv => hg.1 v (by simp [hv])
  · intro ha
    refine ⟨?_, c, k :: args, rfl, hc.2.1, hc.2.2, ?_⟩
    · intro v hv
      rcases List.mem_cons.1 hv with rfl | hv
      · exact hc.1
      · rcases List.mem_cons.1 hv with rfl | hv
        · omega
        · exact ha v hv
    · rw [if_pos (show c = 38 ∨ c = 48 ∨ c = 58 from h)]
      rcases hk with ⟨rfl, hl⟩ | ⟨rfl, hl⟩
      · match args, hl with
        | [n], _ => exact .inl ⟨n, rfl⟩
      · match args, hl with
        | [r, g, b], _ => exact .inr ⟨r, g, b, rfl⟩


/-- a list of ints as `parse_graphic_sequence` receives it -/
abbrev ints (l : List Nat) : List Code := l.map (fun (c : Nat) => Code.int (c : Int))

theorem pgsLoop_nil (b : Bool) (st : PgsSt) : pgsLoop b [] st = st := by rw [pgsLoop]

theorem pgsFnLoop_nonExt {v : Int} (a1 : v ≠ 38) (a2 : v ≠ 48) (a3 : v ≠ 58) (tl : List Code) :
    pgsFnLoop (Code.int v :: tl) v Gen.ctrlFns (1, false, false) = (1, false, false) := by
  have b1 : (38 : Int) ≠ v := fun e => a1 e.symm
  have b2 : (48 : Int) ≠ v := fun e => a2 e.symm
  have b3 : (58 : Int) ≠ v := fun e => a3 e.symm
  rw [ctrlFns_eq]
  simp [pgsFnLoop, SettingTxt.startsWithFn, a1, a2, a3, b1, b2, b3]

theorem loop_single {ae : Bool} {v : Int} (a1 : v ≠ 38) (a2 : v ≠ 48) (a3 : v ≠ 58) (rest : List Code) (l : Int)
    (o : List Str) :
    pgsLoop ae (Code.int v :: rest) ⟨l, [], o⟩ = pgsLoop ae rest ⟨0, [], o ++ [joinInts [v]]⟩ := by
  rw [pgsLoop]
  simp [pgsFnLoop_nonExt a1 a2 a3]

theorem loop_skip {c : Nat} (h : IsExt c) (rest : List Code)
    (h5 : rest.head? ≠ some (Code.int 5)) (h2 : rest.head? ≠ some (Code.int 2)) (l : Int) (o : List Str) :
    pgsLoop false (Code.int (c : Int) :: rest) ⟨l, [], o⟩ = pgsLoop false rest ⟨l, [], o⟩ := by
  rw [pgsLoop]
  simp [pgsFnLoop_ctrl, h, h5, h2]

theorem loop_open5 {ae : Bool} {c : Nat} (h : IsExt c) (rest : List Code) (l : Int) (o : List Str) :
    pgsLoop ae (Code.int (c : Int) :: Code.int 5 :: rest) ⟨l, [], o⟩ =
      pgsLoop ae (Code.int 5 :: rest) ⟨2, [(c : Int)], o⟩ := by
  rw [pgsLoop]
  simp [pgsFnLoop_ctrl, h]

theorem loop_open2 {ae : Bool} {c : Nat} (h : IsExt c) (rest : List Code) (l : Int) (o : List Str) :
    pgsLoop ae (Code.int (c : Int) :: Code.int 2 :: rest) ⟨l, [], o⟩ =
      pgsLoop ae (Code.int 2 :: rest) ⟨4, [(c : Int)], o⟩ := by
  rw [pgsLoop]
  simp [pgsFnLoop_ctrl, h]

theorem loop_cont {ae : Bool} (v : Int) (rest : List Code) (l : Int) (cur : List Int) (o : List Str)
    (hc : cur ≠ []) (hl : 1 < l) :
    pgsLoop ae (Code.int v :: rest) ⟨l, cur, o⟩ = pgsLoop ae rest ⟨l - 1, cur ++ [v], o⟩ := by
  rw [pgsLoop]
  have : ¬ (l - 1 ≤ 0) := by omega
  simp [hc, this]

theorem loop_flush {ae : Bool} (v : Int) (rest : List Code) (l : Int) (cur : List Int) (o : List Str)
    (hc : cur ≠ []) (hl : l ≤ 1) :
    pgsLoop ae (Code.int v :: rest) ⟨l, cur, o⟩ =
      pgsLoop ae rest ⟨l - 1, [], if ae || SettingTxt.parsable (joinInts (cur ++ [v])) then o ++ [joinInts (cur ++ [v])] else o⟩ := by
  rw [pgsLoop]
  have : l - 1 ≤ 0 := by omega
  simp [hc, this]

/-- an open group takes the next `left_in_set` codes, whatever they are, and is then kept if it is parsable
    (or `add_erroneous` is set) -/
theorem loop_fill {ae : Bool} : ∀ (args : List Nat) (cur : List Int) (rest : List Code) (o : List Str), args ≠ [] → cur ≠ [] →
    pgsLoop ae (ints args ++ rest) ⟨args.length, cur, o⟩ =
      pgsLoop ae rest ⟨0, [],
        if ae || SettingTxt.parsable (joinInts (cur ++ args.map (fun (c : Nat) => (c : Int)))) then o ++ [joinInts (cur ++ args.map (fun (c : Nat) => (c : Int)))] else o⟩
  | [a], cur, rest, o, _, hc => loop_flush a rest _ cur o hc (Int.le_refl 1)
  | a :: b :: t, cur, rest, o, _, hc => by
    have el : (((a :: b :: t).length : Nat) : Int) - 1 = ((b :: t).length : Nat) := by
      simp only [List.length_cons]; omega
    rw [show ints (a :: b :: t) ++ rest = Code.int (a : Int) :: (ints (b :: t) ++ rest) from rfl,
      loop_cont _ _ _ _ _ hc (by simp only [List.length_cons]; omega), el,
      loop_fill (b :: t) _ rest o (by simp) (by simp), List.append_assoc]
    rfl

/-- an open group that the end of the list cuts short leaves nothing (`add_erroneous=False`) -/
theorem loop_short : ∀ (args : List Nat) (l : Int) (cur : List Int) (o : List Str), cur ≠ [] → args.length < l →
    (pgsLoop false (ints args) ⟨l, cur, o⟩).out = o
  | [], _, _, _, _, _ => congrArg PgsSt.out (pgsLoop_nil _ _)
  | a :: t, l, cur, o, hc, hl => by
    simp only [List.length_cons] at hl
    rw [show ints (a :: t) = Code.int (a : Int) :: ints t from rfl, loop_cont _ _ _ _ _ hc (by omega)]
    exact loop_short t _ _ o (by simp) (by omega)

theorem loop_group {ae : Bool} {c k : Nat} {args : List Nat} (h : IsExt c)
    (hk : k = 5 ∧ args.length = 1 ∨ k = 2 ∧ args.length = 3) (rest : List Code) (l : Int) (o : List Str) :
    pgsLoop ae (ints (c :: k :: args) ++ rest) ⟨l, [], o⟩ =
      pgsLoop ae rest ⟨0, [], if ae || args.all (· ≤ 255) then o ++ [joinNats (c :: k :: args)] else o⟩ := by
  have hf := loop_fill (ae := ae) (k :: args) [(c : Int)] rest o (by simp) (by simp)
  rw [show [(c : Int)] ++ (k :: args).map (fun (c : Nat) => (c : Int)) = (c :: k :: args).map (fun (c : Nat) => (c : Int)) from rfl,
    joinInts_natCast, parsable_ext h hk] at hf
  rw [← hf]
  rcases hk with ⟨rfl, ha⟩ | ⟨rfl, ha⟩
  · exact (loop_open5 h _ l o).trans (by simp [ha])
  · exact (loop_open2 h _ l o).trans (by simp [ha])
theorem loop_group_short {c k : Nat} {args : List Nat} (h : IsExt c)
    (hk : k = 5 ∧ args.length < 1 ∨ k = 2 ∧ args.length < 3) (l : Int) (o : List Str) :
    (pgsLoop false (ints (c :: k :: args)) ⟨l, [], o⟩).out = o := by
  rcases hk with ⟨rfl, ha⟩ | ⟨rfl, ha⟩
  · exact (congrArg PgsSt.out (loop_open5 h _ l o)).trans
      (loop_short (5 :: args) _ _ o (by simp) (by simp only [List.length_cons]; omega))
  · exact (congrArg PgsSt.out (loop_open2 h _ l o)).trans
      (loop_short (2 :: args) _ _ o (by simp) (by simp only [List.length_cons]; omega))


theorem ints_head {rest : List Nat} {k : Nat} (h : rest.head? ≠ some k) :
    (ints rest).head? ≠ some (Code.int (k : Int)) := by
  cases rest with
  | nil => simp
  | cons m t => simpa [ints, Int.natCast_inj] using h

theorem somes_head {rest : List Nat} {k : Nat} (h : rest.head? ≠ some k) :
    (rest.map some).head? ≠ some (some k) := by
  cases rest with
  | nil => simp
  | cons m t => simpa using h

/-- `gs` is what `parse_graphic_sequence(codes, add_erroneous=False)` keeps of `codes`: complete groups,
    which a terminal reads as it reads `codes` -/
def Reads (codes : List Nat) (gs : List (List Nat)) : Prop :=
  (∀ g ∈ gs, GroupVals g) ∧
  (∀ (l : Int) (o : List Str), (pgsLoop false (ints codes) ⟨l, [], o⟩).out = o ++ gs.map joinNats) ∧
  ∀ st : TState, feed st (gs.flatten.map some) = feed st (codes.map some)

theorem loop_keep {ae : Bool} {vals : List Nat} (hv : GroupVals vals) (rest : List Code) (l : Int) (o : List Str) :
    pgsLoop ae (ints vals ++ rest) ⟨l, [], o⟩ = pgsLoop ae rest ⟨0, [], o ++ [joinNats vals]⟩ := by
  cases hv with
  | single c a b d =>
    rw [← joinInts_natCast]
    exact loop_single (v := c) (by omega) (by omega) (by omega) rest l o
  | idx c n hc hn => exact (loop_group hc (.inl ⟨rfl, rfl⟩) rest l o).trans (by simp [hn])
  | rgb c r g b hc hr hg hb => exact (loop_group hc (.inr ⟨rfl, rfl⟩) rest l o).trans (by simp [hr, hg, hb])

theorem reads_keep {vals rest : List Nat} {gs : List (List Nat)} (hv : GroupVals vals) :
    Reads rest gs → Reads (vals ++ rest) (vals :: gs) :=
  fun ⟨hvs, hl, hf⟩ => ⟨List.forall_mem_cons.2 ⟨hv, hvs⟩,
    fun l o => by rw [ints, List.map_append, loop_keep hv, hl]; simp,
    fun st => by
      simp only [List.flatten_cons, List.map_append]
      rw [feed_group hv, feed_group hv, hf]⟩

theorem reads_drop {pre rest : List Nat} {gs : List (List Nat)}
    (hk : ∀ l o, ∃ l', pgsLoop false (ints (pre ++ rest)) ⟨l, [], o⟩ = pgsLoop false (ints rest) ⟨l', [], o⟩)
    (hd : ∀ st, feed st ((pre ++ rest).map some) = feed st (rest.map some)) :
    Reads rest gs → Reads (pre ++ rest) gs :=
  fun ⟨hvs, hl, hf⟩ => ⟨hvs, fun l o => by obtain ⟨l', e⟩ := hk l o; rw [e, hl], fun st => by rw [hf, hd]⟩

/-- the look-ahead of `parse_graphic_sequence` is that of a terminal (`Term.feed`) -/
theorem reads_exists : ∀ codes : List Nat, ∃ gs, Reads codes gs
  | [] => ⟨[], by simp, fun l o => by simp [pgsLoop_nil], fun _ => rfl⟩
  | c :: rest => by
    -- the calls below are on tails found by `match … rfl`: the bound is what shows them to be smaller
    have ih : ∀ r : List Nat, r.length ≤ rest.length → ∃ gs, Reads r gs := fun r _ => reads_exists r
    by_cases hc : IsExt c
    · obtain ⟨g, hg⟩ := specEffect_of_extCode hc
      by_cases h5 : rest.head? = some 5
      · match rest, h5 with
        | [_], rfl =>
          exact ⟨[], by simp, fun l o => by
            simpa using loop_group_short (args := []) hc (.inl ⟨rfl, Nat.zero_lt_one⟩) l o,
            fun st => (feed_nil st).trans (feed_ext5_end hg st).symm⟩
        | _ :: n :: rest2, rfl =>
          obtain ⟨gs, ih⟩ := ih rest2 (by simp only [List.length_cons]; omega)
          by_cases hn : n ≤ 255
          · exact ⟨_, reads_keep (.idx c n hc hn) ih⟩
          · exact ⟨_, reads_drop (pre := [c, 5, n])
              (fun l o => ⟨0, (loop_group (args := [n]) hc (.inl ⟨rfl, rfl⟩) (ints rest2) l o).trans (by simp [hn])⟩)
              (fun st => (feed_ext5 hg st n _).trans (by rw [if_neg hn]; rfl)) ih⟩
      · by_cases h2 : rest.head? = some 2
        · match rest, h2 with
          | _ :: r :: gr :: b :: rest2, rfl =>
            obtain ⟨gs, ih⟩ := ih rest2 (by simp only [List.length_cons]; omega)
            by_cases hn : r ≤ 255 ∧ gr ≤ 255 ∧ b ≤ 255
            · exact ⟨_, reads_keep (.rgb c r gr b hc hn.1 hn.2.1 hn.2.2) ih⟩
            · exact ⟨_, reads_drop (pre := [c, 2, r, gr, b])
                (fun l o => ⟨0, (loop_group (args := [r, gr, b]) hc (.inr ⟨rfl, rfl⟩) (ints rest2) l o).trans (by simp [hn])⟩)
                (fun st => (feed_ext2 hg st r gr b _).trans (by rw [if_neg hn]; rfl)) ih⟩
          | [_], rfl | [_, _], rfl | [_, _, _], rfl =>
            refine ⟨[], by simp, fun l o => ?_, fun st => ?_⟩
            · exact (loop_group_short hc (.inr ⟨rfl, by simp⟩) l o).trans (List.append_nil o).symm
            · exact (feed_nil st).trans (feed_ext2_short hg st _ (by simp)).symm
        · obtain ⟨gs, ih⟩ := ih rest (Nat.le_refl _)
          exact ⟨gs, reads_drop (pre := [c]) (fun l o => ⟨l, loop_skip hc _ (ints_head h5) (ints_head h2) l o⟩)
            (fun st => feed_ext_other hg st _ (somes_head h5) (somes_head h2)) ih⟩
    · obtain ⟨gs, ih⟩ := ih rest (Nat.le_refl _)
      exact ⟨_, reads_keep (.single c (fun e => hc (.inl e)) (fun e => hc (.inr (.inl e)))
        (fun e => hc (.inr (.inr e)))) ih⟩
termination_by codes => codes.length
decreasing_by simp only [List.length_cons]; omega

/-! ## `add_erroneous=True`: every token survives -/

theorem intStr_noSemi (v : Int) : ∀ c ∈ Py.intStr v, c ≠ ';' := by
  intro c hc
  unfold Py.intStr at hc
  split at hc
  · rcases List.mem_cons.1 hc with rfl | hc
    · decide
    · exact natStr_noSemi _ c hc
  · exact natStr_noSemi _ c hc

theorem split_joinInts {cur : List Int} (h : cur ≠ []) :
    Py.splitOnChar ';' (joinInts cur) = cur.map Py.intStr := by
  unfold joinInts semi
  apply splitOnChar_joinSep
  · simpa using h
  · intro a ha
    obtain ⟨n, _, rfl⟩ := List.mem_map.1 ha
    exact intStr_noSemi n

/-- the tokens a loop state holds: those of the finished settings, then the open group -/
def tokens (st : PgsSt) : List Str := st.out.flatMap (Py.splitOnChar ';') ++ st.cur.map Py.intStr

theorem loop_true_step (v : Int) (rest : List Code) (st : PgsSt) :
    ∃ st1, pgsLoop true (Code.int v :: rest) st = pgsLoop true rest st1 ∧
      tokens st1 = tokens st ++ [Py.intStr v] := by
  rw [pgsLoop]
  simp only [Bool.not_true, Bool.false_eq_true, and_false, if_false]
  split
  -- with `add_erroneous=True` the `continue` is never taken
  · rename_i h; split at h <;> cases h
  · split <;> exact ⟨_, rfl, by simp [tokens, split_joinInts]⟩


theorem loop_true_tokens (codes : List Nat) : ∀ st : PgsSt,
    tokens (pgsLoop true (ints codes) st) = tokens st ++ codes.map Py.natStr := by
  induction codes with
  | nil => intro st; simp [pgsLoop_nil]
  | cons c rest ih =>
    intro st
    obtain ⟨st1, h1, h2⟩ := loop_true_step (c : Int) (ints rest) st
    have e : ints (c :: rest) = Code.int (c : Int) :: ints rest := rfl
    rw [e, h1, ih, h2, intStr_natCast]
    simp

theorem pgsItems_true_tokens (codes : List Nat) :
    (pgsItems (ints codes) true).flatMap (Py.splitOnChar ';') = codes.map Py.natStr := by
  have h := loop_true_tokens codes {}
  simp only [tokens] at h
  unfold pgsItems
  simp only [and_true]
  cases hc : (pgsLoop true (ints codes) {}).cur with
  | nil => rw [hc] at h; simpa using h
  | cons a t =>
    rw [hc] at h
    simp only [List.isEmpty_cons, Bool.not_false, if_true, List.flatMap_append, List.flatMap_cons,
      List.flatMap_nil, List.append_nil]
    rw [split_joinInts (by simp)]
    exact h

theorem pgsItemsOfList_ints (l : List Nat) : pgsItemsOfList (ints l) = ints l := by
  simp [pgsItemsOfList, ints, List.map_map, Function.comp_def]

theorem pgsList_ints {codes : List Nat} (h : codes ≠ []) (b : Bool) :
    pgsList (ints codes) b = pgsItems (ints codes) b := by
  have : (ints codes).isEmpty = false := by cases codes <;> simp_all [ints]
  simp [pgsList, this, pgsItemsOfList_ints]

theorem pgsItems_false {codes : List Nat} {gs : List (List Nat)} (h : Reads codes gs) :
    pgsItems (ints codes) false = gs.map joinNats := by
  unfold pgsItems
  simp only [Bool.false_eq_true, and_false, if_false]
  simpa using h.2.1 0 []

theorem pgsItemsOfStr_joinNats {codes : List Nat} (h : codes ≠ []) :
    pgsItemsOfStr (joinNats codes) = ints codes := by
  rw [pgsItemsOfStr, split_joinNats h, List.map_map]
  apply List.map_congr_left
  intro n _
  have hs := natStr_spec n
  simp [strip_digits hs.2.1, int_natStr]

theorem joinNats_ne_nil {codes : List Nat} (h : codes ≠ []) : joinNats codes ≠ [] := by
  intro e
  have := split_joinNats h
  rw [e] at this
  match codes, h with
  | c :: rest, _ =>
    simp [Py.splitOnChar] at this
    exact (natStr_spec c).1 this.1

theorem pgsStr_joinNats {codes : List Nat} (h : codes ≠ []) (b : Bool) :
    pgsStr (joinNats codes) b = pgsList (ints codes) b := by
  have : (joinNats codes).isEmpty = false := by
    simpa [List.isEmpty_iff] using joinNats_ne_nil h
  rw [pgsList_ints h, pgsStr, this]
  simp [pgsItemsOfStr_joinNats h]

theorem codesOf_groups (gs : List (List Nat)) (h : ∀ g ∈ gs, g ≠ []) :
    codesOf ((gs.map joinNats).map (fun t => (⟨0, t⟩ : Setting))) = gs.flatten.map some := by
  induction gs with
  | nil => rfl
  | cons g gs ih =>
    simp only [List.map_cons, codesOf_cons, List.flatten_cons, List.map_append]
    rw [params_joinNats (h g (by simp)), ih (fun x hx => h x (by simp [hx]))]


end Eff
