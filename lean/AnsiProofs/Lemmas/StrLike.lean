import AnsiProofs.Props.C04
import AnsiProofs.Props.C05
import AnsiProofs.Props.C06
import AnsiProofs.Props.C07
/-
  Helper lemmas for property C10 (the str-like methods): the TEXT (`.s`) of slices with natural
  bounds (the general facts are C04–C07), the CPython primitives of `AnsiModel/PyStr.lean`
  (`startsWith`, `findFrom`, `occurrences`) in terms of core `List` notions, the offsets `_split`
  recovers by `find`, and (namespace `PiecesL`, at the end) the layouts
  `g₀ ++ p₀ ++ g₁ ++ p₁ ++ … ++ tail` of the pieces of `str.split(None)`, `str.rsplit(None)` and
  `str.splitlines`, from which it follows that these pieces lie in the text in order.
-/

namespace StrLikeL

/-! ## text of slices with natural bounds -/

theorem pySlice_eq (s : Str) (a b : Nat) : pySlice s a b = (s.take b).drop a := rfl

theorem sliceIdx_ofNat (n k d : Nat) : sliceIdx n (some (k : Int)) d = min k n := by
  simp only [sliceIdx]
  rw [if_neg (by omega), Int.toNat_natCast]

theorem sliceIdx_negNat (n k d : Nat) (hk : 0 < k) : sliceIdx n (some (-(k : Int))) d = n - k := by
  simp only [sliceIdx]
  rw [if_pos (by omega), ← Int.sub_eq_add_neg, Int.toNat_sub]

theorem drop_min {α : Type} (l : List α) (a n : Nat) (h : l.length ≤ n) :
    l.drop (min a n) = l.drop a := by
  by_cases ha : a ≤ n
  · rw [Nat.min_eq_left ha]
  · rw [Nat.min_eq_right (by omega), List.drop_of_length_le h, List.drop_of_length_le (by omega)]

theorem pySlice_min (s : Str) (a b : Nat) :
    pySlice s (min a s.length) (min b s.length) = (s.take b).drop a := by
  have : s.take (min b s.length) = s.take b :=
    List.take_eq_take_iff.mpr (by rw [Nat.min_assoc, Nat.min_self])
  rw [pySlice_eq, this]
  exact drop_min _ _ _ (List.length_take_le' ..)

theorem getSlice_nat_s (x : AStr) (a b : Nat) :
    (x.getSlice (some (a : Int)) (some (b : Int))).s = (x.s.take b).drop a := by
  rw [C04.getSlice_text, sliceIdx_ofNat, sliceIdx_ofNat]
  exact pySlice_min x.s a b

theorem getSlice_from_s (x : AStr) (a : Nat) : (x.getSlice (some (a : Int)) none).s = x.s.drop a := by
  rw [C04.getSlice_text, sliceIdx_ofNat]
  have := pySlice_min x.s a x.s.length
  rwa [Nat.min_self, List.take_length] at this

theorem getSlice_to_s (x : AStr) (b : Nat) : (x.getSlice none (some (b : Int))).s = x.s.take b := by
  rw [C04.getSlice_text, sliceIdx_ofNat]
  exact pySlice_min x.s 0 b

theorem getSlice_negstop_s (x : AStr) (a : Option Int) (r : Nat) (hr : 0 < r) :
    (x.getSlice a (some (-(r : Int)))).s =
      (x.s.take (x.s.length - r)).drop (sliceIdx x.len a 0) := by
  rw [C04.getSlice_text, sliceIdx_negNat _ _ _ hr, pySlice_eq]
  rfl

/-! ## `startswith` / `endswith` are the core prefix / suffix tests -/

theorem startsWith_eq (s p : Str) : Py.startsWith s p = p.isPrefixOf s := by
  induction p generalizing s with
  | nil => cases s <;> simp [Py.startsWith]
  | cons d p ih =>
    cases s with
    | nil => simp [Py.startsWith]
    | cons c s =>
      simp only [Py.startsWith, List.isPrefixOf, ih]
      congr 1
      rcases Decidable.em (c = d) with h | h
      · subst h; rfl
      · rw [beq_false_of_ne h, beq_false_of_ne (Ne.symm h)]

theorem endsWith_eq (s p : Str) : Py.endsWith s p = p.isSuffixOf s := by
  simp [Py.endsWith, startsWith_eq, List.isSuffixOf]

theorem startsWith_iff (s p : Str) : Py.startsWith s p = true ↔ ∃ t, s = p ++ t := by
  rw [startsWith_eq, List.isPrefixOf_iff_prefix]
  constructor
  · rintro ⟨t, h⟩; exact ⟨t, h.symm⟩
  · rintro ⟨t, h⟩; exact ⟨t, h.symm⟩

/-! ## strip -/

theorem take_sub_reverse_takeWhile (p : Char → Bool) (s : Str) :
    s.take (s.length - (s.reverse.takeWhile p).length) = (s.reverse.dropWhile p).reverse := by
  have h := List.takeWhile_append_dropWhile (p := p) (l := s.reverse)
  have hs : s = (s.reverse.dropWhile p).reverse ++ (s.reverse.takeWhile p).reverse := by
    rw [← List.reverse_append, h, List.reverse_reverse]
  have hl : s.length - (s.reverse.takeWhile p).length = ((s.reverse.dropWhile p).reverse).length := by
    have := congrArg List.length hs
    simp only [List.length_append, List.length_reverse] at this ⊢
    omega
  rw [hl]
  conv => lhs; arg 2; rw [hs]
  exact List.take_left' rfl

/-- when the left strip does not consume everything, the right strip counts the same on the
    stripped and the unstripped text -/
theorem reverse_takeWhile_dropWhile (p : Char → Bool) (s : Str)
    (h : (s.takeWhile p).length < s.length) :
    (s.dropWhile p).reverse.takeWhile p = s.reverse.takeWhile p := by
  have hsplit := List.takeWhile_append_dropWhile (p := p) (l := s)
  cases hd : s.dropWhile p with
  | nil =>
    rw [hd, List.append_nil] at hsplit
    rw [hsplit] at h
    omega
  | cons c d =>
    have hc : p c = false := by
      have := List.head_dropWhile_not p (l := s) (by rw [hd]; simp)
      simpa [hd] using this
    have hs : s.reverse = d.reverse ++ c :: (s.takeWhile p).reverse := by
      have : s.reverse = (s.takeWhile p ++ s.dropWhile p).reverse := by rw [hsplit]
      rw [this, hd]
      simp
    rw [hs, List.reverse_cons]
    rw [List.takeWhile_append, List.takeWhile_append]
    simp only [List.length_reverse]
    by_cases hall : (d.reverse.takeWhile p).length = d.length
    · simp [hall, hc]
    · simp [hall]

/-- the number of characters `_strip` removes on the left -/
def lcount (x : AStr) (chars : Option Str) (doL : Bool) : Nat :=
  if doL then (x.s.takeWhile (fun c => (chars.getD Gen.whitespaceChars).contains c)).length else 0

/-- … and on the right: counted on the whole text, and only if the left count has not used it up -/
def rcount (x : AStr) (chars : Option Str) (doL doR : Bool) : Nat :=
  if doR ∧ lcount x chars doL < x.len then
    (x.s.reverse.takeWhile (fun c => (chars.getD Gen.whitespaceChars).contains c)).length
  else 0

theorem lcount_le (x : AStr) (chars : Option Str) (doL : Bool) : lcount x chars doL ≤ x.len := by
  unfold lcount
  split
  · exact (List.takeWhile_sublist _).length_le
  · exact Nat.zero_le _

theorem lcount_lt_of_rcount {x : AStr} {chars : Option Str} {doL doR : Bool}
    (h : rcount x chars doL doR ≠ 0) : lcount x chars doL < x.len := by
  unfold rcount at h
  split at h
  · rename_i hc
    exact hc.2
  · exact absurd rfl h

/-- the shape of `_strip`: either the receiver itself (only `inplace`, nothing to strip) or the
    slice `x[lcount:-rcount]` (`x[lcount:]` when `rcount = 0`) -/
theorem stripGen_shape (x : AStr) (chars : Option Str) (doL doR ip : Bool) :
    x.stripGen chars doL doR ip =
      if ip = true ∧ lcount x chars doL = 0 ∧ rcount x chars doL doR = 0 then x
      else x.getSlice (some (lcount x chars doL : Int))
        (if rcount x chars doL doR = 0 then none else some (-(rcount x chars doL doR : Int))) := by
  unfold AStr.stripGen rcount lcount
  simp only []
  generalize (if doL = true then _ else 0) = l
  generalize (List.takeWhile _ x.s.reverse).length = r
  by_cases hc : doR = true ∧ l < x.len
  · rw [if_pos hc, if_pos hc]
    by_cases hr : r = 0
    · simp [hr]
    · simp [hr]
  · rw [if_neg hc, if_neg hc]
    simp

theorem stripGen_cases (x : AStr) (chars : Option Str) (doL doR ip : Bool) :
    (x.stripGen chars doL doR ip = x ∧ lcount x chars doL = 0 ∧ rcount x chars doL doR = 0) ∨
    x.stripGen chars doL doR ip = x.getSlice (some (lcount x chars doL : Int))
        (if rcount x chars doL doR = 0 then none else some (-(rcount x chars doL doR : Int))) ∧
      ¬ (ip = true ∧ lcount x chars doL = 0 ∧ rcount x chars doL doR = 0) := by
  rw [stripGen_shape]
  split
  · rename_i h
    exact Or.inl ⟨rfl, h.2⟩
  · rename_i h
    exact Or.inr ⟨rfl, h⟩

theorem stripGen_take_drop (x : AStr) (chars : Option Str) (doL doR ip : Bool) :
    (x.stripGen chars doL doR ip).s =
      (x.s.take (x.s.length - rcount x chars doL doR)).drop (lcount x chars doL) := by
  rcases stripGen_cases x chars doL doR ip with ⟨e, hl, hr⟩ | ⟨e, -⟩
  · rw [e, hl, hr, Nat.sub_zero, List.take_length, List.drop_zero]
  · rw [e]
    by_cases hr : rcount x chars doL doR = 0
    · rw [if_pos hr, hr, getSlice_from_s, Nat.sub_zero, List.take_length]
    · rw [if_neg hr, getSlice_negstop_s _ _ _ (Nat.pos_of_ne_zero hr), sliceIdx_ofNat,
        Nat.min_eq_left (lcount_le ..)]

/-- the text `_strip` leaves.  The code counts the right side on the whole text, and only if the left count
    has not used it up; then the trailing run of what the left strip leaves is that of the whole text
    (`reverse_takeWhile_dropWhile`), so the two counts describe `rstrip ∘ lstrip` -/
theorem stripGen_s (x : AStr) (chars : Option Str) (doL doR ip : Bool) :
    (x.stripGen chars doL doR ip).s =
      (if doR then fun s : Str => (s.reverse.dropWhile (fun c => (chars.getD Gen.whitespaceChars).contains c)).reverse else id)
        ((if doL then fun s : Str => s.dropWhile (fun c => (chars.getD Gen.whitespaceChars).contains c) else id) x.s) := by
  rw [stripGen_take_drop, List.drop_take]
  unfold rcount lcount AStr.len
  generalize (fun c => (chars.getD Gen.whitespaceChars).contains c) = p
  have h1 : x.s.drop (if doL = true then (x.s.takeWhile p).length else 0) =
      (if doL = true then fun s => List.dropWhile p s else id) x.s := by
    cases doL <;> simp [drop_takeWhile_length]
  have h2 : (if doL = true then (x.s.takeWhile p).length else 0) < x.s.length →
      ((if doL = true then fun s => List.dropWhile p s else id) x.s).reverse.takeWhile p =
        x.s.reverse.takeWhile p := by
    cases doL
    · simp
    · intro h; exact reverse_takeWhile_dropWhile p x.s (by simpa using h)
  have hlen := congrArg List.length h1
  rw [List.length_drop] at hlen
  rw [h1]
  generalize (if doL = true then (List.takeWhile p x.s).length else 0) = l at h2 hlen ⊢
  generalize ((if doL = true then fun s => List.dropWhile p s else id) x.s) = t at h2 hlen ⊢
  by_cases hc : doR = true ∧ l < x.s.length
  · rw [if_pos hc, if_pos hc.1, ← h2 hc.2]
    show _ = (t.reverse.dropWhile p).reverse
    rw [← take_sub_reverse_takeWhile, ← hlen]
    congr 1
    omega
  · rw [if_neg hc, Nat.sub_zero, hlen, List.take_length]
    cases doR
    · rfl
    · have : t = [] := List.eq_nil_of_length_eq_zero (by rw [← hlen]; simp at hc; omega)
      subst this
      rfl

/-! ## `find` / `rfind`: first / last position where `sub` is a prefix of the rest -/

theorem findFrom_nil (sub : Str) (pos from_ : Nat) :
    Py.findFrom [] sub pos from_ = if pos ≥ from_ ∧ sub.isEmpty then some pos else none := by
  rw [Py.findFrom]

theorem findFrom_cons (c : Char) (rest sub : Str) (pos from_ : Nat) :
    Py.findFrom (c :: rest) sub pos from_ =
      if pos ≥ from_ ∧ sub.isPrefixOf (c :: rest) then some pos
      else Py.findFrom rest sub (pos + 1) from_ := by
  rw [Py.findFrom, startsWith_eq]

/-- what `findFrom` returns: the first occurrence at or after `from_` (positions are counted from
    `pos`), or the fact that there is none -/
theorem findFrom_spec (s sub : Str) (pos from_ : Nat) :
    match Py.findFrom s sub pos from_ with
    | some r => ∃ j, r = pos + j ∧ j ≤ s.length ∧ from_ ≤ pos + j ∧ sub.isPrefixOf (s.drop j) = true ∧
        ∀ i < j, from_ ≤ pos + i → sub.isPrefixOf (s.drop i) = false
    | none => ∀ j ≤ s.length, from_ ≤ pos + j → sub.isPrefixOf (s.drop j) = false := by
  induction s generalizing pos with
  | nil =>
    rw [findFrom_nil]
    by_cases h : pos ≥ from_ ∧ sub.isEmpty = true
    · rw [if_pos h]
      exact ⟨0, rfl, Nat.le_refl _, h.1, by simpa using h.2, nofun⟩
    · rw [if_neg h]
      intro j hj hf
      obtain rfl : j = 0 := Nat.le_zero.mp hj
      cases sub with
      | nil => exact absurd ⟨hf, rfl⟩ h
      | cons _ _ => rfl
  | cons c rest ih =>
    rw [findFrom_cons]
    by_cases h : pos ≥ from_ ∧ sub.isPrefixOf (c :: rest) = true
    · rw [if_pos h]
      exact ⟨0, rfl, Nat.zero_le _, h.1, h.2, nofun⟩
    · rw [if_neg h]
      have h0 : from_ ≤ pos + 0 → sub.isPrefixOf ((c :: rest).drop 0) = false :=
        fun hf => Bool.eq_false_iff.mpr (fun hp => h ⟨hf, hp⟩)
      have := ih (pos + 1)
      split at this
      · obtain ⟨j, hr, hj, hf, hp, hall⟩ := this
        rw [Nat.add_right_comm] at hr hf
        refine ⟨j + 1, hr, Nat.succ_le_succ hj, hf, hp, ?_⟩
        rw [Nat.forall_lt_succ_left]
        exact ⟨h0, fun i hi hfi => hall i hi (Nat.add_right_comm .. ▸ hfi)⟩
      · intro j hj hf
        cases j with
        | zero => exact h0 hf
        | succ j => exact this j (Nat.le_of_succ_le_succ hj) (Nat.add_right_comm .. ▸ hf)

theorem findFrom_append_skip (a b sub : Str) (pos from_ : Nat) (h : pos + a.length ≤ from_) :
    Py.findFrom (a ++ b) sub pos from_ = Py.findFrom b sub (pos + a.length) from_ := by
  induction a generalizing pos with
  | nil => rfl
  | cons c a ih =>
    simp only [List.length_cons] at h
    rw [List.cons_append, findFrom_cons, if_neg (by omega), ih (pos + 1) (by omega)]
    congr 1
    simp only [List.length_cons]; omega

theorem findFrom_shift (s sub : Str) (pos from_ d : Nat) :
    Py.findFrom s sub (pos + d) (from_ + d) = (Py.findFrom s sub pos from_).map (· + d) := by
  induction s generalizing pos with
  | nil =>
    rw [findFrom_nil, findFrom_nil]
    simp only [ge_iff_le, Nat.add_le_add_iff_right]
    split
    · rfl
    · rfl
  | cons c rest ih =>
    rw [findFrom_cons, findFrom_cons, Nat.add_right_comm, ih]
    simp only [ge_iff_le, Nat.add_le_add_iff_right]
    split
    · rfl
    · rfl

theorem find_append_skip (a b sub : Str) (k : Nat) :
    Py.find (a ++ b) sub (a.length + k) = (Py.find b sub k).map (· + a.length) := by
  unfold Py.find
  rw [findFrom_append_skip a b sub 0 _ (by omega)]
  have := findFrom_shift b sub 0 k a.length
  rw [Nat.add_comm k] at this
  exact this

theorem occurrences_nil (sub : Str) (pos : Nat) :
    Py.occurrences [] sub pos = if sub.isEmpty then [pos] else [] := by rw [Py.occurrences]

theorem occurrences_cons (c : Char) (rest sub : Str) (pos : Nat) :
    Py.occurrences (c :: rest) sub pos =
      if sub.isPrefixOf (c :: rest) then pos :: Py.occurrences rest sub (pos + 1)
      else Py.occurrences rest sub (pos + 1) := by
  rw [Py.occurrences, startsWith_eq]

theorem mem_occurrences (s sub : Str) (pos r : Nat) :
    r ∈ Py.occurrences s sub pos ↔
      ∃ j, r = pos + j ∧ j ≤ s.length ∧ sub.isPrefixOf (s.drop j) = true := by
  induction s generalizing pos with
  | nil =>
    rw [occurrences_nil]
    cases sub with
    | nil => simp
    | cons d sub => simp
  | cons c rest ih =>
    have hrest : r ∈ Py.occurrences rest sub (pos + 1) ↔
        ∃ j, r = pos + (j + 1) ∧ j + 1 ≤ (c :: rest).length ∧
          sub.isPrefixOf ((c :: rest).drop (j + 1)) = true := by
      simp only [ih, Nat.add_assoc, Nat.add_comm 1, List.length_cons, Nat.add_le_add_iff_right,
        List.drop_succ_cons]
    rw [occurrences_cons, ← Nat.or_exists_add_one, ← hrest]
    by_cases hp : sub.isPrefixOf (c :: rest) = true
    · rw [if_pos hp, List.mem_cons]
      simp [hp]
    · rw [if_neg hp]
      simp [hp]

theorem occurrences_sorted (s sub : Str) (pos : Nat) :
    (Py.occurrences s sub pos).Pairwise (· < ·) := by
  induction s generalizing pos with
  | nil => rw [occurrences_nil]; split <;> simp
  | cons c rest ih =>
    rw [occurrences_cons]
    split
    · rw [List.pairwise_cons]
      refine ⟨?_, ih _⟩
      intro r hr
      obtain ⟨j, hj, -⟩ := (mem_occurrences _ _ _ _).mp hr
      omega
    · exact ih _

theorem getLast?_sorted {l : List Nat} (h : l.Pairwise (· < ·)) (r : Nat) :
    l.getLast? = some r ↔ r ∈ l ∧ ∀ y ∈ l, y ≤ r := by
  constructor
  · intro hl
    obtain ⟨l', rfl⟩ := List.getLast?_eq_some_iff.mp hl
    rw [List.pairwise_append] at h
    refine ⟨by simp, ?_⟩
    intro y hy
    rcases List.mem_append.mp hy with hy | hy
    · exact Nat.le_of_lt (h.2.2 y hy r (by simp))
    · simp at hy; omega
  · rintro ⟨hr, hmax⟩
    cases hl : l.getLast? with
    | none => rw [List.getLast?_eq_none_iff] at hl; subst hl; cases hr
    | some z =>
      obtain ⟨l', rfl⟩ := List.getLast?_eq_some_iff.mp hl
      rw [List.pairwise_append] at h
      have hz := hmax z (by simp)
      rcases List.mem_append.mp hr with hr | hr
      · have := h.2.2 r hr z (by simp); omega
      · simp at hr; rw [hr]

theorem mem_occurrences_zero (s sub : Str) (r : Nat) :
    r ∈ Py.occurrences s sub 0 ↔ r ≤ s.length ∧ sub.isPrefixOf (s.drop r) = true := by
  simp only [mem_occurrences, Nat.zero_add, exists_eq_left']

theorem rfind_some_iff (s sub : Str) (r : Nat) :
    Py.rfind s sub = some r ↔
      r ≤ s.length ∧ sub.isPrefixOf (s.drop r) = true ∧
        ∀ i, r < i → i ≤ s.length → sub.isPrefixOf (s.drop i) = false := by
  unfold Py.rfind
  rw [getLast?_sorted (occurrences_sorted s sub 0)]
  simp only [mem_occurrences_zero]
  constructor
  · rintro ⟨⟨hr, hp⟩, hmax⟩
    exact ⟨hr, hp, fun i hi hil => Bool.eq_false_iff.mpr fun hb =>
      absurd (hmax i ⟨hil, hb⟩) (Nat.not_le_of_gt hi)⟩
  · rintro ⟨hr, hp, hall⟩
    refine ⟨⟨hr, hp⟩, fun y hy => Nat.le_of_not_lt fun hlt => ?_⟩
    rw [hall y hlt hy.1] at hy
    cases hy.2

theorem rfind_none_iff (s sub : Str) :
    Py.rfind s sub = none ↔ ∀ i, i ≤ s.length → sub.isPrefixOf (s.drop i) = false := by
  unfold Py.rfind
  rw [List.getLast?_eq_none_iff, List.eq_nil_iff_forall_not_mem]
  simp only [mem_occurrences_zero, not_and, Bool.not_eq_true]
theorem find_spec (s sub : Str) (st : Nat) :
    match Py.find s sub st with
    | some r => r ≤ s.length ∧ st ≤ r ∧ sub.isPrefixOf (s.drop r) = true ∧
        ∀ i < r, st ≤ i → sub.isPrefixOf (s.drop i) = false
    | none => ∀ j ≤ s.length, st ≤ j → sub.isPrefixOf (s.drop j) = false := by
  have := findFrom_spec s sub 0 st
  simp only [Nat.zero_add] at this
  unfold Py.find
  split at this
  · obtain ⟨j, rfl, h⟩ := this
    exact h
  · exact this

theorem find_some_iff (s sub : Str) (st r : Nat) :
    Py.find s sub st = some r ↔
      r ≤ s.length ∧ st ≤ r ∧ sub.isPrefixOf (s.drop r) = true ∧
        ∀ i < r, st ≤ i → sub.isPrefixOf (s.drop i) = false := by
  have := find_spec s sub st
  constructor
  · intro h
    rwa [h] at this
  · rintro ⟨hr, hs, hp, hall⟩
    split at this
    · rename_i j hj
      obtain ⟨-, hs', hp', hall'⟩ := this
      rw [hj]
      congr 1
      -- two first occurrences coincide
      rcases Nat.lt_trichotomy j r with hlt | heq | hgt
      · rw [hall j hlt hs'] at hp'; cases hp'
      · exact heq
      · rw [hall' r hgt hs] at hp; cases hp
    · rw [this r hr hs] at hp; cases hp

theorem find_none_iff (s sub : Str) (st : Nat) :
    Py.find s sub st = none ↔ ∀ i, i ≤ s.length → st ≤ i → sub.isPrefixOf (s.drop i) = false := by
  have := find_spec s sub st
  constructor
  · intro h
    rwa [h] at this
  · intro h
    split at this
    · rw [h _ this.1 this.2.1] at this; cases this.2.2.1
    · assumption

theorem find_of_match (s sub : Str) (st k : Nat) (hk : k ≤ s.length) (hs : st ≤ k)
    (hp : sub.isPrefixOf (s.drop k) = true) :
    ∃ j, Py.find s sub st = some j ∧ st ≤ j ∧ j ≤ k ∧ sub.isPrefixOf (s.drop j) = true := by
  have := find_spec s sub st
  split at this
  · rename_i j hj
    refine ⟨j, hj, this.2.1, Nat.le_of_not_lt fun hlt => ?_, this.2.2.1⟩
    rw [this.2.2.2 k hlt hs] at hp; cases hp
  · rw [this k hk hs] at hp; cases hp

theorem find_at (s sub : Str) (k : Nat) (hk : k ≤ s.length) (hp : sub.isPrefixOf (s.drop k) = true) :
    Py.find s sub k = some k := by
  obtain ⟨j, hf, h1, h2, -⟩ := find_of_match s sub k k hk (Nat.le_refl _) hp
  have : j = k := by omega
  rw [hf, this]

theorem find_empty (s : Str) (k : Nat) :
    Py.find s [] k = if k ≤ s.length then some k else none := by
  by_cases h : k ≤ s.length
  · rw [if_pos h]; exact find_at s [] k h (by simp)
  · rw [if_neg h, find_none_iff]
    intro i hi hs; omega

theorem take_decomp {α : Type} (a b c : List α) : (a ++ b ++ c).take a.length = a := by
  rw [List.append_assoc]
  exact List.take_left' rfl

theorem drop_decomp {α : Type} (a b c : List α) : (a ++ b ++ c).drop (a.length + b.length) = c :=
  List.drop_left' List.length_append

theorem occ_decomp (s sub : Str) (i : Nat) (hp : sub.isPrefixOf (s.drop i) = true) :
    s = s.take i ++ sub ++ s.drop (i + sub.length) := by
  obtain ⟨t, ht⟩ := List.isPrefixOf_iff_prefix.mp hp
  have h2 : s.drop (i + sub.length) = t := by
    rw [← List.drop_drop, ← ht]
    exact List.drop_left
  rw [h2, List.append_assoc, ht, List.take_append_drop]

theorem find_zero_decomp {s sub : Str} {k : Nat} (h : Py.find s sub 0 = some k) :
    ∃ pre post, s = pre ++ sub ++ post ∧ pre.length = k ∧
      ∀ j < pre.length, sub.isPrefixOf (s.drop j) = false := by
  obtain ⟨hk, -, hocc, hfirst⟩ := (find_some_iff _ _ _ _).mp h
  have hlen : (s.take k).length = k := List.length_take_of_le hk
  exact ⟨s.take k, s.drop (k + sub.length), occ_decomp s sub k hocc, hlen,
    fun j hj => hfirst j (hlen ▸ hj) (Nat.zero_le _)⟩

theorem occ_of_decomp (pre sub post : Str) :
    sub.isPrefixOf ((pre ++ sub ++ post).drop pre.length) = true := by
  rw [List.append_assoc, List.drop_left]
  exact List.isPrefixOf_iff_prefix.mpr ⟨post, rfl⟩

theorem take_drop_occ (s sub : Str) (i : Nat) (hp : sub.isPrefixOf (s.drop i) = true) :
    (s.take (i + sub.length)).drop i = sub := by
  obtain ⟨t, ht⟩ := List.isPrefixOf_iff_prefix.mp hp
  rw [List.drop_take, ← ht]
  simp

theorem occ_of_eq {s b sub a : Str} (h : s = b ++ sub ++ a) :
    b.length ≤ s.length ∧ sub.isPrefixOf (s.drop b.length) = true := by
  subst h
  exact ⟨by rw [List.append_assoc, List.length_append]; exact Nat.le_add_right .., occ_of_decomp b sub a⟩

theorem find_zero_of_decomp {s b sub a : Str} (h : s = b ++ sub ++ a)
    (hfirst : ∀ j, j < b.length → sub.isPrefixOf (s.drop j) = false) :
    Py.find s sub 0 = some b.length :=
  (find_some_iff ..).mpr ⟨(occ_of_eq h).1, Nat.zero_le _, (occ_of_eq h).2, fun j hj _ => hfirst j hj⟩

theorem rfind_of_decomp {s b sub a : Str} (h : s = b ++ sub ++ a)
    (hlast : ∀ j, b.length < j → j ≤ s.length → sub.isPrefixOf (s.drop j) = false) :
    Py.rfind s sub = some b.length :=
  (rfind_some_iff ..).mpr ⟨(occ_of_eq h).1, (occ_of_eq h).2, hlast⟩

theorem partitionGen_some (x : AStr) (sep : Str) (r : Bool) (b a : Str) (hs : x.s = b ++ sep ++ a)
    (h : (if r then Py.rfind x.s sep else Py.find x.s sep 0) = some b.length) :
    ((x.partitionGen sep r).1.s, (x.partitionGen sep r).2.1.s, (x.partitionGen sep r).2.2.s) =
      (b, sep, a) := by
  unfold AStr.partitionGen
  rw [h]
  dsimp only
  rw [show (some (0 : Int)) = some ((0 : Nat) : Int) from rfl, getSlice_nat_s, getSlice_nat_s,
    getSlice_from_s, hs, drop_decomp, take_decomp, List.drop_zero,
    List.take_left' List.length_append, List.drop_left]

theorem partitionGen_none (x : AStr) (sep : Str) (r : Bool)
    (h : (if r then Py.rfind x.s sep else Py.find x.s sep 0) = none) :
    x.partitionGen sep r = (x, {}, {}) := by
  unfold AStr.partitionGen
  rw [h]

/-! ## `set_ansi_str` of a string without ESC -/

theorem tokLoop_noesc (ae : Bool) (acc : Option Str) (s : Str) (o : Parsed) (h : '\x1b' ∉ s) :
    tokLoop ae acc .text s o = { o with text := o.text ++ s } := by
  induction s generalizing o with
  | nil => simp [tokLoop]
  | cons c rest ih =>
    have hc : c ≠ '\x1b' := fun e => h (by simp [e])
    have hr : '\x1b' ∉ rest := fun e => h (by simp [e])
    rw [tokLoop]
    · rw [ih _ hr]; simp [Parsed.push]
    · intro rest' e
      exact absurd e hc

theorem tokenize_noesc (ae : Bool) (acc : Option Str) (s : Str) (h : '\x1b' ∉ s) :
    tokenize s ae acc = { text := s, seqs := [] } := by
  unfold tokenize
  rw [tokLoop_noesc ae acc s {} h]
  rfl

theorem setAnsiStep_s (a : AStr × PyDict × Nat) (key : Nat) (seq : CtlSeq) :
    (AStr.setAnsiStep a key seq).1.s = a.1.s := by
  obtain ⟨x, old, nid⟩ := a
  unfold AStr.setAnsiStep
  dsimp -zeta only
  split
  · rfl
  · extract_lets _ _ _ toRemove toApply x₁ x₂
    show x₂.s = x.s
    rw [apply_ite AStr.s, apply_text, ite_self, apply_ite AStr.s, remove_text, ite_self]

theorem setAnsi_s (raw : Str) (nid : Nat) :
    (AStr.setAnsi raw nid).1.s = (tokenize raw false (some Gen.sgrTerminator)).text := by
  unfold AStr.setAnsi
  simp only
  have inner : ∀ (k : Nat) (l : List CtlSeq) (a : AStr × PyDict × Nat),
      (l.foldl (fun acc sq => AStr.setAnsiStep acc k sq) a).1.s = a.1.s := by
    intro k l
    induction l with
    | nil => intro a; rfl
    | cons c l ih => intro a; rw [List.foldl_cons, ih, setAnsiStep_s]
  have outer : ∀ (l : List (Nat × List CtlSeq)) (a : AStr × PyDict × Nat),
      (l.foldl (fun acc kv => kv.2.foldl (fun acc sq => AStr.setAnsiStep acc kv.1 sq) acc) a).1.s
        = a.1.s := by
    intro l
    induction l with
    | nil => intro a; rfl
    | cons c l ih => intro a; rw [List.foldl_cons, ih, inner]
  rw [outer]

theorem setAnsi_plain (raw : Str) (nid : Nat) (h : '\x1b' ∉ raw) : (AStr.setAnsi raw nid).1.s = raw := by
  rw [setAnsi_s, tokenize_noesc _ _ _ h]

/-! ## the `replace` loop -/

/-- the value inserted for one match and the next fresh id (the `let (rep, nid')` of the model) -/
def repOf (new : AStr.Repl) (obj : AStr) (i nid : Nat) : AStr × Nat :=
  match new with
  | .astr v => (v, nid)
  | .str raw =>
    let r := AStr.setAnsi raw nid
    let act := obj.ansiSettingsAt i
    ((r.1.applyFormatting (freshSettings r.2 (texts act)) none none true), r.2 + act.length)

theorem replaceLoop_succ (old : Str) (new : AStr.Repl) (fuel : Nat) (obj : AStr) (count : Int)
    (i nid : Nat) :
    AStr.replaceLoop old new (fuel + 1) obj count (some i) nid =
      if count = 0 then obj
      else
        let obj' := ((obj.getSlice none (some i)).iadd (repOf new obj i nid).1).iadd
          (obj.getSlice (some ((i + old.length : Nat) : Int)) none)
        AStr.replaceLoop old new fuel obj' (if count > 0 then count - 1 else count)
          (Py.find obj'.s old (i + new.advance + (if old.isEmpty then 1 else 0)))
          (repOf new obj i nid).2 := by
  cases new <;> rfl

theorem replaceLoop_none (old : Str) (new : AStr.Repl) (fuel : Nat) (obj : AStr) (count : Int)
    (nid : Nat) : AStr.replaceLoop old new fuel obj count none nid = obj := by
  cases fuel <;> rfl

def replText : AStr.Repl → Str
  | .str raw => raw
  | .astr v => v.s

/-- a plain-`str` replacement must not contain ESC (it is parsed by `set_ansi_str`) -/
def ReplOk : AStr.Repl → Prop
  | .str raw => '\x1b' ∉ raw
  | .astr _ => True

theorem repOf_s (new : AStr.Repl) (h : ReplOk new) (obj : AStr) (i nid : Nat) :
    (repOf new obj i nid).1.s = replText new := by
  cases new with
  | astr v => rfl
  | str raw =>
    simp only [repOf, replText]
    rw [apply_text, setAnsi_plain raw nid h]

theorem advance_eq (new : AStr.Repl) (h : ReplOk new) : new.advance = (replText new).length := by
  cases new with
  | astr v => rfl
  | str raw =>
    simp only [AStr.Repl.advance, replText, AStr.len]
    rw [setAnsi_plain raw 0 h]

theorem step_s (old : Str) (new : AStr.Repl) (h : ReplOk new) (obj : AStr) (nid : Nat) (a post : Str)
    (hobj : obj.s = a ++ old ++ post) :
    (((obj.getSlice none (some a.length)).iadd (repOf new obj a.length nid).1).iadd
      (obj.getSlice (some ((a.length + old.length : Nat) : Int)) none)).s =
      a ++ replText new ++ post := by
  rw [C05.iadd_text, C05.iadd_text, getSlice_to_s, getSlice_from_s, repOf_s new h, hobj, take_decomp, drop_decomp]

/-! ## pieces: offset recovery by `find` -/

theorem piecesAt_s (x : AStr) (offs : List (Nat × Nat)) :
    (x.piecesAt offs).map (·.s) = offs.map (fun ol => (x.s.take (ol.1 + ol.2)).drop ol.1) := by
  unfold AStr.piecesAt
  rw [List.map_map]
  apply List.map_congr_left
  intro ol _
  exact getSlice_nat_s x ol.1 (ol.1 + ol.2)

/-- the pieces occur in `s` in this order, each at or after `idx` resp. `gap` behind the end of the
    previous one -/
def Occ (s : Str) (gap : Nat) : List Str → Nat → Prop
  | [], _ => True
  | p :: rest, idx =>
    ∃ t, idx ≤ t ∧ t ≤ s.length ∧ p.isPrefixOf (s.drop t) = true ∧ Occ s gap rest (t + p.length + gap)

theorem Occ_mono {s : Str} {gap : Nat} {ps : List Str} {idx idx' : Nat}
    (h : Occ s gap ps idx) (hle : idx' ≤ idx) : Occ s gap ps idx' := by
  cases ps with
  | nil => trivial
  | cons p rest =>
    obtain ⟨t, h1, h2, h3, h4⟩ := h
    exact ⟨t, by omega, h2, h3, h4⟩

/-- whatever offsets `find` recovers (possibly earlier than the true ones), the slices taken there
    are the pieces -/
theorem pieceOffsets_text (s : Str) (gap : Nat) (ps : List Str) (idx : Nat) (h : Occ s gap ps idx) :
    (AStr.pieceOffsets s gap ps idx).map (fun ol => (s.take (ol.1 + ol.2)).drop ol.1) = ps := by
  induction ps generalizing idx with
  | nil => rfl
  | cons p rest ih =>
    obtain ⟨t, h1, h2, h3, h4⟩ := h
    obtain ⟨j, hf, hj1, hj2, hpj⟩ := find_of_match s p idx t h2 h1 h3
    simp only [AStr.pieceOffsets, hf, Option.getD_some, List.map_cons]
    rw [take_drop_occ s p j hpj, ih _ (Occ_mono h4 (by omega))]

/-- the true offsets of pieces laid out with `gap` characters between them -/
def offsetsFrom (gap : Nat) : List Str → Nat → List (Nat × Nat)
  | [], _ => []
  | p :: rest, idx => (idx, p.length) :: offsetsFrom gap rest (idx + p.length + gap)

theorem pieceOffsets_cons (s : Str) (gap : Nat) (p : Str) (rest : List Str) (idx : Nat) :
    AStr.pieceOffsets s gap (p :: rest) idx =
      ((Py.find s p idx).getD 0, p.length) ::
        AStr.pieceOffsets s gap rest ((Py.find s p idx).getD 0 + p.length + gap) := rfl

theorem offsetsFrom_cons (gap : Nat) (p : Str) (rest : List Str) (idx : Nat) :
    offsetsFrom gap (p :: rest) idx = (idx, p.length) :: offsetsFrom gap rest (idx + p.length + gap) :=
  rfl

theorem joinSep_cons_ne (sep a : Str) {l : List Str} (h : l ≠ []) :
    joinSep sep (a :: l) = a ++ sep ++ joinSep sep l := by
  cases l with
  | nil => exact absurd rfl h
  | cons b r => rfl

/-- pieces that join (with `sep`) to the rest of `s` behind `pre`: `find` from the running index
    recovers exactly the true offsets -/
theorem join_laid (sep : Str) (ps : List Str) (hps : ps ≠ []) (s pre : Str)
    (h : s = pre ++ joinSep sep ps) :
    AStr.pieceOffsets s sep.length ps pre.length = offsetsFrom sep.length ps pre.length ∧
      Occ s sep.length ps pre.length := by
  induction ps generalizing pre with
  | nil => exact absurd rfl hps
  | cons a l ih =>
    -- the first piece stands right behind `pre`
    obtain ⟨t, ht⟩ : ∃ t, s = pre ++ a ++ t := by
      cases l with
      | nil => exact ⟨[], by rw [h, List.append_nil]; rfl⟩
      | cons b r =>
        exact ⟨sep ++ joinSep sep (b :: r), by
          rw [h, joinSep_cons_ne sep a (List.cons_ne_nil b r)]
          simp only [List.append_assoc]⟩
    have hocc : a.isPrefixOf (s.drop pre.length) = true := ht ▸ occ_of_decomp pre a t
    have hlen : pre.length ≤ s.length := by
      rw [ht, List.append_assoc, List.length_append]
      exact Nat.le_add_right ..
    have hfind := find_at s a pre.length hlen hocc
    rw [pieceOffsets_cons, offsetsFrom_cons, hfind, Option.getD_some]
    cases l with
    | nil => exact ⟨rfl, pre.length, Nat.le_refl _, hlen, hocc, trivial⟩
    | cons b r =>
      have hnext : pre.length + a.length + sep.length = (pre ++ a ++ sep).length := by
        rw [List.length_append, List.length_append]
      obtain ⟨ih1, ih2⟩ := ih (List.cons_ne_nil b r) (pre ++ a ++ sep) (by
        rw [h, joinSep_cons_ne sep a (List.cons_ne_nil b r)]
        simp only [List.append_assoc])
      rw [hnext, ih1]
      exact ⟨rfl, pre.length, Nat.le_refl _, hlen, hocc, hnext ▸ ih2⟩

theorem offsetsFrom_getElem? (gap : Nat) (ps : List Str) (idx k : Nat) :
    (offsetsFrom gap ps idx)[k]? =
      ps[k]?.map (fun p => (idx + ((ps.take k).map (fun q => q.length + gap)).sum, p.length)) := by
  induction ps generalizing idx k with
  | nil => simp [offsetsFrom]
  | cons p rest ih =>
    cases k with
    | zero => simp [offsetsFrom]
    | succ k =>
      simp only [offsetsFrom, List.getElem?_cons_succ, ih, List.take_succ_cons, List.map_cons,
        List.sum_cons]
      cases rest[k]? with
      | none => rfl
      | some q => simp only [Option.map_some]; congr 2; omega

/-! ## `joinSep` and reversal -/

theorem joinSep_snoc (sep a : Str) {l : List Str} (h : l ≠ []) :
    joinSep sep (l ++ [a]) = joinSep sep l ++ sep ++ a := by
  induction l with
  | nil => exact absurd rfl h
  | cons b r ih =>
    cases r with
    | nil => rfl
    | cons c r' =>
      have h1 : joinSep sep (b :: c :: r') = b ++ sep ++ joinSep sep (c :: r') := rfl
      have h2 : joinSep sep (b :: c :: r' ++ [a]) = b ++ sep ++ joinSep sep (c :: r' ++ [a]) := rfl
      rw [h1, h2, ih (by simp)]
      simp

theorem joinSep_reverse (sep : Str) (l : List Str) :
    (joinSep sep l).reverse = joinSep sep.reverse (l.map List.reverse).reverse := by
  induction l with
  | nil => rfl
  | cons a r ih =>
    cases r with
    | nil => rfl
    | cons b r' =>
      have h1 : joinSep sep (a :: b :: r') = a ++ sep ++ joinSep sep (b :: r') := rfl
      rw [h1, List.map_cons, List.reverse_cons, joinSep_snoc _ _ (by simp), ← ih]
      simp

/-! ## `str.split(sep, maxsplit)` / `rsplit` (the model `Py.splitSep`) -/

theorem splitSepAux_ne (sep : Str) (fuel : Nat) (cur rest : Str) (m : Int) :
    Py.splitSepAux sep fuel cur rest m ≠ [] := by
  cases fuel with
  | zero => simp [Py.splitSepAux]
  | succ fuel =>
    cases rest with
    | nil => simp [Py.splitSepAux]
    | cons c r =>
      rw [Py.splitSepAux]
      split
      · simp
      · exact splitSepAux_ne sep fuel _ _ _

theorem splitSepAux_join (sep : Str) (fuel : Nat) (cur rest : Str) (m : Int) :
    joinSep sep (Py.splitSepAux sep fuel cur rest m) = cur ++ rest := by
  induction fuel generalizing cur rest m with
  | zero => simp [Py.splitSepAux, joinSep]
  | succ fuel ih =>
    cases rest with
    | nil => simp [Py.splitSepAux, joinSep]
    | cons c r =>
      rw [Py.splitSepAux]
      split
      · rename_i hc
        rw [joinSep_cons_ne _ _ (splitSepAux_ne _ _ _ _ _), ih]
        obtain ⟨t, ht⟩ := (startsWith_iff _ _).mp hc.2
        rw [ht]
        simp
      · rw [ih]; simp

theorem splitSepAux_length (sep : Str) (fuel : Nat) (cur rest : Str) (m : Int) (hm : 0 ≤ m) :
    ((Py.splitSepAux sep fuel cur rest m).length : Int) ≤ m + 1 := by
  induction fuel generalizing cur rest m with
  | zero => exact Int.le_add_of_nonneg_left hm
  | succ fuel ih =>
    cases rest with
    | nil => exact Int.le_add_of_nonneg_left hm
    | cons c r =>
      rw [Py.splitSepAux]
      split
      · rename_i hc
        have := ih [] ((c :: r).drop sep.length) (m - 1) (by omega)
        rw [List.length_cons]
        omega
      · exact ih _ _ _ hm

theorem splitSep_join (s sep : Str) (m : Int) : joinSep sep (Py.splitSep s sep m) = s := by
  simpa [Py.splitSep] using splitSepAux_join sep (s.length + 1) [] s m

theorem rsplitSep_join (s sep : Str) (m : Int) : joinSep sep (Py.rsplitSep s sep m) = s := by
  have h := joinSep_reverse sep.reverse (Py.splitSep s.reverse sep.reverse m)
  rw [splitSep_join, List.reverse_reverse, List.reverse_reverse] at h
  exact h.symm

theorem splitSep_ne (s sep : Str) (m : Int) : Py.splitSep s sep m ≠ [] :=
  splitSepAux_ne _ _ _ _ _

theorem rsplitSep_ne (s sep : Str) (m : Int) : Py.rsplitSep s sep m ≠ [] := by
  unfold Py.rsplitSep
  intro h
  have := congrArg List.length h
  simp only [List.length_reverse, List.length_map, List.length_nil] at this
  exact splitSep_ne _ _ _ (List.eq_nil_of_length_eq_zero this)

theorem sepPieces_laid (s sep : Str) (m : Int) (r : Bool) :
    let ps := if r then Py.rsplitSep s sep m else Py.splitSep s sep m
    AStr.pieceOffsets s sep.length ps 0 = offsetsFrom sep.length ps 0 ∧ Occ s sep.length ps 0 := by
  intro ps
  have h : ps ≠ [] ∧ joinSep sep ps = s := by
    cases r
    · exact ⟨splitSep_ne s sep m, splitSep_join s sep m⟩
    · exact ⟨rsplitSep_ne s sep m, rsplitSep_join s sep m⟩
  exact join_laid sep ps h.1 s [] h.2.symm

/-! ## pieces that occur in order, separated by arbitrary gaps -/

/-- `InOrder ps u`: `u = g₀ ++ p₀ ++ g₁ ++ p₁ ++ … ++ tail` for some gaps `gᵢ` -/
inductive InOrder : List Str → Str → Prop
  | nil (u : Str) : InOrder [] u
  | cons (g p rest : Str) (ps : List Str) (h : InOrder ps rest) : InOrder (p :: ps) (g ++ p ++ rest)

theorem InOrder.cons' {g p rest u : Str} {ps : List Str} (hu : u = g ++ p ++ rest) (h : InOrder ps rest) :
    InOrder (p :: ps) u := hu ▸ InOrder.cons g p rest ps h

theorem InOrder.snoc {ps : List Str} {u : Str} (h : InOrder ps u) (g p g' : Str) :
    InOrder (ps ++ [p]) (u ++ g ++ p ++ g') := by
  induction h with
  | nil u => exact InOrder.cons' (g := u ++ g) (rest := g') (by simp) (InOrder.nil _)
  | cons g₀ q rest ps _ ih => exact InOrder.cons' (g := g₀) (rest := rest ++ g ++ p ++ g') (by simp) ih

theorem InOrder.reverse {ps : List Str} {u : Str} (h : InOrder ps u) :
    InOrder (ps.map List.reverse).reverse u.reverse := by
  induction h with
  | nil u => exact InOrder.nil _
  | cons g p rest ps _ ih =>
    have := InOrder.snoc ih [] p.reverse g.reverse
    simpa using this

theorem InOrder.occ {ps : List Str} {u : Str} (h : InOrder ps u) (s pre : Str) (hs : s = pre ++ u) :
    Occ s 0 ps pre.length := by
  induction h generalizing pre with
  | nil u => trivial
  | cons g p rest ps _ ih =>
    refine ⟨(pre ++ g).length, by simp, by rw [hs]; simp, ?_, ?_⟩
    · rw [hs]
      have := occ_of_decomp (pre ++ g) p rest
      simp only [List.append_assoc] at this ⊢
      exact this
    · have := ih (pre ++ g ++ p) (by rw [hs]; simp)
      simpa [Nat.add_assoc] using this

theorem pieceOffsets_sub (s : Str) (ps : List Str) (h : InOrder ps s) :
    (AStr.pieceOffsets s 0 ps 0).map (fun ol => (s.take (ol.1 + ol.2)).drop ol.1) = ps :=
  pieceOffsets_text s 0 ps 0 (h.occ s [] rfl)

/-! ## `Py.splitSep` is "repeated `find`" (and its fuel suffices) -/

theorem splitSepAux_zero (sep : Str) (fuel : Nat) (cur rest : Str) :
    Py.splitSepAux sep fuel cur rest 0 = [cur ++ rest] := by
  induction fuel generalizing cur rest with
  | zero => rfl
  | succ fuel ih =>
    cases rest with
    | nil => simp [Py.splitSepAux]
    | cons c r =>
      rw [Py.splitSepAux, if_neg (by simp), ih]
      simp

theorem splitSepAux_fuel (sep : Str) (hsep : sep ≠ []) (fuel fuel' : Nat) (cur rest : Str) (m : Int)
    (h : rest.length < fuel) (h' : rest.length < fuel') :
    Py.splitSepAux sep fuel cur rest m = Py.splitSepAux sep fuel' cur rest m := by
  induction fuel generalizing fuel' cur rest m with
  | zero => omega
  | succ f ih =>
    cases fuel' with
    | zero => omega
    | succ f' =>
      cases rest with
      | nil => rfl
      | cons c r =>
        have hd : ((c :: r).drop sep.length).length ≤ r.length := by
          have := List.length_pos_iff.mpr hsep
          rw [List.length_drop, List.length_cons]
          omega
        have hr := Nat.lt_of_succ_lt_succ h
        have hr' := Nat.lt_of_succ_lt_succ h'
        rw [Py.splitSepAux, Py.splitSepAux, ih f' _ r _ hr hr',
          ih f' [] _ _ (Nat.lt_of_le_of_lt hd hr) (Nat.lt_of_le_of_lt hd hr')]

theorem splitSepAux_absent (sep : Str) (fuel : Nat) (cur rest : Str) (m : Int)
    (h : ∀ j ≤ rest.length, sep.isPrefixOf (rest.drop j) = false) :
    Py.splitSepAux sep fuel cur rest m = [cur ++ rest] := by
  induction fuel generalizing cur rest with
  | zero => rfl
  | succ f ih =>
    cases rest with
    | nil => rw [Py.splitSepAux, List.append_nil]
    | cons c r =>
      have h0 := h 0 (Nat.zero_le _)
      rw [List.drop_zero, ← startsWith_eq] at h0
      rw [Py.splitSepAux, if_neg (fun hc => by rw [h0] at hc; cases hc.2), ih _ r (fun j hj => h (j + 1) (Nat.succ_le_succ hj)),
        List.append_assoc]
      rfl

theorem splitSepAux_first (sep : Str) (hsep : sep ≠ []) (pre post : Str) :
    ∀ (cur : Str) (fuel : Nat) (m : Int), (pre ++ sep ++ post).length < fuel → m ≠ 0 →
      (∀ j < pre.length, sep.isPrefixOf ((pre ++ sep ++ post).drop j) = false) →
      Py.splitSepAux sep fuel cur (pre ++ sep ++ post) m = (cur ++ pre) :: Py.splitSep post sep (m - 1) := by
  induction pre with
  | nil =>
    intro cur fuel m hf hm _
    cases fuel with
    | zero => omega
    | succ f =>
      obtain ⟨c, r, hcr⟩ := List.exists_cons_of_ne_nil hsep
      have hst : Py.startsWith ([] ++ sep ++ post) sep = true := (startsWith_iff _ _).mpr ⟨post, rfl⟩
      have hlen : post.length < f := by
        have := List.length_pos_iff.mpr hsep
        simp only [List.length_append, List.length_nil] at hf
        omega
      rw [List.append_nil, Py.splitSep, splitSepAux_fuel sep hsep (post.length + 1) f [] post _ (Nat.lt_succ_self _) hlen]
      subst hcr
      rw [List.nil_append] at hst ⊢
      rw [List.cons_append, Py.splitSepAux, ← List.cons_append, if_pos ⟨hm, hst⟩, List.drop_left]
  | cons a pre ih =>
    intro cur fuel m hf hm hfirst
    cases fuel with
    | zero => omega
    | succ f =>
      have h0 := hfirst 0 (Nat.succ_pos _)
      rw [List.drop_zero, ← startsWith_eq] at h0
      rw [List.cons_append, List.cons_append] at h0 hf ⊢
      rw [Py.splitSepAux, if_neg (fun hc => by rw [h0] at hc; cases hc.2),
        ih _ f m (Nat.lt_of_succ_lt_succ hf) hm (fun j hj => hfirst (j + 1) (Nat.succ_lt_succ hj)),
        List.append_assoc]
      rfl
/-- `str.split(sep, maxsplit)` as the model computes it IS "cut at the first occurrence, continue
    behind it, at most `maxsplit` times" — in particular the fuel of `Py.splitSep` suffices -/
theorem splitSep_unfold (s sep : Str) (hsep : sep ≠ []) (m : Int) :
    Py.splitSep s sep m =
      if m = 0 then [s]
      else match Py.find s sep 0 with
        | none => [s]
        | some i => s.take i :: Py.splitSep (s.drop (i + sep.length)) sep (m - 1) := by
  by_cases hm : m = 0
  · rw [if_pos hm, hm]
    exact splitSepAux_zero sep _ [] s
  · rw [if_neg hm]
    cases hf : Py.find s sep 0 with
    | none =>
      exact splitSepAux_absent sep _ [] s m fun j hj => (find_none_iff ..).mp hf j hj (Nat.zero_le _)
    | some i =>
      obtain ⟨pre, post, rfl, rfl, hfirst⟩ := find_zero_decomp hf
      dsimp only
      rw [take_decomp, drop_decomp]
      exact splitSepAux_first sep hsep pre post [] _ m (Nat.lt_succ_self _) hm hfirst

end StrLikeL

/-! ## the layouts of `str.split(None)`, `str.rsplit(None)`, `str.splitlines` -/

namespace PiecesL

open StrLikeL

/-- `g₀ ++ p₀ ++ g₁ ++ p₁ ++ …` for a list of (gap before the piece, piece) pairs -/
def catL (pairs : List (Str × Str)) : Str := (pairs.map (fun gp => gp.1 ++ gp.2)).flatten

theorem catL_cons (gp : Str × Str) (rest : List (Str × Str)) :
    catL (gp :: rest) = gp.1 ++ gp.2 ++ catL rest := by
  simp [catL]

theorem catL_nil : catL [] = [] := rfl

theorem catL_append (a b : List (Str × Str)) : catL (a ++ b) = catL a ++ catL b := by
  simp [catL]

/-- mirror image of a layout: (piece, gap after) pairs become (gap before, piece) pairs -/
theorem catL_reverse (pairs : List (Str × Str)) :
    (catL pairs).reverse = catL ((pairs.map (fun pg => (pg.2.reverse, pg.1.reverse))).reverse) := by
  induction pairs with
  | nil => rfl
  | cons pg rest ih =>
    rw [catL_cons, List.map_cons, List.reverse_cons, catL_append, ← ih]
    simp [catL]

/-- from "head gap, then (piece, gap after) pairs" to "(gap before, piece) pairs, then tail gap" -/
def shiftL : Str → List (Str × Str) → List (Str × Str) × Str
  | h, [] => ([], h)
  | h, pg :: r => ((h, pg.1) :: (shiftL pg.2 r).1, (shiftL pg.2 r).2)

theorem shiftL_cat (h : Str) (pairs : List (Str × Str)) :
    h ++ catL pairs = catL (shiftL h pairs).1 ++ (shiftL h pairs).2 := by
  induction pairs generalizing h with
  | nil => simp [shiftL, catL]
  | cons pg r ih =>
    simp only [shiftL, catL_cons]
    rw [List.append_assoc, List.append_assoc, ← ih pg.2]
    simp

theorem shiftL_pieces (h : Str) (pairs : List (Str × Str)) :
    (shiftL h pairs).1.map (·.2) = pairs.map (·.1) := by
  induction pairs generalizing h with
  | nil => rfl
  | cons pg r ih => simp [shiftL, ih]

theorem shiftL_all (P Q : Str → Prop) (h : Str) (pairs : List (Str × Str)) (hh : P h)
    (hp : ∀ pg ∈ pairs, Q pg.1 ∧ P pg.2) :
    (∀ gp ∈ (shiftL h pairs).1, P gp.1 ∧ Q gp.2) ∧ P (shiftL h pairs).2 := by
  induction pairs generalizing h with
  | nil => exact ⟨nofun, hh⟩
  | cons pg r ih =>
    obtain ⟨h1, h2⟩ := ih pg.2 (hp pg (List.mem_cons_self ..)).2
      (fun q hq => hp q (List.mem_cons_of_mem _ hq))
    refine ⟨fun gp hgp => ?_, h2⟩
    rcases List.mem_cons.mp hgp with rfl | hgp
    · exact ⟨hh, (hp pg (List.mem_cons_self ..)).1⟩
    · exact h1 gp hgp

theorem mem_takeWhile {p : Char → Bool} {l : Str} {c : Char} (h : c ∈ l.takeWhile p) : p c = true := by
  induction l with
  | nil => simp at h
  | cons a l ih =>
    rw [List.takeWhile_cons] at h
    split at h
    · rename_i ha
      rcases List.mem_cons.mp h with rfl | h
      · exact ha
      · exact ih h
    · simp at h

/-- `str.split(None, m)`: head gap, then (word, gap after it) pairs; a piece is a whitespace-free
    word, or the unsplit rest (then nothing follows it) -/
theorem splitWsAux_layR (fuel : Nat) (s : Str) (m : Int) (hf : s.length < fuel) :
    ∃ (head : Str) (pairs : List (Str × Str)), s = head ++ catL pairs ∧
      (∀ c ∈ head, Py.isSpace c = true) ∧ Py.splitWsAux fuel s m = pairs.map (·.1) ∧
      ∀ pg ∈ pairs, pg.1 ≠ [] ∧ (∀ c ∈ pg.1.head?, Py.isSpace c = false) ∧
        (∀ c ∈ pg.2, Py.isSpace c = true) ∧ ((∀ c ∈ pg.1, Py.isSpace c = false) ∨ pg.2 = []) := by
  induction fuel generalizing s m with
  | zero => omega
  | succ fuel ih =>
    have h1 := List.takeWhile_append_dropWhile (p := Py.isSpace) (l := s)
    have hhead : ∀ c ∈ s.takeWhile Py.isSpace, Py.isSpace c = true := fun c hc => mem_takeWhile hc
    rw [Py.splitWsAux]
    simp only
    cases hd : s.dropWhile Py.isSpace with
    | nil =>
      refine ⟨s.takeWhile Py.isSpace, [], ?_, hhead, by simp, by simp⟩
      rw [hd, List.append_nil] at h1
      simp [catL, h1]
    | cons a d =>
      have ha : Py.isSpace a = false := by
        have := List.head_dropWhile_not Py.isSpace (l := s) (by rw [hd]; simp)
        simpa [hd] using this
      simp only [List.isEmpty_cons, Bool.false_eq_true, if_false]
      split
      · refine ⟨s.takeWhile Py.isSpace, [(a :: d, [])], ?_, hhead, by simp,
          List.forall_mem_cons.mpr ⟨⟨by simp, by simpa using ha, nofun, Or.inr rfl⟩, nofun⟩⟩
        rw [← hd]; simp [catL, h1]
      · have h2 := List.takeWhile_append_dropWhile (p := fun c => !Py.isSpace c) (l := a :: d)
        rw [drop_takeWhile_length]
        have hlen : ((a :: d).dropWhile (fun c => !Py.isSpace c)).length < fuel := by
          have e1 := congrArg List.length h1
          have e2 := congrArg List.length h2
          have e3 : 0 < ((a :: d).takeWhile (fun c => !Py.isSpace c)).length := by
            rw [List.takeWhile_cons]; simp [ha]
          rw [hd] at e1
          simp only [List.length_append] at e1 e2
          omega
        obtain ⟨head', pairs', e, hh', hpieces, hpairs⟩ := ih _ (m - 1) hlen
        refine ⟨s.takeWhile Py.isSpace,
          ((a :: d).takeWhile (fun c => !Py.isSpace c), head') :: pairs', ?_, hhead, ?_, ?_⟩
        · rw [catL_cons]
          simp only
          rw [List.append_assoc, ← e, h2, ← hd, h1]
        · rw [hpieces]; rfl
        · refine List.forall_mem_cons.mpr ⟨⟨?_, ?_, hh', Or.inl ?_⟩, hpairs⟩
          · rw [List.takeWhile_cons]; simp [ha]
          · rw [List.takeWhile_cons]; simp [ha]
          · intro c hc
            have := mem_takeWhile hc
            simpa using this

/-- the separator characters of `splitlines`: the line breaks, unless they are kept in the pieces -/
def lineSep (keep : Bool) (c : Char) : Bool := !keep && Py.isLineBreak c

/-- `str.splitlines(keep)`: (line, line break after it) pairs; with `keep` the break belongs to the
    line and the gap is empty -/
theorem splitlinesAux_layR (keep : Bool) (s cur : Str) (hcur : ∀ c ∈ cur, lineSep keep c = false) :
    ∃ pairs : List (Str × Str), cur ++ s = catL pairs ∧
      Py.splitlinesAux keep s cur = pairs.map (·.1) ∧
      ∀ pg ∈ pairs, (∀ c ∈ pg.1, lineSep keep c = false) ∧ (∀ c ∈ pg.2, lineSep keep c = true) := by
  fun_induction Py.splitlinesAux keep s cur with
  | case1 cur hc =>
    have : cur = [] := List.isEmpty_iff.mp hc
    subst this
    exact ⟨[], rfl, rfl, by simp⟩
  | case2 cur hc =>
    exact ⟨[(cur, [])], by simp [catL], rfl, List.forall_mem_cons.mpr ⟨⟨hcur, nofun⟩, nofun⟩⟩
  | case3 rest cur ih =>
    obtain ⟨pairs, e, hp, hpairs⟩ := ih (by simp)
    simp only [List.nil_append] at e
    cases keep
    · refine ⟨(cur, ['\r', '\n']) :: pairs, ?_, by simp [hp], List.forall_mem_cons.mpr ⟨⟨hcur, ?_⟩, hpairs⟩⟩
      · rw [catL_cons, ← e]; simp
      · intro c hc
        simp only [List.mem_cons, List.not_mem_nil, or_false] at hc
        rcases hc with rfl | rfl <;> decide
    · refine ⟨(cur ++ ['\r', '\n'], []) :: pairs, ?_, by simp [hp],
        List.forall_mem_cons.mpr ⟨⟨fun c _ => by simp [lineSep], nofun⟩, hpairs⟩⟩
      rw [catL_cons, ← e]; simp
  | case4 c rest cur hnot hbr ih =>
    obtain ⟨pairs, e, hp, hpairs⟩ := ih (by simp)
    simp only [List.nil_append] at e
    cases keep
    · refine ⟨(cur, [c]) :: pairs, ?_, by simp [hp], List.forall_mem_cons.mpr ⟨⟨hcur, ?_⟩, hpairs⟩⟩
      · rw [catL_cons, ← e]; simp
      · intro c' hc
        simp only [List.mem_cons, List.not_mem_nil, or_false] at hc
        subst hc
        simpa [lineSep] using hbr
    · refine ⟨(cur ++ [c], []) :: pairs, ?_, by simp [hp],
        List.forall_mem_cons.mpr ⟨⟨fun c _ => by simp [lineSep], nofun⟩, hpairs⟩⟩
      rw [catL_cons, ← e]; simp
  | case5 c rest cur hnot hbr ih =>
    have hcur' : ∀ c' ∈ cur ++ [c], lineSep keep c' = false := by
      intro c' hc'
      rcases List.mem_append.mp hc' with h | h
      · exact hcur c' h
      · simp only [List.mem_singleton] at h
        subst h
        simp only [lineSep]
        simp only [Bool.not_eq_true] at hbr
        rw [hbr]; simp
    obtain ⟨pairs, e, hp, hpairs⟩ := ih hcur'
    exact ⟨pairs, by rw [← e]; simp, hp, hpairs⟩

/-- `str.split(None, m)` / `str.rsplit(None, m)` -/
theorem ws_layout (s : Str) (m : Int) (r : Bool) :
    ∃ (pairs : List (Str × Str)) (tail : Str), s = catL pairs ++ tail ∧
      (∀ c ∈ tail, Py.isSpace c = true) ∧
      (∀ gp ∈ pairs, gp.2 ≠ [] ∧ (∀ c ∈ gp.1, Py.isSpace c = true) ∧
        ((∀ c ∈ gp.2.head?, Py.isSpace c = false) ∨ gp.1 = [])) ∧
      (if r then Py.rsplitWs s m else Py.splitWs s m) = pairs.map (·.2) := by
  cases r with
  | false =>
    obtain ⟨head, pairsR, hs, hhead, hpieces, hpairs⟩ :=
      splitWsAux_layR (s.length + 1) s m (Nat.lt_succ_self _)
    obtain ⟨hcond, htail⟩ := shiftL_all (fun g => ∀ c ∈ g, Py.isSpace c = true)
      (fun p => p ≠ [] ∧ ∀ c ∈ p.head?, Py.isSpace c = false) head pairsR hhead
      (fun pg hpg => ⟨⟨(hpairs pg hpg).1, (hpairs pg hpg).2.1⟩, (hpairs pg hpg).2.2.1⟩)
    refine ⟨(shiftL head pairsR).1, (shiftL head pairsR).2, by rw [← shiftL_cat]; exact hs, htail,
      fun gp hgp => ⟨(hcond gp hgp).2.1, (hcond gp hgp).1, Or.inl (hcond gp hgp).2.2⟩, ?_⟩
    rw [shiftL_pieces]
    exact hpieces
  | true =>
    obtain ⟨head, pairsR, hs, hhead, hpieces, hpairs⟩ :=
      splitWsAux_layR (s.reverse.length + 1) s.reverse m (Nat.lt_succ_self _)
    have hs' : s = catL ((pairsR.map (fun pg => (pg.2.reverse, pg.1.reverse))).reverse) ++
        head.reverse := by
      rw [← catL_reverse, ← List.reverse_append, ← hs, List.reverse_reverse]
    have hcond : ∀ gp ∈ (pairsR.map (fun pg => (pg.2.reverse, pg.1.reverse))).reverse,
        gp.2 ≠ [] ∧ (∀ c ∈ gp.1, Py.isSpace c = true) ∧
        ((∀ c ∈ gp.2.head?, Py.isSpace c = false) ∨ gp.1 = []) := by
      intro gp hgp
      rw [List.mem_reverse, List.mem_map] at hgp
      obtain ⟨pg, hpg, rfl⟩ := hgp
      obtain ⟨q1, -, q3, q4⟩ := hpairs pg hpg
      refine ⟨by simpa using q1, fun c hc => q3 c (by simpa using hc), ?_⟩
      rcases q4 with q4 | q4
      · exact Or.inl (fun c hc => q4 c (by simpa using List.mem_of_mem_head? hc))
      · exact Or.inr (by simp [q4])
    refine ⟨_, _, hs', fun c hc => hhead c (by simpa using hc), hcond, ?_⟩
    unfold Py.rsplitWs Py.splitWs
    rw [hpieces]
    simp [List.map_reverse]

/-- `str.splitlines(keep)` -/
theorem lines_layout (s : Str) (keep : Bool) :
    ∃ (pairs : List (Str × Str)) (tail : Str), s = catL pairs ++ tail ∧
      (∀ c ∈ tail, lineSep keep c = true) ∧
      (∀ gp ∈ pairs, (∀ c ∈ gp.1, lineSep keep c = true) ∧ (∀ c ∈ gp.2, lineSep keep c = false)) ∧
      Py.splitlines s keep = pairs.map (·.2) := by
  obtain ⟨pairsR, hs, hpieces, hpairs⟩ := splitlinesAux_layR keep s [] (by simp)
  simp only [List.nil_append] at hs
  obtain ⟨hcond, htail⟩ := shiftL_all (fun g => ∀ c ∈ g, lineSep keep c = true)
    (fun p => ∀ c ∈ p, lineSep keep c = false) [] pairsR nofun hpairs
  refine ⟨(shiftL [] pairsR).1, (shiftL [] pairsR).2, by rw [← shiftL_cat]; exact hs, htail, hcond, ?_⟩
  rw [shiftL_pieces]
  exact hpieces

end PiecesL

namespace StrLikeL

open PiecesL

theorem InOrder.of_catL (pairs : List (Str × Str)) (tail : Str) :
    InOrder (pairs.map (·.2)) (catL pairs ++ tail) := by
  induction pairs with
  | nil => exact InOrder.nil _
  | cons gp rest ih =>
    exact InOrder.cons' (g := gp.1) (rest := catL rest ++ tail) (by rw [catL_cons, List.append_assoc]) ih

theorem wsPieces_sub (s : Str) (m : Int) (r : Bool) :
    InOrder (if r then Py.rsplitWs s m else Py.splitWs s m) s := by
  obtain ⟨pairs, tail, hs, -, -, hp⟩ := ws_layout s m r
  rw [hp, hs]
  exact InOrder.of_catL pairs tail

theorem splitlines_sub (s : Str) (keep : Bool) : InOrder (Py.splitlines s keep) s := by
  obtain ⟨pairs, tail, hs, -, -, hp⟩ := lines_layout s keep
  rw [hp, hs]
  exact InOrder.of_catL pairs tail

end StrLikeL
