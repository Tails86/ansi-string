import AnsiProofs.Lemmas.ParseText
import AnsiProofs.Lemmas.Basic
import AnsiProofs.Lemmas.Effects
/-
  The terminal run over what `Render.render` writes, and the rendering loop taken apart.

  * `RenderL.Reaches t0 out D T`: feeding `out` displays `D` and leaves the terminal in text mode in
    state `T`; closed under concatenation; plain text; one SGR sequence.  `Strips out txt` is its
    projection to the displayed characters (`sm`), which is all C15 needs.
  * one iteration of `Render.step` is `stepPre ++ sgr (emitAC …).2`; C01, C15 and C03 all argue over
    this decomposition.  What is the same in these arguments is said once, for any class `C` of
    parameter strings (`Codes C`: whatever the loop joins with `;` is in `C` if the settings' texts
    are) and any relation `R` between output and text (`Pieces C R`: `R` holds of a piece of text, of a
    sequence `sgr c` with `C c`, and of concatenations; then of each stage of the loop).
  * for C15: the tokenizer removes exactly the `ESC [ … m` sequences the rendering inserts, and with
    `optimize = false` every change point emits the texts of the settings active there, verbatim.
-/
open Term

namespace RenderL

/-! ## the terminal: running over text and over one SGR sequence -/

theorem runAux_text_cons {c : Char} {rest : List Char}
    (h : ∀ rest', c = '\x1b' → rest = '[' :: rest' → False) (t : TState) (out) :
    runAux .text t (c :: rest) out = runAux .text t rest (out ++ [(c, t)]) := by
  rw [runAux]; exact h

theorem runAux_pre (m : Mode) (t : TState) (s : List Char) (out : List (Char × TState)) :
    ∀ pre, runAux m t s (pre ++ out) = (pre ++ (runAux m t s out).1, (runAux m t s out).2) := by
  fun_induction runAux m t s out with
  | case1 t out => intro pre; simp [runAux]
  | case2 t rest out ih => intro pre; simp only [runAux]; exact ih pre
  | case3 t c rest out h ih =>
    intro pre
    rw [runAux_text_cons h, List.append_assoc]; exact ih pre
  | case4 ps t out => intro pre; simp [runAux]
  | case5 ps t c rest out hf hm ih => intro pre; simp only [runAux, hf, hm, if_true]; exact ih pre
  | case6 ps t c rest out hf hm ih =>
    intro pre; simp only [runAux, hf, hm, if_true, Bool.false_eq_true, if_false]
    rw [List.append_assoc]; exact ih pre
  | case7 ps t c rest out hf ih =>
    intro pre; simp only [runAux, hf, Bool.false_eq_true, if_false]; exact ih pre

theorem runAux_acc (m : Mode) (t : TState) (s : List Char) (out : List (Char × TState)) :
    runAux m t s out = (out ++ (runAux m t s []).1, (runAux m t s []).2) := by
  simpa using runAux_pre m t s [] out

def Reaches (t0 : TState) (out : List Char) (D : List (Char × TState)) (T : TState) : Prop :=
  ∀ rest, Term.run t0 (out ++ rest) = (D ++ (Term.run T rest).1, (Term.run T rest).2)

theorem run_nil (t : TState) : Term.run t [] = ([], t) := by simp [Term.run, runAux]

theorem Reaches.run {t0 out D T} (h : Reaches t0 out D T) : Term.run t0 out = (D, T) := by
  have := h []
  simpa [run_nil] using this

theorem Reaches.nil (t : TState) : Reaches t [] [] t := by
  intro rest; simp

theorem Reaches.trans {t0 a D T b D' T'} (h1 : Reaches t0 a D T) (h2 : Reaches T b D' T') :
    Reaches t0 (a ++ b) (D ++ D') T' := by
  intro rest
  rw [List.append_assoc, h1, h2]
  simp

theorem Reaches.text (t : TState) {txt : List Char} (h : '\x1b' ∉ txt) :
    Reaches t txt (txt.map (fun c => (c, t))) t := by
  induction txt with
  | nil => exact Reaches.nil t
  | cons c txt ih =>
    intro rest
    have hc : c ≠ '\x1b' := fun e => h (by simp [e])
    have ih := ih (fun hm => h (by simp [hm])) rest
    unfold Term.run at ih ⊢
    rw [List.cons_append, runAux_text_cons (fun _ e _ => hc e), runAux_acc, ih]
    simp

theorem runAux_seq {ps : List Char} (h : ∀ c ∈ ps, isFinal c = false) (acc : List Char) (t : TState)
    (rest : List Char) (out) :
    runAux (.seq acc) t (ps ++ 'm' :: rest) out = runAux .text (feed t (params (acc ++ ps))) rest out := by
  induction ps generalizing acc with
  | nil =>
    have : isFinal 'm' = true := by decide
    simp [runAux, this]
  | cons c ps ih =>
    have hc := h c (by simp)
    simp only [List.cons_append, runAux, hc, Bool.false_eq_true, if_false]
    rw [ih (fun d hd => h d (by simp [hd]))]
    simp

theorem Reaches.sgr (t : TState) {ps : List Char} (h : ∀ c ∈ ps, isFinal c = false) :
    Reaches t ('\x1b' :: '[' :: ps ++ ['m']) [] (feed t (params ps)) := by
  intro rest
  unfold Term.run
  simp only [List.cons_append, List.append_assoc, runAux]
  rw [runAux_seq h]
  simp

end RenderL

/-! ## Python dicts as association lists -/

namespace PyDict

/- `rfl`-unfoldings (so that no `PyDict.*.eq_1` auxiliary is generated in the modules that use them) -/
theorem get?_def (d : PyDict) (k : Nat) :
    d.get? k = (d.find? (fun kv => kv.1 == k)).map (·.2) := rfl
theorem contains_def (d : PyDict) (k : Nat) : d.contains k = d.any (fun kv => kv.1 == k) := rfl

theorem mem_of_get? {d : PyDict} {k : Nat} {v : Setting} (h : d.get? k = some v) : (k, v) ∈ d := by
  rw [get?_def] at h
  rw [Option.map_eq_some_iff] at h
  obtain ⟨kv, hf, rfl⟩ := h
  have h1 := List.find?_some hf
  have h2 := List.mem_of_find?_eq_some hf
  have : kv.1 = k := by simpa using h1
  subst this; exact h2

theorem find?_of_mem {d : PyDict} (hp : d.Pairwise (fun a b => a.1 ≠ b.1)) {kv : Nat × Setting}
    (h : kv ∈ d) : d.find? (fun x => x.1 == kv.1) = some kv := by
  induction d with
  | nil => cases h
  | cons x rest ih =>
    rw [List.pairwise_cons] at hp
    rcases List.mem_cons.1 h with rfl | h
    · simp
    · have hx : ¬ ((x.1 == kv.1) = true) := by simpa using hp.1 _ h
      have e : List.find? (fun y : Nat × Setting => y.1 == kv.1) (x :: rest) =
          List.find? (fun y : Nat × Setting => y.1 == kv.1) rest := List.find?_cons_of_neg hx
      rw [e]
      exact ih hp.2 h

theorem get?_of_mem {d : PyDict} (hp : d.Pairwise (fun a b => a.1 ≠ b.1)) {k : Nat} {v : Setting}
    (h : (k, v) ∈ d) : d.get? k = some v := by
  rw [get?_def, find?_of_mem hp h]
  rfl

theorem contains_iff {d : PyDict} {k : Nat} : d.contains k = true ↔ ∃ kv ∈ d, kv.1 = k := by
  rw [contains_def, List.any_eq_true]
  simp only [beq_iff_eq]

theorem get?_insert (d : PyDict) (e : Nat) (s : Setting) (k : Nat) :
    (d.insert e s).get? k = if k = e then some s else d.get? k := by
  rw [get?_def, get?_def, Eff.find_insert]; split <;> simp

/-- `d[k] = v` for a list of entries, in order -/
abbrev insAll (l : List (Nat × Setting)) (d : PyDict) : PyDict := l.foldl (fun d kv => d.insert kv.1 kv.2) d

theorem get?_insAll_not_mem (l : List (Nat × Setting)) (d : PyDict) (k : Nat) (h : ∀ kv ∈ l, kv.1 ≠ k) :
    (insAll l d).get? k = d.get? k := by
  induction l generalizing d with
  | nil => rfl
  | cons a l ih =>
    simp only [insAll, List.foldl_cons]
    rw [ih _ (fun kv hkv => h kv (by simp [hkv])), get?_insert]
    have : k ≠ a.1 := fun e => h a (by simp) e.symm
    simp [this]

theorem get?_insAll_mem (l : List (Nat × Setting)) (hp : l.Pairwise (fun a b => a.1 ≠ b.1)) (d : PyDict)
    (kv : Nat × Setting) (h : kv ∈ l) : (insAll l d).get? kv.1 = some kv.2 := by
  induction l generalizing d with
  | nil => cases h
  | cons a l ih =>
    rw [List.pairwise_cons] at hp
    simp only [insAll, List.foldl_cons]
    rcases List.mem_cons.1 h with e | e
    · subst e
      rw [get?_insAll_not_mem l _ _ (fun b hb => (hp.1 b hb).symm), get?_insert]
      simp
    · exact ih hp.2 _ e

end PyDict

theorem Eff.alpha_get (d : PyDict) (g : Term.Group) :
    Eff.alpha d g = (d.get? (Eff.effOfGroup g)).bind (Eff.entryVal g) := by
  rw [Eff.alpha_eq, PyDict.get?_def]
  cases d.find? (fun kv => kv.1 == Eff.effOfGroup g) <;> rfl

theorem Eff.alpha_congr {d d' : PyDict}
    (h : ∀ k, (d.get? k).map (·.txt) = (d'.get? k).map (·.txt)) : Eff.alpha d = Eff.alpha d' := by
  funext g
  rw [Eff.alpha_get, Eff.alpha_get]
  have := h (Eff.effOfGroup g)
  cases h1 : d.get? (Eff.effOfGroup g) <;> cases h2 : d'.get? (Eff.effOfGroup g) <;> simp [h1, h2] at this ⊢
  unfold Eff.entryVal
  rw [this]

namespace RenderL
open Eff in
theorem eff_eq_alpha {l : List Setting} (h : ∀ s ∈ l, isGroupTxt s.txt = true) :
    eff l = alpha (settingsToDict l []) := by
  rw [alpha_settingsToDict h, alpha_nil]; rfl
end RenderL

namespace RenderStripL
open RenderL
open ParseTextL (run_chars stripSgr_eq_sm isFinal_eq_isTerm)

/-- no character of `l` is a final byte (0x40–0x7E) -/
def NonFinal (l : List Char) : Prop := ∀ c ∈ l, Term.isFinal c = false

theorem NonFinal.nil : NonFinal [] := fun _ h => by cases h

theorem NonFinal.append {a b : List Char} (ha : NonFinal a) (hb : NonFinal b) : NonFinal (a ++ b) := by
  intro c hc
  rcases List.mem_append.mp hc with h | h
  · exact ha c h
  · exact hb c h

/-! ## Facts about the generated constants (re-checked whenever the tables are regenerated) -/

theorem sgrPrefix_eq : Gen.sgrPrefix = ['\x1b', '['] := by decide
theorem sgrSuffix_eq : Gen.sgrSuffix = ['m'] := by decide
theorem escapeClear_eq : Gen.escapeClear = ['\x1b', '[', 'm'] := by decide
theorem resetStr_eq : Py.natStr Gen.paramReset = ['0'] := by decide

theorem sgr_eq (codes : Str) : Render.sgr codes = '\x1b' :: '[' :: codes ++ ['m'] := by
  simp [Render.sgr, sgrPrefix_eq, sgrSuffix_eq]

theorem escapeClear_sgr : Gen.escapeClear = Render.sgr [] := by rw [sgr_eq, escapeClear_eq]; rfl

theorem nonFinal_of_valid {t : Str} (h : SettingTxt.valid t = true) : NonFinal t := by
  intro c hc
  have := List.all_eq_true.mp h c hc
  simpa [isFinal_eq_isTerm] using this

/-- A class of parameter strings that has everything the loop joins with `;` besides the settings'
    own texts: the reset code and the clear codes. -/
structure Codes (C : Str → Prop) : Prop where
  nil : C []
  sep : ∀ {a b : Str}, C a → C b → C (a ++ Gen.ansiSep ++ b)
  reset : C (Py.natStr Gen.paramReset)
  clear : ∀ e, C (Render.clearCode e)

theorem Codes.join {C : Str → Prop} (hC : Codes C) :
    ∀ {l : List Str}, (∀ a ∈ l, C a) → C (joinSep Gen.ansiSep l)
  | [], _ => hC.nil
  | [a], h => h a (by simp)
  | a :: b :: rest, h =>
    hC.sep (h a (by simp)) (hC.join (fun c hc => h c (List.mem_cons_of_mem _ hc)))

theorem nonFinal_natStr (n : Nat) : NonFinal (Py.natStr n) := by
  intro c hc
  rw [isFinal_eq_isTerm]
  exact Eff.isTerm_of_isDigit ((Eff.natStr_spec n).2.1 c hc)

theorem nonFinal_codes : Codes NonFinal where
  nil := NonFinal.nil
  sep ha hb := (ha.append (by unfold NonFinal; decide)).append hb
  reset := nonFinal_natStr _
  clear e := by
    unfold Render.clearCode
    split
    · exact nonFinal_natStr _
    · exact NonFinal.nil

/-! ## `Strips o txt`: the tokenizer, in text mode, displays `txt` for `o` and is in text mode again -/

def Strips (o txt : List Char) : Prop := ∀ rest, sm .text (o ++ rest) = txt ++ sm .text rest

theorem _root_.RenderL.Reaches.strips {t0 o D T} (h : Reaches t0 o D T) : Strips o (D.map (·.1)) := by
  intro rest
  rw [← run_chars t0, h rest, List.map_append, run_chars]

theorem Strips.nil : Strips [] [] := fun _ => rfl

theorem Strips.append {a x b y : List Char} (h1 : Strips a x) (h2 : Strips b y) :
    Strips (a ++ b) (x ++ y) := by
  intro rest
  rw [List.append_assoc, h1, h2, List.append_assoc]

theorem Strips.text {a : List Char} (h : '\x1b' ∉ a) : Strips a a := by
  simpa [List.map_map, Function.comp_def] using (Reaches.text Term.default h).strips

theorem Strips.sgr {codes : List Char} (h : NonFinal codes) : Strips (Render.sgr codes) [] :=
  sgr_eq codes ▸ (Reaches.sgr Term.default h).strips

theorem Strips.escapeClear : Strips Gen.escapeClear [] := escapeClear_sgr ▸ Strips.sgr NonFinal.nil

theorem Strips.stripSgr {o txt : List Char} (h : Strips o txt) : Term.stripSgr o = txt := by
  have := h []
  simpa [stripSgr_eq_sm, sm] using this

theorem stripSgr_append_text {a : List Char} (h : '\x1b' ∉ a) (rest : List Char) :
    Term.stripSgr (a ++ rest) = a ++ Term.stripSgr rest := by
  simp only [stripSgr_eq_sm]; exact Strips.text h rest

theorem stripSgr_sgr {codes : List Char} (h : NonFinal codes) (rest : List Char) :
    Term.stripSgr (Gen.sgrPrefix ++ codes ++ Gen.sgrSuffix ++ rest) = Term.stripSgr rest := by
  simp only [stripSgr_eq_sm]; exact Strips.sgr h rest

/-! ## Settings met during the replay come from the `add` lists -/

theorem forall_mem_replayFrom {P : Setting → Prop} (f : Fmts) (cur : List Setting) (hc : ∀ s ∈ cur, P s)
    (hf : ∀ kp ∈ f, ∀ s ∈ kp.2.add, P s) : ∀ t ∈ replayFrom cur f, ∀ s ∈ t.2.2, P s := by
  induction f generalizing cur with
  | nil => intro t ht; cases ht
  | cons kp rest ih =>
    rw [List.forall_mem_cons] at hf
    have hg : ∀ s ∈ stepPoint cur kp.2, P s := fun s hs => (mem_stepPoint hs).elim (hc s) (hf.1 s)
    rw [replayFrom, List.forall_mem_cons]
    exact ⟨hg, ih _ hg hf.2⟩

theorem mem_replayFrom_key (f : Fmts) (cur : List Setting) :
    ∀ t ∈ replayFrom cur f, ∃ kp ∈ f, kp.1 = t.1 := by
  induction f generalizing cur with
  | nil => intro t ht; cases ht
  | cons kp rest ih =>
    rw [replayFrom, List.forall_mem_cons]
    refine ⟨⟨kp, by simp, rfl⟩, fun t ht => ?_⟩
    obtain ⟨kp', hkp, e⟩ := ih _ t ht
    exact ⟨kp', List.mem_cons_of_mem _ hkp, e⟩

theorem pairwise_replayFrom (f : Fmts) (hs : SortedKeys f) (cur : List Setting) :
    (replayFrom cur f).Pairwise (fun a b => a.1 < b.1) := by
  induction f generalizing cur with
  | nil => exact List.Pairwise.nil
  | cons kp rest ih =>
    refine List.pairwise_cons.mpr ⟨fun t ht => ?_, ih (Fmts.sorted_tail hs) _⟩
    obtain ⟨kp', hkp, e⟩ := mem_replayFrom_key rest _ t ht
    exact e ▸ Fmts.sorted_head_lt hs kp' hkp

theorem mem_settingsToDict {ss : List Setting} {old : PyDict} {kv : Nat × Setting}
    (h : kv ∈ settingsToDict ss old) :
    kv ∈ old ∨ (kv.2 ∈ ss ∧ SettingTxt.initialParam kv.2.txt = some (kv.1, Gen.fnApply)) := by
  induction ss generalizing old with
  | nil => exact Or.inl h
  | cons s ss ih =>
    rw [Eff.settingsToDict_cons] at h
    rcases ih h with h1 | h1
    · unfold Eff.dictStep at h1
      split at h1
      · exact Or.inl h1
      · rename_i eff fn heq
        split at h1
        · rename_i hfn
          rcases Eff.mem_insert h1 with e | e
          · right
            have hfn' : fn = Gen.fnApply := by simpa using hfn
            subst e
            exact ⟨by simp, by rw [heq, hfn']⟩
          · exact Or.inl e
        · split at h1
          · exact Or.inl (List.mem_filter.mp h1).1
          · cases h1
    · exact Or.inr ⟨List.mem_cons_of_mem _ h1.1, h1.2⟩

/-! ## One loop iteration -/

/-- the output before the codes of this iteration are appended -/
def stepPre (s : Str) (rs : Bool) (st : Render.St) (idx : Nat) : Str :=
  (if st.first ∧ idx > 0 ∧ rs then st.out ++ Gen.escapeClear else st.out) ++ (s.take idx).drop st.last

/-- `codes_str` before optimisation -/
def baseCodes (p : Point) (cur : List Setting) : Str :=
  joinSep Gen.ansiSep
    (if !p.rem.isEmpty ∧ !(texts cur).isEmpty then Py.natStr Gen.paramReset :: texts cur else texts cur)

/-- `optimized_codes_str` -/
def optCodes (old : PyDict) (cur : List Setting) : Str :=
  joinSep Gen.ansiSep
    ((old.filter (fun kv => !(settingsToDict cur []).contains kv.1)).map (fun kv => Render.clearCode kv.1) ++
     ((settingsToDict cur []).filter (fun kv =>
          match old.get? kv.1 with
          | none => true
          | some v => v.txt != kv.2.txt)).map (fun kv => kv.2.txt))

/-- `(apply_to_out_str, codes_str)` at the end of the iteration -/
def emitAC (o rs : Bool) (old : PyDict) (idx : Nat) (p : Point) (cur : List Setting) : Bool × Str :=
  let codes := baseCodes p cur
  let ac : Bool × Str :=
    if o then
      (if (optCodes old cur).isEmpty then (false, codes)
       else if (optCodes old cur).length < codes.length then (true, optCodes old cur) else (true, codes))
    else (true, codes)
  if idx = 0 ∧ rs then (true, joinSep Gen.ansiSep [Py.natStr Gen.paramReset, ac.2]) else ac

/-- `emitAC` before the reset that `reset_start` puts in front at index 0: the optimised string when
    it is not empty and shorter, nothing when it is empty, the plain string otherwise -/
def chosen (o : Bool) (old : PyDict) (p : Point) (cur : List Setting) : Bool × Str :=
  if o then
    (if (optCodes old cur).isEmpty then (false, baseCodes p cur)
     else if (optCodes old cur).length < (baseCodes p cur).length then (true, optCodes old cur)
     else (true, baseCodes p cur))
  else (true, baseCodes p cur)

theorem emitAC_eq (o rs : Bool) (old : PyDict) (idx : Nat) (p : Point) (cur : List Setting) :
    emitAC o rs old idx p cur =
      if idx = 0 ∧ rs then (true, joinSep Gen.ansiSep [Py.natStr Gen.paramReset, (chosen o old p cur).2])
      else chosen o old p cur := rfl

theorem chosen_ind {P : Bool × Str → Prop} {o : Bool} {old : PyDict} {p : Point} {cur : List Setting}
    (hb : P (true, baseCodes p cur)) (he : o = true → optCodes old cur = [] → P (false, baseCodes p cur))
    (ho : o = true → optCodes old cur ≠ [] → P (true, optCodes old cur)) : P (chosen o old p cur) := by
  unfold chosen
  cases o with
  | false => exact hb
  | true =>
    rw [if_pos rfl]
    by_cases hE : (optCodes old cur).isEmpty = true
    · rw [if_pos hE]
      exact he rfl (List.isEmpty_iff.1 hE)
    · rw [if_neg hE]
      split
      · exact ho rfl (fun e => hE (List.isEmpty_iff.2 e))
      · exact hb

theorem step_out (s : Str) (o rs : Bool) (st : Render.St) (idx : Nat) (p : Point) (cur : List Setting) :
    (Render.step s o rs st (idx, p, cur)).out =
      if (emitAC o rs st.dict idx p cur).1
      then stepPre s rs st idx ++ Render.sgr (emitAC o rs st.dict idx p cur).2
      else stepPre s rs st idx := by
  cases o <;> rfl

theorem step_last (s : Str) (o rs : Bool) (st : Render.St) (idx : Nat) (p : Point) (cur : List Setting) :
    (Render.step s o rs st (idx, p, cur)).last = idx := rfl

theorem step_first (s : Str) (o rs : Bool) (st : Render.St) (t : Nat × Point × List Setting) :
    (Render.step s o rs st t).first = false := rfl

theorem step_dict (s : Str) (o rs : Bool) (st : Render.St) (idx : Nat) (p : Point) (cur : List Setting) :
    (Render.step s o rs st (idx, p, cur)).dict = if o then settingsToDict cur [] else st.dict := rfl

section
variable {C : Str → Prop}

theorem Codes.base (hC : Codes C) (p : Point) {cur : List Setting}
    (h : ∀ s ∈ cur, C s.txt) : C (baseCodes p cur) := by
  have ht : ∀ a ∈ texts cur, C a := List.forall_mem_map.2 h
  unfold baseCodes
  apply hC.join
  split
  · exact List.forall_mem_cons.2 ⟨hC.reset, ht⟩
  · exact ht

theorem Codes.opt (hC : Codes C) (old : PyDict) {cur : List Setting}
    (h : ∀ s ∈ cur, C s.txt) : C (optCodes old cur) := by
  unfold optCodes
  apply hC.join
  intro a ha
  rcases List.mem_append.mp ha with ha | ha
  · obtain ⟨kv, _, rfl⟩ := List.mem_map.mp ha
    exact hC.clear _
  · obtain ⟨kv, hkv, rfl⟩ := List.mem_map.mp ha
    rcases mem_settingsToDict (List.mem_filter.mp hkv).1 with h0 | h0
    · cases h0
    · exact h kv.2 h0.1

theorem Codes.emit (hC : Codes C) (o rs : Bool) (old : PyDict) (idx : Nat) (p : Point)
    {cur : List Setting} (h : ∀ s ∈ cur, C s.txt) : C (emitAC o rs old idx p cur).2 := by
  have hb := hC.base p h
  have hc : C (chosen o old p cur).2 :=
    chosen_ind (P := fun ac => C ac.2) hb (fun _ _ => hb) (fun _ _ => hC.opt old h)
  rw [emitAC_eq]
  split
  · exact hC.sep hC.reset hc
  · exact hc

end

theorem take_append_seg (s : Str) {last idx : Nat} (h : last ≤ idx) :
    s.take last ++ (s.take idx).drop last = s.take idx := by
  have h1 : s.take last = (s.take idx).take last := by
    rw [List.take_take, Nat.min_eq_left h]
  rw [h1, List.take_append_drop]

/-! ## The whole loop -/

/-- the change points the rendering loop visits -/
def pts (x : AStr) : List (Nat × Point × List Setting) :=
  (replay x.fmts).takeWhile (fun t => t.1 < x.len)

theorem pts_pairwise {x : AStr} (hs : SortedKeys x.fmts) : (pts x).Pairwise (fun a b => a.1 < b.1) :=
  (pairwise_replayFrom x.fmts hs []).sublist (List.takeWhile_sublist _)

theorem forall_pts {P : Setting → Prop} {x : AStr} (h : ∀ kp ∈ x.fmts, ∀ s ∈ kp.2.add, P s) :
    ∀ t ∈ pts x, ∀ s ∈ t.2.2, P s :=
  fun t ht => forall_mem_replayFrom x.fmts [] (fun _ h => by cases h) h t
    ((List.takeWhile_sublist _).subset ht)

theorem nonFinal_of_formattingValid {x : AStr} (h : x.isFormattingValid = true) :
    ∀ kp ∈ x.fmts, ∀ s ∈ kp.2.add, NonFinal s.txt :=
  fun kp hkp s hs => nonFinal_of_valid (List.all_eq_true.mp (List.all_eq_true.mp h kp hkp) s hs)

/-- the part of `to_str` after the loop -/
def finish (s : Str) (rs re : Bool) (st : Render.St) : Str :=
  if st.exist ∧ re then
    (if st.first ∧ rs then st.out ++ Gen.escapeClear else st.out) ++ s.drop st.last ++ Gen.escapeClear
  else (if st.first ∧ rs then st.out ++ Gen.escapeClear else st.out) ++ s.drop st.last

theorem render_eq_finish (x : AStr) (o rs re : Bool) :
    Render.render x o rs re =
      finish x.s rs re ((pts x).foldl (Render.step x.s (o && x.isFormattingParsable) rs) {}) := rfl

theorem foldl_step_first (s : Str) (o rs : Bool) (l : List (Nat × Point × List Setting)) (st : Render.St)
    (h : st.first = false) : (l.foldl (Render.step s o rs) st).first = false := by
  induction l generalizing st with
  | nil => exact h
  | cons t l ih => exact ih _ (step_first s o rs st t)

theorem finish_of_not_first (s : Str) (rs re : Bool) {st : Render.St} (h : st.first = false) :
    finish s rs re st = st.out ++ (s.drop st.last ++ if st.exist ∧ re then Gen.escapeClear else []) := by
  unfold finish
  split <;> simp [h]

/-! ## What the loop writes: pieces of the text and SGR sequences -/

/-- `R out txt` holds of the pieces `to_str` writes, and of what they make up: text without ESC,
    standing for itself, and a sequence `sgr c` with `C c`, standing for nothing. -/
structure Pieces (C : Str → Prop) (R : Str → Str → Prop) : Prop where
  codes : Codes C
  append : ∀ {a x b y : Str}, R a x → R b y → R (a ++ b) (x ++ y)
  text : ∀ {a : Str}, '\x1b' ∉ a → R a a
  sgr : ∀ {c : Str}, C c → R (Render.sgr c) []

section
variable {C : Str → Prop} {R : Str → Str → Prop}

theorem Pieces.append_sgr (hR : Pieces C R) {a x c : Str}
    (h : R a x) (hc : C c) : R (a ++ Render.sgr c) x := by
  simpa using hR.append h (hR.sgr hc)

theorem Pieces.append_clear (hR : Pieces C R) {a x : Str}
    (h : R a x) : R (a ++ Gen.escapeClear) x :=
  escapeClear_sgr ▸ hR.append_sgr h hR.codes.nil

theorem Pieces.ite_clear (hR : Pieces C R) {a x : Str}
    (h : R a x) (c : Prop) [Decidable c] : R (if c then a ++ Gen.escapeClear else a) x := by
  split
  · exact hR.append_clear h
  · exact h

theorem Pieces.stepPre (hR : Pieces C R) {s : Str}
    (hn : NoEsc s) (rs : Bool) {st : Render.St} (idx : Nat) {T : Str} (h : R st.out T) :
    R (stepPre s rs st idx) (T ++ (s.take idx).drop st.last) :=
  hR.append (hR.ite_clear h _) (hR.text fun hm => hn (List.mem_of_mem_take (List.mem_of_mem_drop hm)))

theorem Pieces.step (hR : Pieces C R) {s : Str}
    (hn : NoEsc s) (o rs : Bool) {st : Render.St} {idx : Nat} (p : Point) {cur : List Setting}
    (hg : ∀ s ∈ cur, C s.txt) {T : Str} (h : R st.out T) :
    R (Render.step s o rs st (idx, p, cur)).out (T ++ (s.take idx).drop st.last) := by
  rw [step_out]
  split
  · exact hR.append_sgr (hR.stepPre hn rs idx h) (hR.codes.emit o rs st.dict idx p hg)
  · exact hR.stepPre hn rs idx h

theorem Pieces.finish (hR : Pieces C R) {s : Str}
    (hn : NoEsc s) (rs re : Bool) {st : Render.St} {T : Str} (h : R st.out T) :
    R (finish s rs re st) (T ++ s.drop st.last) := by
  have h1 := hR.append (hR.ite_clear h (st.first ∧ rs))
    (hR.text (a := s.drop st.last) fun hm => hn (List.mem_of_mem_drop hm))
  unfold RenderStripL.finish
  split
  · exact hR.append_clear h1
  · exact h1

end

theorem strips_pieces : Pieces NonFinal Strips := ⟨nonFinal_codes, Strips.append, Strips.text, Strips.sgr⟩

/-- with ascending change points the pieces of the text add up to its prefix at the last point -/
theorem strips_foldl {s : Str} (hn : NoEsc s) (o rs : Bool) (pts : List (Nat × Point × List Setting))
    (st : Render.St)
    (hpw : pts.Pairwise (fun a b => a.1 < b.1)) (hle : ∀ t ∈ pts, st.last ≤ t.1)
    (hg : ∀ t ∈ pts, ∀ s ∈ t.2.2, NonFinal s.txt) (h : Strips st.out (s.take st.last)) :
    Strips (pts.foldl (Render.step s o rs) st).out (s.take (pts.foldl (Render.step s o rs) st).last) := by
  induction pts generalizing st with
  | nil => exact h
  | cons t pts ih =>
    obtain ⟨idx, p, cur⟩ := t
    rw [List.forall_mem_cons] at hle hg
    rw [List.pairwise_cons] at hpw
    have := strips_pieces.step hn o rs (idx := idx) p hg.1 h
    rw [take_append_seg s hle.1] at this
    exact ih _ hpw.2 (fun t' ht' => Nat.le_of_lt (hpw.1 t' ht')) hg.2 this

theorem strips_render {x : AStr} (hs : SortedKeys x.fmts) (hv : x.isFormattingValid = true)
    (hn : NoEsc x.s) (o rs re : Bool) : Strips (Render.render x o rs re) x.s := by
  have := strips_pieces.finish hn rs re (strips_foldl hn (o && x.isFormattingParsable) rs (pts x) {}
    (pts_pairwise hs) (fun _ _ => Nat.zero_le _) (forall_pts (nonFinal_of_formattingValid hv)) Strips.nil)
  rwa [List.take_append_drop] at this

/-! ## Without optimisation every iteration emits the active settings verbatim -/

/-- `"0;"`: the reset parameter followed by the separator -/
def zeroSep : Str := Py.natStr Gen.paramReset ++ Gen.ansiSep

theorem joinSep_cons_cons (sep a b : Str) (rest : List Str) :
    joinSep sep (a :: b :: rest) = a ++ sep ++ joinSep sep (b :: rest) := rfl

theorem baseCodes_eq (p : Point) (cur : List Setting) :
    baseCodes p cur = joinSep Gen.ansiSep (texts cur) ∨
    baseCodes p cur = zeroSep ++ joinSep Gen.ansiSep (texts cur) := by
  unfold baseCodes
  split
  · rename_i h
    right
    cases hc : texts cur with
    | nil => simp [hc] at h
    | cons a rest => rw [joinSep_cons_cons]; rfl
  · exact Or.inl rfl

theorem emitAC_false (rs : Bool) (old : PyDict) (idx : Nat) (p : Point) (cur : List Setting) :
    ∃ pfx, (pfx = [] ∨ pfx = zeroSep ∨ pfx = zeroSep ++ zeroSep) ∧
      emitAC false rs old idx p cur = (true, pfx ++ joinSep Gen.ansiSep (texts cur)) := by
  have hj : ∀ c : Str, joinSep Gen.ansiSep [Py.natStr Gen.paramReset, c] = zeroSep ++ c := fun _ => rfl
  rw [emitAC_eq, show chosen false old p cur = (true, baseCodes p cur) from rfl]
  split
  · rcases baseCodes_eq p cur with e | e
    · exact ⟨zeroSep, Or.inr (Or.inl rfl), by rw [hj, e]⟩
    · exact ⟨zeroSep ++ zeroSep, Or.inr (Or.inr rfl), by rw [hj, e, List.append_assoc]⟩
  · rcases baseCodes_eq p cur with e | e
    · exact ⟨[], Or.inl rfl, by rw [e]; rfl⟩
    · exact ⟨zeroSep, Or.inr (Or.inl rfl), by rw [e]⟩

theorem step_out_prefix (s : Str) (o rs : Bool) (st : Render.St) (t : Nat × Point × List Setting) :
    ∃ a, (Render.step s o rs st t).out = st.out ++ a := by
  obtain ⟨idx, p, cur⟩ := t
  obtain ⟨a, ha⟩ : ∃ a, stepPre s rs st idx = st.out ++ a := by
    unfold stepPre
    split
    · exact ⟨_, List.append_assoc _ _ _⟩
    · exact ⟨_, rfl⟩
  rw [step_out, ha]
  split
  · exact ⟨_, List.append_assoc _ _ _⟩
  · exact ⟨_, rfl⟩

theorem foldl_out_prefix (s : Str) (o rs : Bool) (l : List (Nat × Point × List Setting)) (st : Render.St) :
    ∃ a, (l.foldl (Render.step s o rs) st).out = st.out ++ a := by
  induction l generalizing st with
  | nil => exact ⟨[], by simp⟩
  | cons t l ih =>
    rw [List.foldl_cons]
    obtain ⟨a, ha⟩ := ih (Render.step s o rs st t)
    obtain ⟨b, hb⟩ := step_out_prefix s o rs st t
    exact ⟨b ++ a, by rw [ha, hb, List.append_assoc]⟩

theorem foldl_emit_false (s : Str) (rs : Bool) (l1 l2 : List (Nat × Point × List Setting))
    (idx : Nat) (p : Point) (cur : List Setting) (st : Render.St) :
    ∃ pfx post, (pfx = [] ∨ pfx = zeroSep ∨ pfx = zeroSep ++ zeroSep) ∧
      ((l1 ++ (idx, p, cur) :: l2).foldl (Render.step s false rs) st).out =
        stepPre s rs (l1.foldl (Render.step s false rs) st) idx ++
          Render.sgr (pfx ++ joinSep Gen.ansiSep (texts cur)) ++ post := by
  rw [List.foldl_append, List.foldl_cons]
  generalize l1.foldl (Render.step s false rs) st = st1
  obtain ⟨pfx, hp, he⟩ := emitAC_false rs st1.dict idx p cur
  obtain ⟨post, hpost⟩ := foldl_out_prefix s false rs l2 (Render.step s false rs st1 (idx, p, cur))
  refine ⟨pfx, post, hp, ?_⟩
  rw [hpost, step_out, he]
  simp

theorem foldl_last_le (s : Str) (o rs : Bool) (l : List (Nat × Point × List Setting)) (st : Render.St)
    {k : Nat} (h0 : st.last ≤ k) (h : ∀ t ∈ l, t.1 ≤ k) : (l.foldl (Render.step s o rs) st).last ≤ k := by
  induction l generalizing st with
  | nil => exact h0
  | cons t l ih =>
    rw [List.forall_mem_cons] at h
    exact ih _ h.1 h.2

theorem mem_takeWhile_replayFrom (f : Fmts) (hs : SortedKeys f) (cur : List Setting) (n k : Nat)
    (hk : k ∈ f.keys) (hlt : k < n) :
    ∃ p, (k, p, activeFrom cur f k) ∈ (replayFrom cur f).takeWhile (fun t => t.1 < n) := by
  induction f generalizing cur with
  | nil => simp [Fmts.keys] at hk
  | cons kp rest ih =>
    obtain ⟨k0, p0⟩ := kp
    have hlt0 := Fmts.sorted_head_lt hs
    simp only [Fmts.keys, List.map_cons, List.mem_cons] at hk
    simp only [replayFrom, activeFrom]
    rcases hk with rfl | hk
    · refine ⟨p0, ?_⟩
      have hact : activeFrom (stepPoint cur p0) rest k = stepPoint cur p0 := by
        cases rest with
        | nil => rfl
        | cons kp' rest' =>
          have : k < kp'.1 := hlt0 kp' (by simp)
          simp only [activeFrom]
          rw [if_neg (Nat.not_le_of_lt this)]
      rw [List.takeWhile_cons]
      simp [hlt, hact]
    · obtain ⟨kp, hkp, e⟩ := List.mem_map.mp hk
      have h0 : k0 < k := by have := hlt0 kp hkp; simpa [e] using this
      obtain ⟨p, hp⟩ := ih (Fmts.sorted_tail hs) (stepPoint cur p0) hk
      refine ⟨p, ?_⟩
      rw [List.takeWhile_cons]
      have : k0 < n := Nat.lt_trans h0 hlt
      simp only [this, decide_true, if_true, if_pos (Nat.le_of_lt h0)]
      exact List.mem_cons_of_mem _ hp

theorem mem_pts {x : AStr} (hs : SortedKeys x.fmts) {k : Nat} (hk : k ∈ x.fmts.keys) (hlt : k < x.len) :
    ∃ p, (k, p, active x.fmts k) ∈ pts x :=
  mem_takeWhile_replayFrom x.fmts hs [] x.len k hk hlt

theorem settingsAt_eq (x : AStr) {k : Nat} (h : k < x.len) :
    x.settingsAt (k : Int) = joinSep Gen.ansiSep (texts (active x.fmts k)) := by
  unfold AStr.settingsAt AStr.ansiSettingsAt
  have hc : (0 : Int) ≤ (k : Int) ∧ (k : Int) < (x.len : Int) := ⟨Int.natCast_nonneg k, Int.ofNat_lt.2 h⟩
  rw [if_pos hc, ansiSep_eq]
  rfl

/-! ## Renderings that skip the loop -/

theorem render_nil {x : AStr} (h : x.fmts = []) (o rs re : Bool) :
    Render.render x o rs re = (if rs then Gen.escapeClear else []) ++ x.s := by
  cases rs <;> simp [Render.render, h, replay, replayFrom]

/-- `to_str()` / `format(x)`: the shortcut for an unformatted value returns what the loop would -/
theorem toStr_none (x : AStr) (o rs re : Bool) (nid : Nat) :
    x.toStr none o rs re nid = .ok (Render.render x o rs re) := by
  simp only [AStr.toStr, Bool.not_false, true_and, Bool.false_eq_true, if_false]
  split
  · rename_i h
    rw [render_nil (List.isEmpty_iff.1 h.1), (by simpa using h.2 : rs = false)]; rfl
  · rfl

/-- `format(x, '')` -/
theorem toStr_nil (x : AStr) (o rs re : Bool) (nid : Nat) :
    x.toStr (some []) o rs re nid = .ok (Render.render x o rs re) := toStr_none x o rs re nid

theorem str_eq_render (x : AStr) : x.str = Render.render x true false true := by
  unfold AStr.str AStr.str.Render.render'
  split
  · rename_i h
    rw [render_nil (List.isEmpty_iff.1 h)]; rfl
  · rfl

end RenderStripL
