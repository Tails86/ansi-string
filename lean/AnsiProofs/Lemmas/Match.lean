import AnsiProofs.Props.C06
import AnsiProofs.Props.C07
/-
  Lemmas for property C16 (`format_matching`, `unformat_matching`): `Fmts.nextId` is above every
  identity of the table; `takeCount` is the `count` bookkeeping of the Python loop; one iteration
  (`apply_formatting_for_match`, `remove_formatting` on the span of a match) keeps the text and `WF`
  and leaves every character outside the span alone, by the theorems of C06 and C07; hence so does
  the loop, a `List.foldlM` in `Except` (`fold_spec`).
-/

namespace MatchL

/-! ## `nextId` -/

theorem foldl_max_id (l : List Setting) (m : Nat) :
    m ≤ l.foldl (fun m s => max m (s.id + 1)) m ∧
      ∀ s ∈ l, s.id < l.foldl (fun m s => max m (s.id + 1)) m := by
  induction l generalizing m with
  | nil => exact ⟨Nat.le_refl _, fun _ h => nomatch h⟩
  | cons t l ih =>
    obtain ⟨h1, h2⟩ := ih (max m (t.id + 1))
    rw [List.foldl_cons]
    refine ⟨Nat.le_trans (Nat.le_max_left ..) h1, fun s hs => ?_⟩
    rcases List.mem_cons.mp hs with rfl | hs
    · exact Nat.le_trans (Nat.le_max_right ..) h1
    · exact h2 s hs

theorem nextId_fresh (x : AStr) : FreshFrom x x.fmts.nextId := by
  have h : x.fmts.nextId = x.fmts.settings.foldl (fun m s => max m (s.id + 1)) 0 :=
    List.foldl_flatMap.symm
  rw [h]
  exact (foldl_max_id _ 0).2

/-! ## `takeCount` -/

theorem takeCount_nil (c : Int) : takeCount c [] = [] := by
  unfold takeCount
  split
  · rfl
  · exact List.take_nil

theorem takeCount_zero (spans : List (Int × Int)) : takeCount 0 spans = [] := rfl

/-- one round of the Python loop: `if count < 0 or count > 0: …; if count > 0: count -= 1` -/
theorem takeCount_cons {c : Int} (h : c ≠ 0) (se : Int × Int) (rest : List (Int × Int)) :
    takeCount c (se :: rest) = se :: takeCount (if c > 0 then c - 1 else c) rest := by
  by_cases hc : c < 0
  · simp only [takeCount, if_pos hc, if_neg (Int.lt_asymm hc)]
  · obtain ⟨h1, h2, h3⟩ : c > 0 ∧ ¬ c - 1 < 0 ∧ c.toNat = (c - 1).toNat + 1 := by omega
    simp only [takeCount, if_neg hc, if_pos h1, if_neg h2, h3, List.take_succ_cons]

theorem takeCount_sublist (c : Int) (spans : List (Int × Int)) : (takeCount c spans).Sublist spans := by
  unfold takeCount
  split
  · exact List.Sublist.refl _
  · exact List.take_sublist _ _

/-! ## one iteration -/

theorem applyRaw_congr {a b : SArg} (ht : a.truthy = b.truthy) (hs : Scrub.scrub a = Scrub.scrub b)
    (x : AStr) (nid : Nat) (st en : Option Int) (top : Bool) :
    x.applyRaw nid a st en top = x.applyRaw nid b st en top := by
  unfold AStr.applyRaw
  rw [ht, hs]

theorem applyRaw_falsy {a : SArg} (ha : a.truthy = false) (x : AStr) (nid : Nat) (st en : Option Int)
    (top : Bool) : x.applyRaw nid a st en top = .ok x := by
  simp [AStr.applyRaw, ha]

theorem removeRaw_falsy {a : SArg} (ha : a.truthy = false) (x : AStr) (st en : Option Int) :
    x.removeRaw (some a) st en = .ok x := by
  simp [AStr.removeRaw, ha]

theorem applyRaw_step {x y : AStr} {nid : Nat} (hf : FreshFrom x nid) {a : SArg} {st en : Option Int}
    {top : Bool} (h : x.applyRaw nid a st en top = .ok y) :
    y.s = x.s ∧ (WF x → WF y ∧ ∀ i : Nat,
      (i < sliceIdx x.len st 0 ∨ sliceIdx x.len en x.len ≤ i) → act y i = act x i) := by
  rcases applyRaw_spec x y nid a st en top h with rfl | ⟨ts, _, rfl⟩
  · exact ⟨rfl, fun hw => ⟨hw, fun _ _ => rfl⟩⟩
  · have hN := freshSettings_fresh x nid ts hf
    exact ⟨apply_text .., fun hw => ⟨apply_wf _ _ _ _ _ hw hN, apply_outside x _ _ _ _ rfl rfl hw hN⟩⟩

theorem removeRaw_step {x y : AStr} {a : Option SArg} {st en : Option Int} (h : x.removeRaw a st en = .ok y) :
    y.s = x.s ∧ (WF x → WF y ∧ ∀ i : Nat,
      (i < sliceIdx x.len st 0 ∨ sliceIdx x.len en x.len ≤ i) → act y i = act x i) := by
  rcases removeRaw_spec x a st en y h with rfl | ⟨_, rfl⟩ | ⟨_, ts, _, _, rfl⟩
  · exact ⟨rfl, fun hw => ⟨hw, fun _ _ => rfl⟩⟩
  · exact ⟨remove_text .., fun hw => ⟨remove_wf x hw .., remove_outside x hw none st en⟩⟩
  · exact ⟨remove_text .., fun hw => ⟨remove_wf x hw .., remove_outside x hw (some ts) st en⟩⟩

/-! ## the loop -/

theorem foldlM_inv {α β : Type} {f : β → α → Except PyErr β} {P : β → Prop} :
    ∀ (l : List α) {b b' : β}, (∀ a ∈ l, ∀ b b', P b → f b a = .ok b' → P b') →
      P b → l.foldlM f b = .ok b' → P b'
  | [], _, _, _, hb, h => by cases h; exact hb
  | a :: l, b, _, hf, hb, h => by
    rw [List.foldlM_cons] at h
    cases hfa : f b a with
    | error e => rw [hfa] at h; cases h
    | ok c =>
      rw [hfa] at h
      exact foldlM_inv l (fun a' ha' => hf a' (List.mem_cons_of_mem _ ha'))
        (hf a List.mem_cons_self b c hb hfa) h

theorem fold_spec {step : AStr → Int × Int → Except PyErr AStr}
    (hstep : ∀ {x y : AStr} {se : Int × Int}, step x se = .ok y → y.s = x.s ∧ (WF x → WF y ∧ ∀ i : Nat,
      (i < sliceIdx x.len (some se.1) 0 ∨ sliceIdx x.len (some se.2) x.len ≤ i) → act y i = act x i))
    (l : List (Int × Int)) {x z : AStr} (h : l.foldlM step x = .ok z) :
    z.s = x.s ∧ (WF x → WF z ∧ ∀ i : Nat,
      (∀ se ∈ l, i < sliceIdx x.len (some se.1) 0 ∨ sliceIdx x.len (some se.2) x.len ≤ i) →
      act z i = act x i) := by
  refine foldlM_inv (P := fun z => z.s = x.s ∧ (WF x → WF z ∧ ∀ i : Nat,
    (∀ se ∈ l, i < sliceIdx x.len (some se.1) 0 ∨ sliceIdx x.len (some se.2) x.len ≤ i) →
    act z i = act x i)) l ?_ ⟨rfl, fun hw => ⟨hw, fun _ _ => rfl⟩⟩ h
  intro se hse y z ⟨ty, ry⟩ hyz
  obtain ⟨tz, rz⟩ := hstep hyz
  refine ⟨tz.trans ty, fun hw => ?_⟩
  obtain ⟨wy, oy⟩ := ry hw
  obtain ⟨wz, oz⟩ := rz wy
  have hl : y.len = x.len := congrArg List.length ty
  exact ⟨wz, fun i hi => (oz i (by rw [hl]; exact hi se hse)).trans (oy i hi)⟩

theorem fold_falsy {step : AStr → Int × Int → Except PyErr AStr}
    (h : ∀ x se, step x se = .ok x) (l : List (Int × Int)) (x : AStr) : l.foldlM step x = .ok x := by
  induction l with
  | nil => rfl
  | cons se l ih => rw [List.foldlM_cons, h]; exact ih

/-! ## the two methods -/

theorem formatMatching_congr {a b : SArg} (ht : a.truthy = b.truthy) (hs : Scrub.scrub a = Scrub.scrub b)
    (x : AStr) (spans : List (Int × Int)) (count : Int) :
    x.formatMatching a spans count = x.formatMatching b spans count := by
  unfold AStr.formatMatching
  simp only [applyRaw_congr ht hs]

theorem formatMatching_spec {x y : AStr} {a : SArg} {spans : List (Int × Int)} {count : Int}
    (h : x.formatMatching a spans count = .ok y) :
    y.s = x.s ∧ (WF x → WF y ∧ ∀ i : Nat,
      (∀ se ∈ takeCount count spans,
        i < sliceIdx x.len (some se.1) 0 ∨ sliceIdx x.len (some se.2) x.len ≤ i) → act y i = act x i) :=
  fold_spec (applyRaw_step (nextId_fresh _)) _ h

theorem unformatMatching_spec {x y : AStr} {a : Option SArg} {spans : List (Int × Int)} {count : Int}
    (h : x.unformatMatching a spans count = .ok y) :
    y.s = x.s ∧ (WF x → WF y ∧ ∀ i : Nat,
      (∀ se ∈ takeCount count spans,
        i < sliceIdx x.len (some se.1) 0 ∨ sliceIdx x.len (some se.2) x.len ≤ i) → act y i = act x i) :=
  fold_spec removeRaw_step _ h

end MatchL
