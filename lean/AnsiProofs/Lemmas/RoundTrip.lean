import AnsiProofs.Props.C01
import AnsiProofs.Props.C02b
import AnsiProofs.Props.C15b
import AnsiProofs.Props.C15
/-
  Lemmas for property C03 (round trip `AnsiString(str(s))`, `simplify()`).

  * every SGR sequence `Render.render` emits has decimal parameters only (`Term.wellFormed` of a
    rendering), so `C02b.parse_style_den` applies to renderings;
  * dropping a set of setting objects (here: the invalid ones) from every start and stop marker keeps
    `WF`; each character reports its previous settings minus the dropped ones;
  * for ANY input (no well-formedness assumption), every text that
    `parse_graphic_sequence(…, add_erroneous=False)` hands to `settings_to_dict` and that is filed in
    the dict is parsable and a group text; hence so is every setting `set_ansi_str` puts into a table.
-/

open Term Eff RenderStripL ParseTextL ParseTextL.C02Spec ParseStyleL

namespace RoundTripL

/-! ## renderings are well-formed inputs for the terminal -/

/-- the well-formedness scanner passes over `o` from text mode to text mode; so every SGR sequence inside `o`
    has decimal parameters only -/
def Passes (o : List Char) : Prop :=
  ∀ rest, Term.wellFormedAux .text (o ++ rest) = Term.wellFormedAux .text rest

theorem Passes.nil : Passes [] := fun _ => rfl

theorem Passes.append {a b : List Char} (h1 : Passes a) (h2 : Passes b) : Passes (a ++ b) := by
  intro rest
  rw [List.append_assoc, h1, h2]

theorem wf_text_cons (c : Char) (hc : c ≠ '\x1b') (rest : List Char) :
    Term.wellFormedAux .text (c :: rest) = Term.wellFormedAux .text rest := by
  rw [Term.wellFormedAux.eq_3]
  intro r h; exact absurd h hc

theorem Passes.text {a : List Char} (h : '\x1b' ∉ a) : Passes a := by
  intro rest
  induction a with
  | nil => rfl
  | cons c a ih =>
    have hc : c ≠ '\x1b' := by intro e; apply h; simp [e]
    have ha : '\x1b' ∉ a := fun hm => h (List.mem_cons_of_mem _ hm)
    rw [List.cons_append, wf_text_cons c hc, ih ha]

theorem wf_seq_append {codes : List Char} (h : NonFinal codes) (ps rest : List Char) :
    Term.wellFormedAux (.seq ps) (codes ++ rest) = Term.wellFormedAux (.seq (ps ++ codes)) rest := by
  induction codes generalizing ps with
  | nil => simp
  | cons c cs ih =>
    have hc : Term.isFinal c = false := h c (by simp)
    have hcs : NonFinal cs := fun d hd => h d (List.mem_cons_of_mem _ hd)
    rw [List.cons_append, Term.wellFormedAux.eq_5, hc]
    simp only [Bool.false_eq_true, if_false]
    rw [ih hcs]
    simp

/-- codes that may stand between `ESC [` and `m`: no final byte, every parameter decimal -/
def OKc (c : Str) : Prop := NonFinal c ∧ ParamsOK c

theorem wf_sgr {codes : List Char} (h : OKc codes) (rest : List Char) :
    Term.wellFormedAux .text ('\x1b' :: '[' :: (codes ++ 'm' :: rest)) = Term.wellFormedAux .text rest := by
  rw [Term.wellFormedAux.eq_2, wf_seq_append h.1, Term.wellFormedAux.eq_5]
  have hm : Term.isFinal 'm' = true := by decide
  have hp : (Term.params codes).all Option.isSome = true := h.2
  simp [hm, hp]

theorem Passes.sgr {codes : List Char} (h : OKc codes) : Passes (Render.sgr codes) := by
  intro rest
  unfold Render.sgr
  rw [sgrPrefix_eq, sgrSuffix_eq]
  simpa using wf_sgr h rest

theorem okc_nil : OKc [] := ⟨NonFinal.nil, by decide⟩

theorem Passes.escapeClear : Passes Gen.escapeClear := escapeClear_sgr ▸ Passes.sgr okc_nil

/-! ### parameter strings joined with `;` -/

theorem paramsOK_append_semi {a b : Str} (ha : ParamsOK a) (hb : ParamsOK b) : ParamsOK (a ++ ';' :: b) := by
  unfold ParamsOK at *
  rw [RenderL.params_append_semi, List.all_append, ha, hb]
  rfl

theorem okc_sep {a b : Str} (ha : OKc a) (hb : OKc b) : OKc (a ++ Gen.ansiSep ++ b) := by
  refine ⟨nonFinal_codes.sep ha.1 hb.1, ?_⟩
  rw [ansiSep_eq]
  simpa using paramsOK_append_semi ha.2 hb.2

/-! ### the pieces: group texts, `0`, clear codes -/

theorem okc_of_group {t : Str} (h : isGroupTxt t = true) : OKc t := by
  refine ⟨nonFinal_of_valid (RenderL.valid_of_group h), ?_⟩
  unfold ParamsOK
  rw [params_of_digits (isGroupTxt_spec h).1]
  simp

theorem okc_natStr (n : Nat) : OKc (Py.natStr n) := by
  refine ⟨nonFinal_natStr n, ?_⟩
  unfold ParamsOK
  rw [RenderL.params_natStr]
  rfl

theorem okc_clearCode (e : Nat) : OKc (Render.clearCode e) := by
  unfold Render.clearCode
  split
  · exact okc_natStr _
  · exact okc_nil

theorem okc_codes : Codes OKc := ⟨okc_nil, okc_sep, okc_natStr _, okc_clearCode⟩

theorem mem_settings_add {x : AStr} {kp : Nat × Point} (hkp : kp ∈ x.fmts) {s : Setting} (hs : s ∈ kp.2.add) :
    s ∈ x.fmts.settings :=
  List.mem_flatMap.2 ⟨kp, hkp, List.mem_append_left _ hs⟩

theorem groupSettings_valid {x : AStr} (hg : GroupSettings x) : x.isFormattingValid = true :=
  (C15.formatting_valid_iff x).2 fun _ hkp s hs => RenderL.valid_of_group (hg s (mem_settings_add hkp hs))

/-! ### the whole loop -/

theorem passes_pieces : Pieces OKc (fun o _ => Passes o) :=
  ⟨okc_codes, fun h1 h2 => h1.append h2, Passes.text, Passes.sgr⟩

theorem passes_foldl {s : Str} (hn : NoEsc s) (o rs : Bool) (pts : List (Nat × Point × List Setting))
    (st : Render.St) (hg : ∀ t ∈ pts, ∀ s ∈ t.2.2, OKc s.txt) (h : Passes st.out) :
    Passes (pts.foldl (Render.step s o rs) st).out := by
  induction pts generalizing st with
  | nil => exact h
  | cons t pts ih =>
    obtain ⟨idx, p, cur⟩ := t
    rw [List.forall_mem_cons] at hg
    exact ih _ hg.2 (passes_pieces.step hn o rs (idx := idx) p hg.1 (T := []) h)

/-- no order of the keys is needed: the pieces of the text pass wherever they are cut -/
theorem passes_render {x : AStr} (hg : GroupSettings x) (hn : NoEsc x.s) (o rs re : Bool) :
    Passes (Render.render x o rs re) :=
  passes_pieces.finish hn rs re (T := []) (passes_foldl hn _ rs (pts x) {}
    (forall_pts fun _ hkp s hs => okc_of_group (hg s (mem_settings_add hkp hs))) Passes.nil)

theorem Passes.wellFormed {o : List Char} (h : Passes o) : Term.wellFormed o = true := by
  have := h []
  rw [List.append_nil] at this
  unfold Term.wellFormed
  rw [this]
  rfl

/-! ## dropping setting objects from every marker -/

/-- keep only the markers of the objects selected by `p` -/
def dropPoint (p : Setting → Bool) (pt : Point) : Point :=
  { add := pt.add.filter p, rem := pt.rem.filter p }

def dropF (p : Setting → Bool) (f : Fmts) : Fmts := f.map (fun kp => (kp.1, dropPoint p kp.2))

/-- `p` does not tell apart two entries of `l` with the same identity -/
def Resp (p : Setting → Bool) (l : List Setting) : Prop := ∀ s ∈ l, ∀ t ∈ l, s.id = t.id → p s = p t

theorem Resp.mono {p : Setting → Bool} {l l' : List Setting} (h : Resp p l) (hs : ∀ s ∈ l', s ∈ l) :
    Resp p l' := fun s hs' t ht' e => h s (hs s hs') t (hs t ht') e

theorem eraseId_filter (p : Setting → Bool) (r : Setting) (cur : List Setting)
    (h : ∀ c ∈ cur, c.id = r.id → p c = p r) :
    (eraseId cur r.id).filter p = if p r then eraseId (cur.filter p) r.id else cur.filter p := by
  unfold eraseId
  induction cur with
  | nil => simp
  | cons c cs ih =>
    have ih' := ih (fun c' hc' => h c' (List.mem_cons_of_mem _ hc'))
    by_cases hid : c.id = r.id
    · have hpc := h c (by simp) hid
      have hb : (c.id == r.id) = true := by simpa using hid
      rw [List.eraseP_cons_of_pos (by simpa using hid)]
      by_cases hpr : p r = true
      · have : p c = true := hpc.trans hpr
        rw [if_pos hpr, List.filter_cons_of_pos this, List.eraseP_cons_of_pos (by simpa using hid)]
      · have : ¬ p c = true := by rw [hpc]; exact hpr
        rw [if_neg hpr, List.filter_cons_of_neg this]
    · rw [List.eraseP_cons_of_neg (by simpa using hid)]
      by_cases hpc : p c = true
      · rw [List.filter_cons_of_pos hpc, List.filter_cons_of_pos hpc, ih']
        by_cases hpr : p r = true
        · rw [if_pos hpr, if_pos hpr, List.eraseP_cons_of_neg (by simpa using hid)]
        · rw [if_neg hpr, if_neg hpr]
      · rw [List.filter_cons_of_neg hpc, List.filter_cons_of_neg hpc, ih']

theorem foldl_erase_filter (p : Setting → Bool) (rem cur : List Setting)
    (h : ∀ c ∈ cur, ∀ r ∈ rem, c.id = r.id → p c = p r) :
    (rem.foldl (fun c s => eraseId c s.id) cur).filter p =
      (rem.filter p).foldl (fun c s => eraseId c s.id) (cur.filter p) := by
  induction rem generalizing cur with
  | nil => rfl
  | cons r rest ih =>
    rw [List.foldl_cons]
    have h1 : ∀ c ∈ eraseId cur r.id, ∀ r' ∈ rest, c.id = r'.id → p c = p r' :=
      fun c hc r' hr' => h c (List.mem_of_mem_eraseP hc) r' (List.mem_cons_of_mem _ hr')
    rw [ih _ h1, eraseId_filter p r cur (fun c hc => h c hc r (by simp))]
    by_cases hpr : p r = true
    · rw [if_pos hpr, List.filter_cons_of_pos hpr, List.foldl_cons]
    · rw [if_neg hpr, List.filter_cons_of_neg hpr]

theorem stepPoint_filter (p : Setting → Bool) (cur : List Setting) (pt : Point)
    (h : ∀ c ∈ cur, ∀ r ∈ pt.rem, c.id = r.id → p c = p r) :
    (stepPoint cur pt).filter p = stepPoint (cur.filter p) (dropPoint p pt) := by
  unfold stepPoint dropPoint
  rw [List.filter_append, foldl_erase_filter p _ _ h]

theorem resp_step {p : Setting → Bool} {cur : List Setting} {k : Nat} {pt : Point} {rest : Fmts}
    (h : Resp p (cur ++ Fmts.settings ((k, pt) :: rest))) :
    Resp p (stepPoint cur pt ++ Fmts.settings rest) ∧
    ∀ c ∈ cur, ∀ r ∈ pt.rem, c.id = r.id → p c = p r := by
  rw [Fmts.settings_cons] at h
  constructor
  · apply h.mono
    intro s hs
    rcases List.mem_append.1 hs with hs | hs
    · rcases mem_stepPoint hs with hs | hs
      · exact List.mem_append_left _ hs
      · exact List.mem_append_right _ (List.mem_append_left _ (List.mem_append_left _ hs))
    · exact List.mem_append_right _ (List.mem_append_right _ hs)
  · intro c hc r hr e
    exact h c (List.mem_append_left _ hc) r
      (List.mem_append_right _ (List.mem_append_left _ (List.mem_append_right _ hr))) e

theorem activeFrom_drop (p : Setting → Bool) (f : Fmts) (cur : List Setting)
    (h : Resp p (cur ++ f.settings)) (i : Nat) :
    activeFrom (cur.filter p) (dropF p f) i = (activeFrom cur f i).filter p := by
  induction f generalizing cur with
  | nil => rfl
  | cons kp rest ih =>
    obtain ⟨k, pt⟩ := kp
    obtain ⟨h1, h2⟩ := resp_step h
    show activeFrom (cur.filter p) ((k, dropPoint p pt) :: dropF p rest) i = _
    simp only [activeFrom]
    split
    · rw [← stepPoint_filter p cur pt h2]
      exact ih _ h1
    · rfl

theorem stepOk_drop (p : Setting → Bool) (rem cur : List Setting)
    (h : ∀ c ∈ cur, ∀ r ∈ rem, c.id = r.id → p c = p r) (hok : stepOk cur rem = true) :
    stepOk (cur.filter p) (rem.filter p) = true := by
  induction rem generalizing cur with
  | nil => rfl
  | cons r rest ih =>
    rw [stepOk, Bool.and_eq_true] at hok
    have h1 : ∀ c ∈ eraseId cur r.id, ∀ r' ∈ rest, c.id = r'.id → p c = p r' :=
      fun c hc r' hr' => h c (List.mem_of_mem_eraseP hc) r' (List.mem_cons_of_mem _ hr')
    have ih' := ih _ h1 hok.2
    rw [eraseId_filter p r cur (fun c hc => h c hc r (by simp))] at ih'
    by_cases hpr : p r = true
    · rw [if_pos hpr] at ih'
      rw [List.filter_cons_of_pos hpr, stepOk, Bool.and_eq_true]
      refine ⟨?_, ih'⟩
      have := hok.1
      unfold hasId at this ⊢
      rw [List.any_eq_true] at this ⊢
      obtain ⟨c, hc, hid⟩ := this
      have hid' : c.id = r.id := by simpa using hid
      exact ⟨c, List.mem_filter.2 ⟨hc, (h c hc r (by simp) hid').trans hpr⟩, hid⟩
    · rw [if_neg hpr] at ih'
      rw [List.filter_cons_of_neg hpr]
      exact ih'

theorem replayOkFrom_drop (p : Setting → Bool) (f : Fmts) (cur : List Setting)
    (h : Resp p (cur ++ f.settings)) (hok : replayOkFrom cur f = true) :
    replayOkFrom (cur.filter p) (dropF p f) = true := by
  induction f generalizing cur with
  | nil => rfl
  | cons kp rest ih =>
    obtain ⟨k, pt⟩ := kp
    obtain ⟨h1, h2⟩ := resp_step h
    show replayOkFrom (cur.filter p) ((k, dropPoint p pt) :: dropF p rest) = true
    simp only [replayOkFrom, Bool.and_eq_true] at hok ⊢
    refine ⟨stepOk_drop p pt.rem cur h2 hok.1, ?_⟩
    rw [← stepPoint_filter p cur pt h2]
    exact ih _ h1 hok.2

theorem mem_dropF {p : Setting → Bool} {f : Fmts} {kp : Nat × Point} (h : kp ∈ dropF p f) :
    ∃ kp' ∈ f, kp = (kp'.1, dropPoint p kp'.2) := by
  obtain ⟨kp', h1, h2⟩ := List.mem_map.1 h
  exact ⟨kp', h1, h2.symm⟩

theorem settings_dropF {p : Setting → Bool} {f : Fmts} {s : Setting} (h : s ∈ (dropF p f).settings) :
    s ∈ f.settings ∧ p s = true := by
  unfold Fmts.settings at h ⊢
  obtain ⟨kp, hkp, hs⟩ := List.mem_flatMap.1 h
  obtain ⟨kp', hkp', rfl⟩ := mem_dropF hkp
  simp only [dropPoint] at hs
  rcases List.mem_append.1 hs with hs | hs
  · have := List.mem_filter.1 hs
    exact ⟨List.mem_flatMap.2 ⟨kp', hkp', List.mem_append_left _ this.1⟩, this.2⟩
  · have := List.mem_filter.1 hs
    exact ⟨List.mem_flatMap.2 ⟨kp', hkp', List.mem_append_right _ this.1⟩, this.2⟩

theorem resp_of_coherent {x : AStr} (hw : WF x) (q : Str → Bool) :
    Resp (fun s => q s.txt) ([] ++ x.fmts.settings) := by
  intro s hs t ht e
  simp only [List.nil_append] at hs ht
  show q s.txt = q t.txt
  rw [hw.coherent s hs t ht e]

theorem drop_act {x : AStr} (hw : WF x) (q : Str → Bool) (i : Nat) :
    act { x with fmts := dropF (fun s => q s.txt) x.fmts } i = (act x i).filter (fun s => q s.txt) :=
  activeFrom_drop _ x.fmts [] (resp_of_coherent hw q) i

theorem drop_wf {x : AStr} (hw : WF x) (q : Str → Bool) :
    WF { x with fmts := dropF (fun s => q s.txt) x.fmts } where
  sorted := by
    have := hw.sorted
    unfold SortedKeys dropF at *
    rw [List.pairwise_map]
    exact this
  bound := by
    intro kp hkp
    obtain ⟨kp', hkp', rfl⟩ := mem_dropF hkp
    exact hw.bound kp' hkp'
  noAddEnd := by
    intro kp hkp he
    obtain ⟨kp', hkp', rfl⟩ := mem_dropF hkp
    show kp'.2.add.filter _ = []
    rw [hw.noAddEnd kp' hkp' he]
    rfl
  ok := replayOkFrom_drop _ x.fmts [] (resp_of_coherent hw q) hw.ok
  nodup := by
    intro i
    have e := drop_act hw q i
    unfold act at e
    rw [e]
    exact (hw.nodup i).sublist (List.Sublist.map _ List.filter_sublist)
  closed := by
    have e := drop_act hw q x.len
    unfold act at e
    show active (dropF _ x.fmts) x.len = []
    rw [e, hw.closed]
    rfl
  coherent := by
    intro s hs t ht e
    exact hw.coherent s (settings_dropF hs).1 t (settings_dropF ht).1 e

theorem dropF_all {p : Setting → Bool} {f : Fmts} (h : ∀ s ∈ f.settings, p s = true) : dropF p f = f := by
  unfold dropF
  conv => rhs; rw [← List.map_id f]
  apply List.map_congr_left
  intro kp hkp
  have ha : kp.2.add.filter p = kp.2.add := List.filter_eq_self.2 (fun s hs =>
    h s (List.mem_flatMap.2 ⟨kp, hkp, List.mem_append_left _ hs⟩))
  have hr : kp.2.rem.filter p = kp.2.rem := List.filter_eq_self.2 (fun s hs =>
    h s (List.mem_flatMap.2 ⟨kp, hkp, List.mem_append_right _ hs⟩))
  simp only [dropPoint, ha, hr, id]

/-! ## what `parse_graphic_sequence(…, add_erroneous=False)` emits, for ANY input -/

theorem strip_noSpace {s : Str} (h : ∀ c ∈ s, Py.isSpace c = false) : Py.strip s = s := by
  have h1 : s.dropWhile Py.isSpace = s :=
    dropWhile_eq_self_of_head (fun c hc => h c (List.mem_of_mem_head? hc))
  have h2 : s.reverse.dropWhile Py.isSpace = s.reverse :=
    dropWhile_eq_self_of_head (fun c hc => h c (by simpa using List.mem_of_mem_head? hc))
  simp only [Py.strip, Py.rstripBy, h1, h2, List.reverse_reverse]

theorem intStr_noSpace (v : Int) : ∀ c ∈ Py.intStr v, Py.isSpace c = false := by
  intro c hc
  unfold Py.intStr at hc
  split at hc
  · rcases List.mem_cons.1 hc with rfl | hc
    · decide
    · exact isSpace_of_isDigit ((natStr_spec _).2.1 c hc)
  · exact isSpace_of_isDigit ((natStr_spec _).2.1 c hc)

theorem strip_intStr (v : Int) : Py.strip (Py.intStr v) = Py.intStr v := strip_noSpace (intStr_noSpace v)

theorem parseDigitsU_none {s : Str} (hne : s ≠ []) (h : AllDigits s) :
    Py.parseDigitsU s none false = some (Py.digitsVal s) := by
  match s, hne, h with
  | c :: rest, _, h =>
    have hc : Py.isDigit c = true := h c (by simp)
    simp only [Py.parseDigitsU, hc, if_true, Option.getD_none]
    rw [parseDigitsU_digits rest _ (fun d hd => h d (by simp [hd]))]
    simp [Py.digitsVal]

theorem int_intStr (v : Int) : Py.int (Py.intStr v) = some v := by
  by_cases hv : v < 0
  · have e : Py.intStr v = '-' :: Py.natStr v.natAbs := by simp [Py.intStr, hv]
    unfold Py.int
    rw [strip_intStr, e]
    have hs := natStr_spec v.natAbs
    simp only [parseDigitsU_none hs.1 hs.2.1, hs.2.2]
    show some (-(v.natAbs : Int)) = some v
    rw [Int.ofNat_natAbs_of_nonpos (Int.le_of_lt hv), Int.neg_neg]
  · have e : Py.intStr v = Py.natStr v.toNat := by simp [Py.intStr, hv]
    rw [e, int_natStr, Int.toNat_of_nonneg (Int.not_lt.1 hv)]

theorem initialParam_intStr (v : Int) : SettingTxt.initialParam (Py.intStr v) = ansiParam v := by
  unfold SettingTxt.initialParam
  rw [splitOnChar_noSep (intStr_noSemi v)]
  simp [int_intStr]

theorem joinInts_one (v : Int) : joinInts [v] = Py.intStr v := rfl

theorem ansiParam_zero_fn : (ansiParam 0).map (·.2) = some Gen.fnResetAll := by decide

/-- a single code that `settings_to_dict` files as an *apply* and that does not open an extended
    colour is a parsable setting -/
theorem single_parsable {v : Int} (h38 : v ≠ 38) (h48 : v ≠ 48) (h58 : v ≠ 58) {e : Nat}
    (hi : SettingTxt.initialParam (joinInts [v]) = some (e, Gen.fnApply)) :
    SettingTxt.parsable (joinInts [v]) = true := by
  rw [joinInts_one, initialParam_intStr] at hi
  have hv : ¬ v < 0 := by
    intro hv
    unfold ansiParam at hi
    rw [if_pos hv] at hi
    cases hi
  obtain ⟨c, rfl⟩ : ∃ c : Nat, v = (c : Int) := ⟨v.toNat, (Int.toNat_of_nonneg (Int.not_lt.1 hv)).symm⟩
  rw [joinInts_one, intStr_natCast]
  apply C15.codes_parsable
  · apply Nat.lt_of_not_le
    intro hge
    rw [ansiParam_ge hge] at hi
    cases hi
  · rintro rfl
    have := ansiParam_zero_fn
    rw [show ((0 : Nat) : Int) = 0 from rfl] at hi
    rw [hi] at this
    simp only [Option.map_some, Option.some.injEq] at this
    exact fn_distinct.1 this.symm
  · simp only [List.mem_cons, List.not_mem_nil, or_false, not_or]
    omega
  · rw [hi]; simp

/-- the two ways a text gets into the result of `parse_graphic_sequence(…, add_erroneous=False)` -/
def Emitted (t : Str) : Prop :=
  (∃ v : Int, t = joinInts [v] ∧ v ≠ 38 ∧ v ≠ 48 ∧ v ≠ 58) ∨
  (∃ cur : List Int, cur ≠ [] ∧ t = joinInts cur ∧ SettingTxt.parsable t = true)

theorem loop_str (s : Str) (rest : List Code) (st : PgsSt) :
    pgsLoop false (Code.str s :: rest) st = pgsLoop false rest st := by
  rw [pgsLoop]
  simp

/-- `Emitted` is an invariant of the output: a round appends nothing (a string, the opening or the middle of
    an extended-colour set, a lone 38/48/58), a single code other than these, or a closed set that passed
    the `parsable` test -/
theorem pgsLoop_emitted (items : List Code) : ∀ st : PgsSt, (∀ t ∈ st.out, Emitted t) →
    ∀ t ∈ (pgsLoop false items st).out, Emitted t := by
  induction items with
  | nil => intro st h; rw [pgsLoop_nil]; exact h
  | cons it rest ih =>
    intro st h
    cases it with
    | str s => rw [loop_str]; exact ih st h
    | int v =>
      obtain ⟨l, cur, o⟩ := st
      by_cases hc : cur = []
      · subst hc
        by_cases hext : v = 38 ∨ v = 48 ∨ v = 58
        · -- the opening of an extended-colour set, or a lone 38/48/58: nothing is written
          obtain ⟨c, rfl, hE⟩ : ∃ c : Nat, v = (c : Int) ∧ IsExt c := by
            rcases hext with rfl | rfl | rfl
            · exact ⟨38, rfl, Or.inl rfl⟩
            · exact ⟨48, rfl, Or.inr (Or.inl rfl)⟩
            · exact ⟨58, rfl, Or.inr (Or.inr rfl)⟩
          by_cases h5 : rest.head? = some (Code.int 5)
          · obtain ⟨rest', rfl⟩ := List.head?_eq_some_iff.1 h5
            rw [loop_open5 hE rest' l o]
            exact ih _ h
          · by_cases h2 : rest.head? = some (Code.int 2)
            · obtain ⟨rest', rfl⟩ := List.head?_eq_some_iff.1 h2
              rw [loop_open2 hE rest' l o]
              exact ih _ h
            · rw [loop_skip hE rest h5 h2 l o]
              exact ih _ h
        · simp only [not_or] at hext
          rw [loop_single hext.1 hext.2.1 hext.2.2]
          exact ih _ (List.forall_mem_append.2 ⟨h, List.forall_mem_singleton.2 (Or.inl ⟨v, rfl, hext⟩)⟩)
      · by_cases hl : 1 < l
        · rw [loop_cont v rest l cur o hc hl]
          exact ih _ h
        · rw [loop_flush v rest l cur o hc (Int.not_lt.1 hl)]
          apply ih
          dsimp only
          split
          · rename_i hp
            exact List.forall_mem_append.2 ⟨h, List.forall_mem_singleton.2 (Or.inr ⟨_, by simp, rfl, hp⟩)⟩
          · exact h

theorem pgsStr_emitted (p : Str) : ∀ t ∈ pgsStr p false, t = ['0'] ∨ Emitted t := by
  intro t ht
  unfold pgsStr at ht
  split at ht
  · left; simpa using ht
  · right
    unfold pgsItems at ht
    simp only [Bool.false_eq_true, and_false, if_false] at ht
    exact pgsLoop_emitted _ {} (fun _ h => by cases h) t ht

/-- the canonical texts: parsable, and written as `';'.join(str(int) …)` -/
def Canon (t : Str) : Prop :=
  SettingTxt.parsable t = true ∧ ∃ cur : List Int, cur ≠ [] ∧ t = joinInts cur

theorem initialParam_zero_fn : (SettingTxt.initialParam ['0']).map (·.2) = some Gen.fnResetAll := by decide

/-- whatever the input: a text of `parse_graphic_sequence(p)` that `settings_to_dict` files in the dict
    (first code known, an *apply*) is canonical -/
theorem canon_of_pgs (p : Str) {t : Str} (ht : t ∈ pgsStr p false) {e : Nat}
    (hi : SettingTxt.initialParam t = some (e, Gen.fnApply)) : Canon t := by
  rcases pgsStr_emitted p t ht with rfl | ⟨v, rfl, h38, h48, h58⟩ | ⟨cur, hne, rfl, hp⟩
  · have := initialParam_zero_fn
    rw [hi] at this
    simp only [Option.map_some, Option.some.injEq] at this
    exact absurd this.symm fn_distinct.1
  · exact ⟨single_parsable h38 h48 h58 hi, [v], by simp, rfl⟩
  · exact ⟨hp, cur, hne, rfl⟩

theorem group_of_canon {t : Str} (h : Canon t) : isGroupTxt t = true := by
  obtain ⟨hp, cur, hne, rfl⟩ := h
  have hsplit := split_joinInts hne
  have hitems : ScrubL.items (joinInts cur) = Py.splitOnChar ';' (joinInts cur) := by
    unfold ScrubL.items
    rw [hsplit, List.map_map]
    apply List.map_congr_left
    intro v _
    exact strip_intStr v
  obtain ⟨h1, h2⟩ := (ScrubL.parsable_iff_items _).1 hp
  rw [hitems] at h1 h2
  exact isGroupTxt_of_spec h1 (GroupVals_of_groupVals h2)

theorem parsable_valid {t : Str} (h : SettingTxt.parsable t = true) : SettingTxt.valid t = true :=
  C15.parsable_valid t h

/-! ## every setting `set_ansi_str` puts into a table -/

/-- the loop state (value, `current_settings`, next identity): history invariant, identities, and
    a predicate `G` on every text in the table and in `current_settings` -/
structure PInv (G : Str → Prop) (acc : AStr × PyDict × Nat) : Prop where
  wf : WF acc.1
  fresh : FreshFrom acc.1 acc.2.2
  tab : ∀ s ∈ acc.1.fmts.settings, G s.txt
  dict : ∀ kv ∈ acc.2.1, G kv.2.txt

theorem stepFn_pinv {G : Str → Prop}
    (hG : ∀ (p : Str), ∀ s ∈ seqSettings p, ∀ e, SettingTxt.initialParam s.txt = some (e, Gen.fnApply) → G s.txt)
    {acc : AStr × PyDict × Nat} (h : PInv G acc) (ks : Nat × Str) : PInv G (stepFn acc ks) := by
  obtain ⟨x, d, nid⟩ := acc
  obtain ⟨hw, hf, htab, hdict⟩ := h
  simp only at hw hf htab hdict
  unfold stepFn
  by_cases hlt : ks.1 < x.len
  · rw [setAnsiStep_eq x d nid ks.1 ⟨ks.2, ['m']⟩ hlt]
    simp only
    have hnew : ∀ kv ∈ settingsToDict (seqSettings ks.2) d, G kv.2.txt := by
      intro kv hkv
      rcases mem_settingsToDict hkv with h1 | ⟨h1, h2⟩
      · exact hdict kv h1
      · exact hG ks.2 kv.2 h1 kv.1 h2
    generalize settingsToDict (seqSettings ks.2) d = new at hnew ⊢
    have hN : ∀ t ∈ texts (toApplyOf d new), G t := by
      intro t ht
      unfold texts toApplyOf at ht
      simp only [List.mem_map, List.mem_filter] at ht
      obtain ⟨s, ⟨kv, ⟨hkv, _⟩, rfl⟩, rfl⟩ := ht
      exact hnew kv hkv
    generalize toRemoveOf d new = R
    generalize toApplyOf d new = N at hN ⊢
    obtain ⟨r1, r2, r3, -, -⟩ := stepRemove_spec x hw R ks.1 hlt
    obtain ⟨a1, -, a3, a4, -, -⟩ := stepApply_spec (stepRemove x R ks.1) r1 nid
      (fun s hs => hf s (r3 s hs)) N ks.1 (by rw [len_of_s r2]; exact hlt)
    refine ⟨a1, a3, ?_, hnew⟩
    intro s hs
    rcases a4 s hs with h1 | h1
    · exact hN _ h1
    · exact htab s (r3 s h1)
  · rw [setAnsiStep_skip (x, d, nid) ks.1 _ (Nat.le_of_not_lt hlt)]
    exact ⟨hw, hf, htab, hdict⟩

theorem fold_pinv {G : Str → Prop}
    (hG : ∀ (p : Str), ∀ s ∈ seqSettings p, ∀ e, SettingTxt.initialParam s.txt = some (e, Gen.fnApply) → G s.txt)
    (L : List (Nat × Str)) {acc : AStr × PyDict × Nat} (h : PInv G acc) : PInv G (L.foldl stepFn acc) := by
  induction L generalizing acc with
  | nil => exact h
  | cons ks L ih => exact ih (stepFn_pinv hG h ks)

theorem canon_seqSettings (p : Str) : ∀ s ∈ seqSettings p, ∀ e,
    SettingTxt.initialParam s.txt = some (e, Gen.fnApply) → Canon s.txt := by
  intro s hs e hi
  unfold seqSettings at hs
  obtain ⟨t, ht, rfl⟩ := List.mem_map.1 hs
  exact canon_of_pgs p ht hi

theorem setAnsi_canon (r : Str) (nid : Nat) : ∀ s ∈ (AStr.setAnsi r nid).1.fmts.settings, Canon s.txt := by
  rw [setAnsi_eq_fold]
  exact (fold_pinv canon_seqSettings (sgrs r)
    ⟨wf_plain _, freshFrom_plain _ nid, fun _ h => (by cases h), fun _ h => (by cases h)⟩).tab

theorem setAnsi_group (r : Str) (nid : Nat) : GroupSettings (AStr.setAnsi r nid).1 :=
  fun s hs => group_of_canon (setAnsi_canon r nid s hs)

theorem setAnsi_parsable (r : Str) (nid : Nat) : (AStr.setAnsi r nid).1.isFormattingParsable = true :=
  (C15.formatting_parsable_iff _).2 fun _ hkp s hs => (setAnsi_canon r nid s (mem_settings_add hkp hs)).1

theorem setAnsi_valid (r : Str) (nid : Nat) : (AStr.setAnsi r nid).1.isFormattingValid = true :=
  groupSettings_valid (setAnsi_group r nid)

end RoundTripL
