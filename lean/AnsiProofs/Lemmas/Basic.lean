import AnsiSpec
/-
  What the property proofs share.  The change-point table (`Fmts`, a sorted association list) is read as
  a function `Nat → Point` (`Fmts.toFun`), the replay as stepping through every index (`runFrom`,
  `activeFn`, `before`); every induction over the character index runs in this form.  Lists of settings
  are handled through their identities (`hasId`, `eraseId`, `eraseAll`): where these are pairwise
  distinct, deleting is a `filter` and the library's self-check `stepOk` a statement about membership.
-/

theorem drop_takeWhile_length {α : Type} (p : α → Bool) (l : List α) :
    l.drop (l.takeWhile p).length = l.dropWhile p := by
  conv => lhs; arg 2; rw [← List.takeWhile_append_dropWhile (p := p) (l := l)]
  exact List.drop_left

theorem ansiSep_eq : Gen.ansiSep = [';'] := by decide

theorem stepPoint_empty (c : List Setting) : stepPoint c {} = c := by
  simp [stepPoint]

namespace Fmts

def LB (lo : Nat) (f : Fmts) : Prop := ∀ kp ∈ f, lo ≤ kp.1

theorem get?_nil (k : Nat) : Fmts.get? [] k = none := rfl

theorem get?_cons (k' : Nat) (p : Point) (rest : Fmts) (k : Nat) :
    Fmts.get? ((k', p) :: rest) k = if k' = k then some p else if k < k' then none else Fmts.get? rest k := rfl

theorem get?_cons_self (k : Nat) (p : Point) (rest : Fmts) : Fmts.get? ((k, p) :: rest) k = some p := by
  rw [get?_cons, if_pos rfl]

theorem get?_cons_of_gt {k i : Nat} (p : Point) (rest : Fmts) (h : i < k) :
    Fmts.get? ((k, p) :: rest) i = none := by
  rw [get?_cons, if_neg (Nat.ne_of_gt h), if_pos h]

theorem get?_cons_of_lt {k i : Nat} (p : Point) (rest : Fmts) (h : k < i) :
    Fmts.get? ((k, p) :: rest) i = Fmts.get? rest i := by
  rw [get?_cons, if_neg (Nat.ne_of_lt h), if_neg (Nat.lt_asymm h)]

theorem getD_cons_of_lt {k i : Nat} (p : Point) (rest : Fmts) (h : k < i) :
    Fmts.getD ((k, p) :: rest) i = Fmts.getD rest i := by
  unfold Fmts.getD
  rw [get?_cons_of_lt p rest h]

/-- absent key ↦ empty point -/
def toFun (f : Fmts) (k : Nat) : Point := f.getD k

theorem get?_of_LB {lo : Nat} {f : Fmts} (h : LB lo f) {k : Nat} (hk : k < lo) : f.get? k = none := by
  cases f with
  | nil => rfl
  | cons kp rest => exact get?_cons_of_gt kp.2 rest (Nat.lt_of_lt_of_le hk (h kp List.mem_cons_self))

theorem sorted_tail {kp : Nat × Point} {rest : Fmts} (h : SortedKeys (kp :: rest)) : SortedKeys rest :=
  (List.pairwise_cons.mp h).2

theorem sorted_head_lt {kp : Nat × Point} {rest : Fmts} (h : SortedKeys (kp :: rest)) :
    ∀ x ∈ rest, kp.1 < x.1 := (List.pairwise_cons.mp h).1

theorem LB_tail_of_sorted {k : Nat} {p : Point} {rest : Fmts} (h : SortedKeys ((k, p) :: rest)) :
    LB (k + 1) rest := fun x hx => sorted_head_lt h x hx

theorem get?_eq_some_of_mem {f : Fmts} (h : SortedKeys f) {k : Nat} {p : Point} (hm : (k, p) ∈ f) :
    f.get? k = some p := by
  induction f with
  | nil => cases hm
  | cons kp rest ih =>
    rcases List.mem_cons.mp hm with heq | hin
    · rw [← heq]; exact get?_cons_self k p rest
    · rw [get?_cons_of_lt kp.2 rest (sorted_head_lt h (k, p) hin)]
      exact ih (sorted_tail h) hin

theorem mem_of_get?_eq_some {f : Fmts} {k : Nat} {p : Point} (hg : f.get? k = some p) : (k, p) ∈ f := by
  induction f with
  | nil => cases hg
  | cons kp rest ih =>
    obtain ⟨k', p'⟩ := kp
    rcases Nat.lt_trichotomy k k' with hk | hk | hk
    · rw [get?_cons_of_gt _ _ hk] at hg; cases hg
    · rw [hk, get?_cons_self] at hg; cases hg; exact hk ▸ List.mem_cons_self
    · rw [get?_cons_of_lt _ _ hk] at hg; exact List.mem_cons_of_mem _ (ih hg)

theorem set_cons_of_lt {k k' : Nat} (p p' : Point) (rest : Fmts) (h : k < k') :
    Fmts.set ((k', p') :: rest) k p = (k, p) :: (k', p') :: rest := by
  rw [Fmts.set, if_neg (Nat.ne_of_gt h), if_pos h]

theorem set_cons_self (k : Nat) (p p' : Point) (rest : Fmts) :
    Fmts.set ((k, p') :: rest) k p = (k, p) :: rest := by
  rw [Fmts.set, if_pos rfl]

theorem set_cons_of_gt {k k' : Nat} (p p' : Point) (rest : Fmts) (h : k' < k) :
    Fmts.set ((k', p') :: rest) k p = (k', p') :: Fmts.set rest k p := by
  rw [Fmts.set, if_neg (Nat.ne_of_lt h), if_neg (Nat.lt_asymm h)]

theorem get?_set {f : Fmts} (h : SortedKeys f) (k : Nat) (p : Point) (j : Nat) :
    (f.set k p).get? j = if j = k then some p else f.get? j := by
  induction f with
  | nil =>
    rw [Fmts.set, get?_cons, get?_nil, ite_self]
    by_cases hj : j = k
    · rw [if_pos hj, if_pos hj.symm]
    · rw [if_neg hj, if_neg (Ne.symm hj)]
  | cons kp rest ih =>
    obtain ⟨k', p'⟩ := kp
    rcases Nat.lt_trichotomy k k' with hk | hk | hk
    · rw [set_cons_of_lt p p' rest hk]
      rcases Nat.lt_trichotomy j k with hj | hj | hj
      · rw [get?_cons_of_gt _ _ hj, if_neg (Nat.ne_of_lt hj), get?_cons_of_gt _ _ (Nat.lt_trans hj hk)]
      · rw [hj, get?_cons_self, if_pos rfl]
      · rw [get?_cons_of_lt _ _ hj, if_neg (Nat.ne_of_gt hj)]
    · subst hk
      rw [set_cons_self]
      rcases Nat.lt_trichotomy j k with hj | hj | hj
      · rw [get?_cons_of_gt _ _ hj, if_neg (Nat.ne_of_lt hj), get?_cons_of_gt _ _ hj]
      · rw [hj, get?_cons_self, if_pos rfl]
      · rw [get?_cons_of_lt _ _ hj, if_neg (Nat.ne_of_gt hj), get?_cons_of_lt _ _ hj]
    · rw [set_cons_of_gt p p' rest hk]
      rcases Nat.lt_trichotomy j k' with hj | hj | hj
      · rw [get?_cons_of_gt _ _ hj, if_neg (Nat.ne_of_lt (Nat.lt_trans hj hk)), get?_cons_of_gt _ _ hj]
      · rw [hj, get?_cons_self, if_neg (Nat.ne_of_lt hk), get?_cons_self]
      · rw [get?_cons_of_lt _ _ hj, get?_cons_of_lt _ _ hj, ih (sorted_tail h)]

theorem get?_set_self (f : Fmts) (k : Nat) (p : Point) : (f.set k p).get? k = some p := by
  induction f with
  | nil => simp [Fmts.set, Fmts.get?]
  | cons kp rest ih =>
    obtain ⟨k', p'⟩ := kp
    unfold Fmts.set
    by_cases h1 : k' = k
    · simp [h1, Fmts.get?]
    · by_cases h2 : k < k'
      · simp [h1, h2, Fmts.get?]
      · simpa [h1, h2, Fmts.get?] using ih

theorem mem_set {f : Fmts} {k : Nat} {p : Point} {x : Nat × Point} (hx : x ∈ f.set k p) :
    x = (k, p) ∨ x ∈ f := by
  induction f with
  | nil => exact Or.inl (List.mem_singleton.mp hx)
  | cons kp rest ih =>
    obtain ⟨k', p'⟩ := kp
    rcases Nat.lt_trichotomy k k' with hk | hk | hk
    · rw [set_cons_of_lt p p' rest hk] at hx
      exact List.mem_cons.mp hx
    · rw [← hk, set_cons_self] at hx
      exact (List.mem_cons.mp hx).imp_right (List.mem_cons_of_mem _)
    · rw [set_cons_of_gt p p' rest hk] at hx
      rcases List.mem_cons.mp hx with e | e
      · exact Or.inr (e ▸ List.mem_cons_self)
      · exact (ih e).imp_right (List.mem_cons_of_mem _)

theorem sorted_set {f : Fmts} (h : SortedKeys f) (k : Nat) (p : Point) : SortedKeys (f.set k p) := by
  induction f with
  | nil => exact List.pairwise_singleton _ _
  | cons kp rest ih =>
    obtain ⟨k', p'⟩ := kp
    have hlt := sorted_head_lt h
    rcases Nat.lt_trichotomy k k' with hk | hk | hk
    · rw [set_cons_of_lt p p' rest hk]
      refine List.pairwise_cons.mpr ⟨fun x hx => ?_, h⟩
      rcases List.mem_cons.mp hx with e | e
      · exact e ▸ hk
      · exact Nat.lt_trans hk (hlt x e)
    · subst hk
      rw [set_cons_self]
      exact List.pairwise_cons.mpr ⟨hlt, sorted_tail h⟩
    · rw [set_cons_of_gt p p' rest hk]
      refine List.pairwise_cons.mpr ⟨fun x hx => ?_, ih (sorted_tail h)⟩
      rcases mem_set hx with e | e
      · exact e ▸ hk
      · exact hlt x e

theorem toFun_set {f : Fmts} (h : SortedKeys f) (k : Nat) (p : Point) (j : Nat) :
    toFun (f.set k p) j = if j = k then p else toFun f j := by
  unfold toFun Fmts.getD
  rw [get?_set h]
  split <;> rfl

theorem toFun_cons_lt {k j : Nat} (p : Point) (rest : Fmts) (h : j < k) :
    toFun ((k, p) :: rest) j = {} := by
  unfold toFun Fmts.getD
  rw [get?_cons_of_gt p rest h]; rfl

theorem toFun_cons_self (k : Nat) (p : Point) (rest : Fmts) : toFun ((k, p) :: rest) k = p := by
  unfold toFun Fmts.getD
  rw [get?_cons_self]; rfl

theorem toFun_cons_gt {k j : Nat} (p : Point) (rest : Fmts) (h : k < j) :
    toFun ((k, p) :: rest) j = toFun rest j :=
  getD_cons_of_lt p rest h

end Fmts

/-- replay through the keys `lo, lo+1, …, lo+n-1` of a table given as a function -/
def runFrom (g : Nat → Point) (cur : List Setting) (lo : Nat) : Nat → List Setting
  | 0 => cur
  | n + 1 => runFrom g (stepPoint cur (g lo)) (lo + 1) n

theorem runFrom_congr {g g' : Nat → Point} {lo : Nat} (n : Nat) (cur : List Setting)
    (h : ∀ k, lo ≤ k → k < lo + n → g k = g' k) : runFrom g cur lo n = runFrom g' cur lo n := by
  induction n generalizing cur lo with
  | zero => rfl
  | succ n ih =>
    rw [runFrom, runFrom, h lo (Nat.le_refl _) (Nat.lt_add_of_pos_right (Nat.succ_pos n))]
    exact ih _ (fun k h1 h2 => h k (Nat.le_of_succ_le h1) (by omega))

theorem runFrom_add (g : Nat → Point) (cur : List Setting) (lo m n : Nat) :
    runFrom g cur lo (m + n) = runFrom g (runFrom g cur lo m) (lo + m) n := by
  induction m generalizing cur lo with
  | zero => rw [Nat.zero_add]; rfl
  | succ m ih =>
    rw [Nat.add_right_comm, runFrom, runFrom, ih, Nat.add_assoc, Nat.add_comm 1 m]

/-- the settings character `i` reports, computed by stepping through every index `0..i` -/
def activeFn (g : Nat → Point) (i : Nat) : List Setting := runFrom g [] 0 (i + 1)

theorem activeFrom_cons_le {k i : Nat} (cur : List Setting) (p : Point) (rest : Fmts) (h : k ≤ i) :
    activeFrom cur ((k, p) :: rest) i = activeFrom (stepPoint cur p) rest i := by
  rw [activeFrom, if_pos h]

theorem activeFrom_cons_gt {k i : Nat} (cur : List Setting) (p : Point) (rest : Fmts) (h : i < k) :
    activeFrom cur ((k, p) :: rest) i = cur := by
  rw [activeFrom, if_neg (Nat.not_le_of_gt h)]

theorem activeFrom_of_all_gt (cur : List Setting) {f : Fmts} {i : Nat} (h : ∀ kp ∈ f, i < kp.1) :
    activeFrom cur f i = cur := by
  cases f with
  | nil => rfl
  | cons kp rest => exact activeFrom_cons_gt cur kp.2 rest (h kp List.mem_cons_self)

theorem activeFrom_zero {f : Fmts} (hs : SortedKeys f) (cur : List Setting) :
    activeFrom cur f 0 = stepPoint cur (Fmts.toFun f 0) := by
  cases f with
  | nil => exact (stepPoint_empty cur).symm
  | cons kp rest =>
    obtain ⟨k, p⟩ := kp
    cases k with
    | zero =>
      rw [activeFrom_cons_le cur p rest (Nat.le_refl 0), Fmts.toFun_cons_self]
      exact activeFrom_of_all_gt _ (Fmts.sorted_head_lt hs)
    | succ k =>
      rw [activeFrom_cons_gt cur p rest (Nat.succ_pos k), Fmts.toFun_cons_lt p rest (Nat.succ_pos k),
        stepPoint_empty]

theorem activeFrom_succ {f : Fmts} (hs : SortedKeys f) (cur : List Setting) (i : Nat) :
    activeFrom cur f (i + 1) = stepPoint (activeFrom cur f i) (Fmts.toFun f (i + 1)) := by
  induction f generalizing cur with
  | nil => exact (stepPoint_empty cur).symm
  | cons kp rest ih =>
    obtain ⟨k, p⟩ := kp
    rcases Nat.lt_trichotomy k (i + 1) with hk | hk | hk
    · rw [activeFrom_cons_le cur p rest (Nat.le_of_lt hk), activeFrom_cons_le cur p rest (Nat.le_of_lt_succ hk),
        Fmts.toFun_cons_gt p rest hk]
      exact ih (Fmts.sorted_tail hs) _
    · subst hk
      rw [activeFrom_cons_le cur p rest (Nat.le_refl _), activeFrom_cons_gt cur p rest (Nat.lt_succ_self i),
        Fmts.toFun_cons_self]
      exact activeFrom_of_all_gt _ (Fmts.sorted_head_lt hs)
    · rw [activeFrom_cons_gt cur p rest hk, activeFrom_cons_gt cur p rest (Nat.lt_of_succ_lt hk),
        Fmts.toFun_cons_lt p rest hk, stepPoint_empty]

theorem activeFn_succ (g : Nat → Point) (i : Nat) :
    activeFn g (i + 1) = stepPoint (activeFn g i) (g (i + 1)) := by
  unfold activeFn
  rw [runFrom_add g [] 0 (i + 1) 1, Nat.zero_add]
  rfl

theorem activeFn_zero (g : Nat → Point) : activeFn g 0 = stepPoint [] (g 0) := rfl

theorem active_eq_activeFn (f : Fmts) (hs : SortedKeys f) (i : Nat) :
    active f i = activeFn (Fmts.toFun f) i := by
  induction i with
  | zero => exact activeFrom_zero hs []
  | succ i ih => rw [activeFn_succ, ← ih]; exact activeFrom_succ hs [] i


/-! ## lists of settings, looked at through the identities -/

theorem hasId_iff {l : List Setting} {i : Nat} : hasId l i = true ↔ ∃ s ∈ l, s.id = i := by
  simp [hasId]

theorem hasId_false_iff {l : List Setting} {i : Nat} : hasId l i = false ↔ ∀ s ∈ l, s.id ≠ i := by
  simp [hasId]

theorem hasId_nil (i : Nat) : hasId [] i = false := rfl

theorem hasId_cons (a : Setting) (l : List Setting) (i : Nat) :
    hasId (a :: l) i = (a.id == i || hasId l i) :=
  List.any_cons

theorem hasId_append (a b : List Setting) (i : Nat) : hasId (a ++ b) i = (hasId a i || hasId b i) :=
  List.any_append

theorem not_hasId_cons (a : Setting) (l : List Setting) (i : Nat) :
    (!hasId (a :: l) i) = (i != a.id && !hasId l i) := by
  rw [hasId_cons, Bool.not_or, bne, Bool.beq_comm]

theorem hasId_of_mem {l : List Setting} {s : Setting} (h : s ∈ l) : hasId l s.id = true :=
  hasId_iff.mpr ⟨s, h, rfl⟩

theorem hasId_filter_id (l : List Setting) (q : Nat → Bool) (i : Nat) :
    hasId (l.filter (fun s => q s.id)) i = (hasId l i && q i) := by
  rw [Bool.eq_iff_iff]
  simp only [hasId_iff, List.mem_filter, Bool.and_eq_true]
  constructor
  · rintro ⟨s, ⟨h1, h2⟩, rfl⟩
    exact ⟨⟨s, h1, rfl⟩, h2⟩
  · rintro ⟨⟨s, h1, rfl⟩, h2⟩
    exact ⟨s, ⟨h1, h2⟩, rfl⟩

theorem nodup_sublist {l l' : List Setting} (hs : l'.Sublist l) (h : (l.map (·.id)).Nodup) :
    (l'.map (·.id)).Nodup :=
  (hs.map _).nodup h

theorem nodup_filter {l : List Setting} (h : (l.map (·.id)).Nodup) (q : Setting → Bool) :
    ((l.filter q).map (·.id)).Nodup :=
  nodup_sublist List.filter_sublist h

theorem nodup_cons {a : Setting} {l : List Setting} (h : ((a :: l).map (·.id)).Nodup) :
    (∀ s ∈ l, s.id ≠ a.id) ∧ (l.map (·.id)).Nodup := by
  simp only [List.map_cons, List.nodup_cons, List.mem_map, not_exists, not_and] at h
  exact ⟨fun s hs => h.1 s hs, h.2⟩

theorem nodup_append {l₁ l₂ : List Setting} (h : ((l₁ ++ l₂).map (·.id)).Nodup) :
    (l₁.map (·.id)).Nodup ∧ (l₂.map (·.id)).Nodup ∧ (∀ s ∈ l₁, hasId l₂ s.id = false) ∧
      ∀ s ∈ l₂, hasId l₁ s.id = false := by
  rw [List.map_append] at h
  obtain ⟨h1, h2, h3⟩ := List.nodup_append.mp h
  exact ⟨h1, h2,
    fun s hs => hasId_false_iff.mpr fun t ht e =>
      h3 s.id (List.mem_map_of_mem hs) t.id (List.mem_map_of_mem ht) e.symm,
    fun s hs => hasId_false_iff.mpr fun t ht e =>
      h3 t.id (List.mem_map_of_mem ht) s.id (List.mem_map_of_mem hs) e⟩

theorem nodup_append_of {l₁ l₂ : List Setting} (h1 : (l₁.map (·.id)).Nodup) (h2 : (l₂.map (·.id)).Nodup)
    (h3 : ∀ s ∈ l₂, hasId l₁ s.id = false) : ((l₁ ++ l₂).map (·.id)).Nodup := by
  rw [List.map_append]
  refine List.nodup_append.mpr ⟨h1, h2, fun a ha b hb e => ?_⟩
  obtain ⟨s, hs, rfl⟩ := List.mem_map.mp ha
  obtain ⟨t, ht, rfl⟩ := List.mem_map.mp hb
  exact hasId_false_iff.mp (h3 t ht) s hs e

theorem eq_of_id_eq {l : List Setting} (h : (l.map (·.id)).Nodup) {s t : Setting} (hs : s ∈ l) (ht : t ∈ l)
    (e : s.id = t.id) : s = t := by
  induction l with
  | nil => cases hs
  | cons a l ih =>
    obtain ⟨h1, h2⟩ := nodup_cons h
    rcases List.mem_cons.mp hs with rfl | hs' <;> rcases List.mem_cons.mp ht with rfl | ht'
    · rfl
    · exact absurd e.symm (h1 t ht')
    · exact absurd e (h1 s hs')
    · exact ih h2 hs' ht'

theorem hasId_filter_of_mem {l : List Setting} (h : (l.map (·.id)).Nodup) (q : Setting → Bool)
    {s : Setting} (hs : s ∈ l) : hasId (l.filter q) s.id = q s := by
  cases hq : q s with
  | true => exact hasId_of_mem (List.mem_filter.mpr ⟨hs, hq⟩)
  | false =>
    refine hasId_false_iff.mpr fun t ht e => ?_
    obtain ⟨ht1, ht2⟩ := List.mem_filter.mp ht
    rw [eq_of_id_eq h ht1 hs e, hq] at ht2
    cases ht2

theorem eraseId_cons (y : Setting) (l : List Setting) (i : Nat) :
    eraseId (y :: l) i = if y.id = i then l else y :: eraseId l i := by
  unfold eraseId
  rw [List.eraseP_cons]
  by_cases h : y.id = i
  · simp [h]
  · simp [h, beq_eq_false_iff_ne.mpr h]

theorem eraseId_sublist (c : List Setting) (i : Nat) : (eraseId c i).Sublist c :=
  List.eraseP_sublist

theorem eraseId_of_not_hasId {l : List Setting} {i : Nat} (h : hasId l i = false) : eraseId l i = l :=
  List.eraseP_of_forall_not fun s hs => by simpa using hasId_false_iff.mp h s hs

theorem eraseId_append_left {a : List Setting} {i : Nat} (h : hasId a i = true) (b : List Setting) :
    eraseId (a ++ b) i = eraseId a i ++ b := by
  obtain ⟨t, ht, hti⟩ := List.any_eq_true.mp h
  exact List.eraseP_append_left (p := fun x => x.id == i) hti b ht

theorem eraseId_append_right {a : List Setting} {i : Nat} (h : hasId a i = false) (b : List Setting) :
    eraseId (a ++ b) i = a ++ eraseId b i :=
  List.eraseP_append_right b (fun t ht => by simpa using hasId_false_iff.mp h t ht)

theorem eraseId_eq_filter {l : List Setting} (h : (l.map (·.id)).Nodup) (i : Nat) :
    eraseId l i = l.filter (fun s => s.id != i) := by
  induction l with
  | nil => rfl
  | cons a l ih =>
    obtain ⟨h1, h2⟩ := nodup_cons h
    rw [eraseId_cons, List.filter_cons]
    by_cases e : a.id = i
    · rw [if_pos e, if_neg (by simp [e])]
      exact (List.filter_eq_self.mpr fun s hs => by simpa [← e] using h1 s hs).symm
    · rw [if_neg e, if_pos (by simpa using e), ih h2]

theorem mem_eraseId {l : List Setting} (h : (l.map (·.id)).Nodup) {i : Nat} {y : Setting} :
    y ∈ eraseId l i ↔ y ∈ l ∧ y.id ≠ i := by
  rw [eraseId_eq_filter h, List.mem_filter, bne_iff_ne]

/-- delete, for every stop marker in `r`, the first object with that identity -/
def eraseAll (c r : List Setting) : List Setting := r.foldl (fun c s => eraseId c s.id) c

theorem eraseAll_nil (c : List Setting) : eraseAll c [] = c := rfl

theorem eraseAll_cons (c : List Setting) (s : Setting) (r : List Setting) :
    eraseAll c (s :: r) = eraseAll (eraseId c s.id) r := rfl

theorem eraseAll_append (c r1 r2 : List Setting) :
    eraseAll c (r1 ++ r2) = eraseAll (eraseAll c r1) r2 :=
  List.foldl_append

theorem eraseAll_sublist (c r : List Setting) : (eraseAll c r).Sublist c := by
  induction r generalizing c with
  | nil => exact List.Sublist.refl _
  | cons s r ih => exact (ih _).trans (eraseId_sublist c s.id)

theorem eraseAll_eq_filter {c : List Setting} (h : (c.map (·.id)).Nodup) (r : List Setting) :
    eraseAll c r = c.filter (fun s => !hasId r s.id) := by
  induction r generalizing c with
  | nil => exact (List.filter_eq_self.mpr fun _ _ => rfl).symm
  | cons a r ih =>
    rw [eraseAll_cons, eraseId_eq_filter h, ih (nodup_filter h _), List.filter_filter]
    exact List.filter_congr fun s _ => by rw [not_hasId_cons, Bool.and_comm]

theorem mem_eraseAll {c r : List Setting} (h : (c.map (·.id)).Nodup) {y : Setting} :
    y ∈ eraseAll c r ↔ y ∈ c ∧ hasId r y.id = false := by
  rw [eraseAll_eq_filter h, List.mem_filter, Bool.not_eq_true']

theorem stepPoint_def (c : List Setting) (p : Point) : stepPoint c p = eraseAll c p.rem ++ p.add := rfl

theorem stepPoint_eq {c : List Setting} (h : (c.map (·.id)).Nodup) (p : Point) :
    stepPoint c p = c.filter (fun s => !hasId p.rem s.id) ++ p.add := by
  rw [stepPoint_def, eraseAll_eq_filter h]

theorem mem_stepPoint {c : List Setting} {p : Point} {s : Setting} (h : s ∈ stepPoint c p) :
    s ∈ c ∨ s ∈ p.add :=
  (List.mem_append.mp h).imp_left ((eraseAll_sublist c p.rem).subset ·)

theorem stepOk_nil (c : List Setting) : stepOk c [] = true := by
  cases c <;> rfl

theorem stepOk_cons (c : List Setting) (s : Setting) (r : List Setting) :
    stepOk c (s :: r) = (hasId c s.id && stepOk (eraseId c s.id) r) := rfl

theorem stepOk_append (c r1 r2 : List Setting) :
    stepOk c (r1 ++ r2) = (stepOk c r1 && stepOk (eraseAll c r1) r2) := by
  induction r1 generalizing c with
  | nil => simp [stepOk_nil, eraseAll_nil]
  | cons s r ih => simp [stepOk_cons, eraseAll_cons, ih, Bool.and_assoc]

theorem stepOk_iff {c : List Setting} (h : (c.map (·.id)).Nodup) (R : List Setting) :
    stepOk c R = true ↔ (∀ r ∈ R, hasId c r.id = true) ∧ (R.map (·.id)).Nodup := by
  induction R generalizing c with
  | nil => simp [stepOk_nil]
  | cons r R ih =>
    rw [stepOk_cons, Bool.and_eq_true, ih (nodup_sublist (eraseId_sublist c r.id) h), eraseId_eq_filter h,
      List.forall_mem_cons, List.map_cons, List.nodup_cons, List.mem_map]
    simp only [hasId_filter_id c (fun j => j != r.id), Bool.and_eq_true, bne_iff_ne]
    constructor
    · rintro ⟨h1, h2, h3⟩
      exact ⟨⟨h1, fun r' hr' => (h2 r' hr').1⟩, fun ⟨r', hr', e⟩ => (h2 r' hr').2 e, h3⟩
    · rintro ⟨⟨h1, h2⟩, h3, h4⟩
      exact ⟨h1, fun r' hr' => ⟨h2 r' hr', fun e => h3 ⟨r', hr', e⟩⟩, h4⟩

/-! ## more about the table as a function of the key: `modify`, `ensure`, membership, `Fmts.settings` -/

namespace Fmts

theorem toFun_of_get?_none {f : Fmts} {k : Nat} (h : f.get? k = none) : toFun f k = {} := by
  simp [toFun, Fmts.getD, h]

theorem toFun_of_get?_some {f : Fmts} {k : Nat} {p : Point} (h : f.get? k = some p) : toFun f k = p := by
  simp [toFun, Fmts.getD, h]

theorem toFun_of_LB {lo : Nat} {f : Fmts} (h : LB lo f) {k : Nat} (hk : k < lo) : toFun f k = {} :=
  toFun_of_get?_none (get?_of_LB h hk)

theorem toFun_of_mem {f : Fmts} (h : SortedKeys f) {k : Nat} {p : Point} (hm : (k, p) ∈ f) : toFun f k = p :=
  toFun_of_get?_some (get?_eq_some_of_mem h hm)

theorem mem_iff_get? {f : Fmts} (hs : SortedKeys f) (k : Nat) (p : Point) :
    (k, p) ∈ f ↔ f.get? k = some p :=
  ⟨get?_eq_some_of_mem hs, mem_of_get?_eq_some⟩

theorem get?_modify (f : Fmts) (k : Nat) (h : Point → Point) (j : Nat) :
    (f.modify k h).get? j = if j = k then (f.get? k).map h else f.get? j := by
  induction f with
  | nil => simp [Fmts.modify, get?_nil]
  | cons kp rest ih =>
    obtain ⟨k', p'⟩ := kp
    unfold Fmts.modify
    by_cases h1 : k' = k
    · subst h1
      simp only [if_true, get?_cons]
      by_cases hj : j = k'
      · subst hj; simp
      · have : ¬ k' = j := fun e => hj e.symm
        simp [hj, this]
    · simp only [h1, if_false, get?_cons]
      rw [ih]
      by_cases hj : j = k
      · subst hj; simp [h1]; split <;> simp
      · simp [hj]

theorem keys_modify (f : Fmts) (k : Nat) (h : Point → Point) :
    (f.modify k h).map (·.1) = f.map (·.1) := by
  induction f with
  | nil => rfl
  | cons kp rest ih =>
    obtain ⟨k', p'⟩ := kp
    unfold Fmts.modify
    by_cases h1 : k' = k
    · simp [h1]
    · simp [h1, ih]

theorem sortedKeys_iff (f : Fmts) : SortedKeys f ↔ (f.map (·.1)).Pairwise (· < ·) := by
  unfold SortedKeys
  rw [List.pairwise_map]

theorem sorted_modify {f : Fmts} (hs : SortedKeys f) (k : Nat) (h : Point → Point) :
    SortedKeys (f.modify k h) := by
  rw [sortedKeys_iff, keys_modify, ← sortedKeys_iff]; exact hs

theorem mem_ensure {f : Fmts} {k : Nat} {x : Nat × Point} (hx : x ∈ f.ensure k) : x = (k, {}) ∨ x ∈ f := by
  unfold Fmts.ensure at hx
  split at hx
  · exact Or.inr hx
  · exact mem_set hx

theorem sorted_ensure {f : Fmts} (hs : SortedKeys f) (k : Nat) : SortedKeys (f.ensure k) := by
  unfold Fmts.ensure
  split
  · exact hs
  · exact sorted_set hs k {}

theorem get?_ensure {f : Fmts} (hs : SortedKeys f) (k j : Nat) :
    (f.ensure k).get? j = if j = k then some (toFun f k) else f.get? j := by
  unfold Fmts.ensure Fmts.contains toFun Fmts.getD
  cases hk : f.get? k with
  | none =>
    simp [get?_set hs]
  | some p =>
    by_cases hj : j = k
    · subst hj; simp [hk]
    · simp [hj]

theorem toFun_ensure {f : Fmts} (hs : SortedKeys f) (k j : Nat) :
    toFun (f.ensure k) j = toFun f j := by
  unfold toFun Fmts.getD
  rw [get?_ensure hs]
  by_cases hj : j = k
  · subst hj; simp [toFun, Fmts.getD]
  · simp [hj]

/-- `k in d` after `if k not in d: d[k] = …` -/
theorem contains_ensure_self (f : Fmts) (k : Nat) : (f.ensure k).contains k = true := by
  unfold Fmts.ensure
  split
  · assumption
  · simp [Fmts.contains, get?_set_self]

theorem toFun_modify (f : Fmts) (k : Nat) (h : Point → Point) (hc : f.contains k = true) (j : Nat) :
    toFun (f.modify k h) j = if j = k then h (toFun f k) else toFun f j := by
  unfold toFun Fmts.getD
  rw [get?_modify]
  unfold Fmts.contains at hc
  by_cases hj : j = k
  · subst hj
    cases hk : f.get? j with
    | none => simp [hk] at hc
    | some p => simp
  · simp [hj]

theorem contains_modify (f : Fmts) (k : Nat) (h : Point → Point) (j : Nat) :
    (f.modify k h).contains j = f.contains j := by
  unfold Fmts.contains
  rw [get?_modify]
  by_cases hj : j = k
  · subst hj; simp
  · simp [hj]

theorem erase_sublist (f : Fmts) (k : Nat) : (f.erase k).Sublist f := by
  induction f with
  | nil => exact List.Sublist.slnil
  | cons kp rest ih =>
    unfold Fmts.erase
    split
    · exact List.sublist_cons_self _ _
    · exact ih.cons_cons _

theorem mem_erase {f : Fmts} {k : Nat} {x : Nat × Point} (hx : x ∈ f.erase k) : x ∈ f :=
  (erase_sublist f k).subset hx

theorem sorted_erase {f : Fmts} (h : SortedKeys f) (k : Nat) : SortedKeys (f.erase k) :=
  List.Pairwise.sublist (erase_sublist f k) h

theorem toFun_erase {f : Fmts} (h : SortedKeys f) (k j : Nat) :
    toFun (f.erase k) j = if j = k then {} else toFun f j := by
  induction f with
  | nil => exact (ite_self _).symm
  | cons kp rest ih =>
    obtain ⟨k', p'⟩ := kp
    have hlb := LB_tail_of_sorted h
    unfold Fmts.erase
    by_cases h1 : k' = k
    · subst h1
      rw [if_pos rfl]
      rcases Nat.lt_trichotomy j k' with c | rfl | c
      · rw [if_neg (Nat.ne_of_lt c), toFun_cons_lt _ _ c, toFun_of_LB hlb (Nat.lt_succ_of_lt c)]
      · rw [if_pos rfl, toFun_of_LB hlb (Nat.lt_succ_self _)]
      · rw [if_neg (Nat.ne_of_gt c), toFun_cons_gt _ _ c]
    · rw [if_neg h1]
      rcases Nat.lt_trichotomy j k' with c | rfl | c
      · rw [toFun_cons_lt _ _ c, toFun_cons_lt _ _ c, ite_self]
      · rw [toFun_cons_self, toFun_cons_self, if_neg h1]
      · rw [toFun_cons_gt _ _ c, toFun_cons_gt _ _ c, ih (sorted_tail h)]

def UB (hi : Nat) (f : Fmts) : Prop := ∀ kp ∈ f, kp.1 < hi

theorem get?_of_UB {hi : Nat} {f : Fmts} (h : UB hi f) {k : Nat} (hk : hi ≤ k) : f.get? k = none := by
  cases hg : f.get? k with
  | none => rfl
  | some p => exact absurd (h _ (mem_of_get?_eq_some hg)) (Nat.not_lt.mpr hk)

theorem toFun_of_UB {hi : Nat} {f : Fmts} (h : UB hi f) {k : Nat} (hk : hi ≤ k) : toFun f k = {} :=
  toFun_of_get?_none (get?_of_UB h hk)

theorem UB_set {hi : Nat} {f : Fmts} (h : UB hi f) {k : Nat} (hk : k < hi) (p : Point) :
    UB hi (f.set k p) :=
  fun x hx => (mem_set hx).elim (fun e => e ▸ hk) (h x)

theorem UB_erase {hi : Nat} {f : Fmts} (h : UB hi f) (k : Nat) : UB hi (f.erase k) :=
  fun x hx => h x (mem_erase hx)

theorem UB_mono {hi hi' : Nat} {f : Fmts} (h : UB hi f) (hle : hi ≤ hi') : UB hi' f :=
  fun x hx => Nat.lt_of_lt_of_le (h x hx) hle

/-- `noAddEnd` of `WF` in terms of `toFun` -/
theorem noAddEnd_iff {f : Fmts} (hs : SortedKeys f) (n : Nat) :
    (∀ kp ∈ f, kp.1 = n → kp.2.add = []) ↔ (toFun f n).add = [] := by
  constructor
  · intro h
    cases hk : f.get? n with
    | none => rw [toFun_of_get?_none hk]
    | some p => rw [toFun_of_get?_some hk]; exact h (n, p) (mem_of_get?_eq_some hk) rfl
  · rintro h ⟨k, p⟩ hkp rfl
    rwa [toFun_of_mem hs hkp] at h

theorem settings_cons (k : Nat) (p : Point) (f : Fmts) :
    Fmts.settings ((k, p) :: f) = p.add ++ p.rem ++ f.settings :=
  List.flatMap_cons

theorem mem_settings {f : Fmts} {s : Setting} :
    s ∈ f.settings ↔ ∃ kp ∈ f, s ∈ kp.2.add ∨ s ∈ kp.2.rem := by
  simp only [Fmts.settings, List.mem_flatMap, List.mem_append]

theorem mem_settings_of_toFun {f : Fmts} {k : Nat} {s : Setting}
    (h : s ∈ (toFun f k).add ∨ s ∈ (toFun f k).rem) : s ∈ f.settings := by
  cases hg : f.get? k with
  | none => rw [toFun_of_get?_none hg] at h; simp at h
  | some p => exact mem_settings.mpr ⟨(k, p), mem_of_get?_eq_some hg, by rwa [toFun_of_get?_some hg] at h⟩

theorem mem_settings_iff {f : Fmts} (hs : SortedKeys f) (s : Setting) :
    s ∈ f.settings ↔ ∃ k, s ∈ (toFun f k).add ∨ s ∈ (toFun f k).rem := by
  refine ⟨fun h => ?_, fun ⟨k, hk⟩ => mem_settings_of_toFun hk⟩
  obtain ⟨⟨k, p⟩, hkp, hsp⟩ := mem_settings.mp h
  exact ⟨k, by rwa [toFun_of_mem hs hkp]⟩

end Fmts

theorem sliceIdx_le (n : Nat) (v : Option Int) (d : Nat) (hd : d ≤ n) : sliceIdx n v d ≤ n := by
  unfold sliceIdx
  cases v with
  | none => exact hd
  | some v =>
    simp only
    split
    · omega
    · exact Nat.min_le_right _ _

theorem ansiSettingsAt_nat (x : AStr) (i : Nat) (h : i < x.len) :
    x.ansiSettingsAt (i : Int) = active x.fmts i := by
  unfold AStr.ansiSettingsAt
  have : (0 : Int) ≤ (i : Int) ∧ (i : Int) < (x.len : Int) := ⟨by omega, by omega⟩
  simp only [this, and_self, if_true, Int.toNat_natCast]

/-! ## the replay in function form: the settings active just before an index -/

/-- `current_settings` just before index `k` is processed -/
def before (g : Nat → Point) (k : Nat) : List Setting := runFrom g [] 0 k

theorem before_zero (g : Nat → Point) : before g 0 = [] := rfl

theorem before_succ (g : Nat → Point) (k : Nat) :
    before g (k + 1) = stepPoint (before g k) (g k) := by
  unfold before
  rw [runFrom_add g [] 0 k 1]
  simp [runFrom]

theorem activeFn_eq_before (g : Nat → Point) (i : Nat) : activeFn g i = before g (i + 1) := rfl

theorem active_eq_before {f : Fmts} (hs : SortedKeys f) (i : Nat) :
    active f i = before (Fmts.toFun f) (i + 1) :=
  active_eq_activeFn f hs i

theorem before_congr {g g' : Nat → Point} (k : Nat) (h : ∀ j, j < k → g' j = g j) :
    before g' k = before g k :=
  runFrom_congr k [] (fun j _ hj => h j (by omega))

theorem active_congr {f f' : Fmts} (hs : SortedKeys f) (hs' : SortedKeys f')
    (h : ∀ k, Fmts.toFun f k = Fmts.toFun f' k) (i : Nat) : active f i = active f' i := by
  rw [active_eq_before hs, active_eq_before hs', funext h]

theorem mem_before {g : Nat → Point} {k : Nat} {s : Setting} (h : s ∈ before g k) :
    ∃ j, s ∈ (g j).add := by
  induction k with
  | zero => cases h
  | succ k ih =>
    rw [before_succ] at h
    exact (mem_stepPoint h).elim ih (fun h => ⟨k, h⟩)

theorem before_rel {R : List Setting → List Setting → Prop} {g g' : Nat → Point} {a m : Nat}
    (h0 : R (before g a) (before g' a))
    (hstep : ∀ j, a ≤ j → j < m → ∀ c c', R c c' → R (stepPoint c (g j)) (stepPoint c' (g' j)))
    {k : Nat} (h1 : a ≤ k) (h2 : k ≤ m) : R (before g k) (before g' k) := by
  induction k with
  | zero => exact Nat.le_zero.mp h1 ▸ h0
  | succ k ih =>
    by_cases c : a = k + 1
    · exact c ▸ h0
    · rw [before_succ, before_succ]
      have hk : a ≤ k := Nat.le_of_lt_succ (Nat.lt_of_le_of_ne h1 c)
      exact hstep k hk h2 _ _ (ih hk (Nat.le_of_succ_le h2))

theorem runFrom_skip (g : Nat → Point) (cur : List Setting) (lo m : Nat)
    (h : ∀ j, lo ≤ j → j < lo + m → g j = {}) : runFrom g cur lo m = cur := by
  induction m generalizing lo with
  | zero => rfl
  | succ m ih =>
    simp only [runFrom]
    rw [h lo (Nat.le_refl _) (Nat.lt_add_of_pos_right (Nat.succ_pos m)), stepPoint_empty]
    exact ih (lo + 1) (fun j h1 h2 => h j (Nat.le_of_succ_le h1) (by omega))

theorem replayOkFrom_iff (f : Fmts) (hs : SortedKeys f) (lo : Nat) (hlb : Fmts.LB lo f)
    (cur : List Setting) :
    replayOkFrom cur f = true ↔
      ∀ m, stepOk (runFrom (Fmts.toFun f) cur lo m) (Fmts.toFun f (lo + m)).rem = true := by
  induction f generalizing cur lo with
  | nil => exact ⟨fun _ _ => stepOk_nil _, fun _ => rfl⟩
  | cons kp rest ih =>
    obtain ⟨k0, p⟩ := kp
    -- the first key is `lo + d`: `d` empty indices, then `p`, then the rest from `lo + d + 1` on
    obtain ⟨d, rfl⟩ := Nat.exists_eq_add_of_le (hlb (k0, p) (by simp) : lo ≤ k0)
    have hskip : ∀ m, m ≤ d → runFrom (Fmts.toFun ((lo + d, p) :: rest)) cur lo m = cur :=
      fun m hm => runFrom_skip _ cur lo m (fun j _ h2 =>
        Fmts.toFun_cons_lt p rest (Nat.lt_of_lt_of_le h2 (Nat.add_le_add_left hm lo)))
    have hlater : ∀ m, runFrom (Fmts.toFun ((lo + d, p) :: rest)) cur lo (d + (1 + m)) =
        runFrom (Fmts.toFun rest) (stepPoint cur p) (lo + d + 1) m := by
      intro m
      rw [runFrom_add, hskip d (Nat.le_refl _), runFrom_add]
      simp only [runFrom, Fmts.toFun_cons_self]
      exact runFrom_congr _ _ (fun j h1 _ => Fmts.toFun_cons_gt p rest h1)
    simp only [replayOkFrom, Bool.and_eq_true]
    rw [ih (Fmts.sorted_tail hs) (lo + d + 1) (Fmts.LB_tail_of_sorted hs) (stepPoint cur p)]
    constructor
    · rintro ⟨h1, h2⟩ m
      rcases Nat.lt_trichotomy m d with c | c | c
      · rw [Fmts.toFun_cons_lt p rest (Nat.add_lt_add_left c lo)]; exact stepOk_nil _
      · rw [c, hskip d (Nat.le_refl _), Fmts.toFun_cons_self]; exact h1
      · obtain ⟨m', rfl⟩ := Nat.exists_eq_add_of_le (show d + 1 ≤ m from c)
        rw [Nat.add_assoc d, hlater, Fmts.toFun_cons_gt p rest (by omega), ← Nat.add_assoc, ← Nat.add_assoc]
        exact h2 m'
    · intro h
      refine ⟨?_, fun m => ?_⟩
      · have := h d
        rwa [hskip d (Nat.le_refl _), Fmts.toFun_cons_self] at this
      · have := h (d + (1 + m))
        rwa [hlater, Fmts.toFun_cons_gt p rest (by omega), ← Nat.add_assoc, ← Nat.add_assoc] at this

theorem replayOk_iff {f : Fmts} (hs : SortedKeys f) :
    replayOk f = true ↔
      ∀ k, stepOk (before (Fmts.toFun f) k) (Fmts.toFun f k).rem = true := by
  unfold replayOk before
  rw [replayOkFrom_iff f hs 0 (fun _ _ => Nat.zero_le _) []]
  simp only [Nat.zero_add]

theorem replayOk_congr {f f' : Fmts} (hs : SortedKeys f) (hs' : SortedKeys f')
    (h : ∀ k, Fmts.toFun f k = Fmts.toFun f' k) : replayOk f = true ↔ replayOk f' = true := by
  rw [replayOk_iff hs, replayOk_iff hs', funext h]

/-! ## nothing changes beyond the last key, so `WF` of a concrete value is a finite check -/

theorem activeFrom_of_bound {f : Fmts} {n i : Nat} (hb : ∀ kp ∈ f, kp.1 ≤ n) (hi : n ≤ i) (c : List Setting) :
    activeFrom c f i = activeFrom c f n := by
  induction f generalizing c with
  | nil => rfl
  | cons kp rest ih =>
    have hk : kp.1 ≤ n := hb kp List.mem_cons_self
    rw [activeFrom, activeFrom, if_pos (Nat.le_trans hk hi), if_pos hk]
    exact ih (fun x hx => hb x (List.mem_cons_of_mem _ hx)) _

theorem nodup_all_of_le {f : Fmts} {m : Nat} (hb : ∀ kp ∈ f, kp.1 ≤ m)
    (h : ∀ i, i ≤ m → ((active f i).map (·.id)).Nodup) (i : Nat) : ((active f i).map (·.id)).Nodup := by
  by_cases hi : i ≤ m
  · exact h i hi
  · rw [active, activeFrom_of_bound hb (Nat.le_of_not_le hi)]
    exact h m (Nat.le_refl _)

theorem wf_of_finite {x : AStr}
    (h : x.fmts.Pairwise (fun a b => a.1 < b.1) ∧ (∀ kp ∈ x.fmts, kp.1 ≤ x.len) ∧
      (∀ kp ∈ x.fmts, kp.1 = x.len → kp.2.add = []) ∧ replayOk x.fmts = true ∧
      (∀ i, i < x.len → ((active x.fmts i).map (·.id)).Nodup) ∧ active x.fmts x.len = [] ∧
      (∀ s ∈ x.fmts.settings, ∀ t ∈ x.fmts.settings, s.id = t.id → s.txt = t.txt)) : WF x := by
  obtain ⟨h1, h2, h3, h4, h5, h6, h7⟩ := h
  refine ⟨h1, h2, h3, h4, nodup_all_of_le h2 fun i hi => ?_, h6, h7⟩
  rcases Nat.lt_or_eq_of_le hi with hi | rfl
  · exact h5 i hi
  · rw [h6]; exact List.nodup_nil

theorem wf_empty : WF ({} : AStr) := wf_of_finite (by decide +kernel)

/-! ## a property of settings that holds of a table and of the current state holds along the replay -/

theorem stepPoint_sub {P : Setting → Prop} {cur : List Setting} {p : Point} (hc : ∀ s ∈ cur, P s)
    (ha : ∀ s ∈ p.add, P s) : ∀ s ∈ stepPoint cur p, P s :=
  fun s hs => (mem_stepPoint hs).elim (hc s) (ha s)

theorem activeFrom_sub (P : Setting → Prop) : ∀ (f : Fmts) (cur : List Setting) (i : Nat),
    (∀ s ∈ cur, P s) → (∀ s ∈ f.settings, P s) → ∀ s ∈ activeFrom cur f i, P s
  | [], _, _, hc, _ => hc
  | (k, p) :: rest, cur, i, hc, hf => by
    rw [Fmts.settings_cons] at hf
    unfold activeFrom
    split
    · exact activeFrom_sub P rest _ i (stepPoint_sub hc (fun s hs => hf s (by simp [hs])))
        (fun s hs => hf s (by simp [hs]))
    · exact hc

theorem replayFrom_sub (P : Setting → Prop) : ∀ (f : Fmts) (cur : List Setting),
    (∀ s ∈ cur, P s) → (∀ s ∈ f.settings, P s) →
    ∀ t ∈ replayFrom cur f, (∀ s ∈ t.2.1.add, P s) ∧ (∀ s ∈ t.2.1.rem, P s) ∧ (∀ s ∈ t.2.2, P s)
  | [], _, _, _, t, ht => by cases ht
  | (k, p) :: rest, cur, hc, hf, t, ht => by
    rw [Fmts.settings_cons] at hf
    have hcur' := stepPoint_sub (p := p) hc (fun s hs => hf s (by simp [hs]))
    simp only [replayFrom, List.mem_cons] at ht
    rcases ht with e | e
    · subst e
      exact ⟨fun s hs => hf s (by simp [hs]), fun s hs => hf s (by simp [hs]), hcur'⟩
    · exact replayFrom_sub P rest _ hcur' (fun s hs => hf s (by simp [hs])) t e

/-! The settings of a table all satisfy `P`: kept by the operations on tables. -/

theorem Fmts.mem_modify {f : Fmts} {k : Nat} {g : Point → Point} {x : Nat × Point} (h : x ∈ f.modify k g) :
    x ∈ f ∨ ∃ p, (k, p) ∈ f ∧ x = (k, g p) := by
  induction f with
  | nil => cases h
  | cons kp rest ih =>
    obtain ⟨k', p'⟩ := kp
    unfold Fmts.modify at h
    split at h
    · rename_i hk
      subst hk
      rcases List.mem_cons.1 h with e | e
      · exact .inr ⟨p', by simp, e⟩
      · exact .inl (by simp [e])
    · rcases List.mem_cons.1 h with e | e
      · exact .inl (by simp [e])
      · rcases ih e with e | ⟨p, hp, e⟩
        · exact .inl (by simp [e])
        · exact .inr ⟨p, by simp [hp], e⟩

theorem settings_set {P : Setting → Prop} {f : Fmts} {p : Point} (hf : ∀ s ∈ f.settings, P s)
    (ha : ∀ s ∈ p.add, P s) (hr : ∀ s ∈ p.rem, P s) (k : Nat) : ∀ s ∈ (f.set k p).settings, P s := by
  intro s hs
  obtain ⟨kp, hkp, hm⟩ := Fmts.mem_settings.1 hs
  rcases Fmts.mem_set hkp with e | e
  · subst e; exact hm.elim (ha s) (hr s)
  · exact hf s (Fmts.mem_settings.2 ⟨kp, e, hm⟩)

theorem settings_ite {P : Setting → Prop} {c : Prop} [Decidable c] {a b : Fmts}
    (ha : ∀ s ∈ a.settings, P s) (hb : ∀ s ∈ b.settings, P s) :
    ∀ s ∈ (if c then a else b).settings, P s := by
  split
  · exact ha
  · exact hb

theorem settings_ensure {P : Setting → Prop} {f : Fmts} (hf : ∀ s ∈ f.settings, P s) (k : Nat) :
    ∀ s ∈ (f.ensure k).settings, P s :=
  settings_ite hf (settings_set hf (fun _ h => (List.not_mem_nil h).elim) (fun _ h => (List.not_mem_nil h).elim) k)

theorem settings_modify {P : Setting → Prop} {f : Fmts} {g : Point → Point} (hf : ∀ s ∈ f.settings, P s)
    (hg : ∀ p, (∀ s ∈ p.add, P s) → (∀ s ∈ p.rem, P s) → (∀ s ∈ (g p).add, P s) ∧ ∀ s ∈ (g p).rem, P s)
    (k : Nat) : ∀ s ∈ (f.modify k g).settings, P s := by
  intro s hs
  obtain ⟨kp, hkp, hm⟩ := Fmts.mem_settings.1 hs
  rcases Fmts.mem_modify hkp with e | ⟨p, hp, e⟩
  · exact hf s (Fmts.mem_settings.2 ⟨kp, e, hm⟩)
  · have := hg p (fun t ht => hf t (Fmts.mem_settings.2 ⟨_, hp, .inl ht⟩))
      (fun t ht => hf t (Fmts.mem_settings.2 ⟨_, hp, .inr ht⟩))
    subst e
    exact hm.elim (this.1 s) (this.2 s)
