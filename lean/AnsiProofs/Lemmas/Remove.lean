import AnsiProofs.Lemmas.Apply
/-
  Lemmas for property C07 (`remove_formatting`).  The loop is followed along the replay of the sorted table in
  three phases (up to `start`, up to `end`, behind `end`), each point going through one of three
  transformations (`removeAtStart`, middle, end of range); `ensure` and the final `filter` are invisible to the
  replay.  From `Lemmas/Apply.lean` comes the block lemma (`eraseAll_block`): what the point at `end` restarts
  is a block, as what `apply_formatting` inserts is.
-/

namespace Remove

abbrev ids (l : List Setting) : List Nat := l.map (·.id)

/-! ## A. tables -/

theorem toFun_nil (k : Nat) : Fmts.toFun [] k = {} := rfl

theorem contains_iff {f : Fmts} {k : Nat} : f.contains k = true ↔ ∃ p, f.get? k = some p := by
  unfold Fmts.contains
  cases f.get? k <;> simp

theorem mem_keys_of_contains {f : Fmts} {k : Nat} (h : f.contains k = true) : k ∈ f.map (·.1) := by
  obtain ⟨p, hp⟩ := contains_iff.mp h
  exact List.mem_map.mpr ⟨(k, p), Fmts.mem_of_get?_eq_some hp, rfl⟩

theorem contains_ensure_of_contains {f : Fmts} (h : SortedKeys f) (k j : Nat) (hj : f.contains j = true) :
    (f.ensure k).contains j = true := by
  unfold Fmts.ensure
  split
  · exact hj
  · unfold Fmts.contains at hj ⊢
    rw [Fmts.get?_set h]
    split
    · rfl
    · exact hj

theorem point_eq_empty {p : Point} (h : p.nonEmpty = false) : p = {} := by
  obtain ⟨a, r⟩ := p
  simp [Point.nonEmpty] at h
  obtain ⟨h1, h2⟩ := h
  subst h1 h2
  rfl

theorem toFun_filter_nonEmpty {f : Fmts} (h : SortedKeys f) (k : Nat) :
    Fmts.toFun (f.filter (fun kp => kp.2.nonEmpty)) k = Fmts.toFun f k := by
  induction f with
  | nil => rfl
  | cons kp rest ih =>
    obtain ⟨k', p'⟩ := kp
    have ih := ih (Fmts.sorted_tail h)
    have hlb : Fmts.LB (k' + 1) rest := Fmts.LB_tail_of_sorted h
    cases hp : p'.nonEmpty with
    | true =>
      rw [List.filter_cons_of_pos (by simpa using hp)]
      rcases Nat.lt_trichotomy k k' with c | rfl | c
      · rw [Fmts.toFun_cons_lt _ _ c, Fmts.toFun_cons_lt _ _ c]
      · rw [Fmts.toFun_cons_self, Fmts.toFun_cons_self]
      · rw [Fmts.toFun_cons_gt _ _ c, Fmts.toFun_cons_gt _ _ c, ih]
    | false =>
      rw [List.filter_cons_of_neg (by simp [hp]), ih, point_eq_empty hp]
      rcases Nat.lt_trichotomy k k' with c | rfl | c
      · rw [Fmts.toFun_cons_lt _ _ c, Fmts.toFun_of_LB hlb (Nat.lt_succ_of_lt c)]
      · rw [Fmts.toFun_cons_self, Fmts.toFun_of_LB hlb (Nat.lt_succ_self _)]
      · rw [Fmts.toFun_cons_gt _ _ c]

/-- state before the point at key `k` is processed -/
def bef (g : Nat → Point) (k : Nat) : List Setting := runFrom g [] 0 k

theorem bef_zero (g : Nat → Point) : bef g 0 = [] := rfl

theorem activeFn_eq_bef (g : Nat → Point) (i : Nat) : activeFn g i = bef g (i + 1) := rfl

theorem bef_eq_before : bef = before := rfl

theorem replayFrom_untag (c : List Setting) (f : Fmts) :
    (replayFrom c f).map (fun t => (t.1, t.2.1)) = f := by
  induction f generalizing c with
  | nil => rfl
  | cons kp f ih =>
    obtain ⟨k, p⟩ := kp
    simp only [replayFrom, List.map_cons, ih]

/-- replaying `f` from the state `c` passes the library's assertion and never holds an object twice -/
def Clean (c : List Setting) (f : Fmts) : Prop :=
  (ids c).Nodup ∧ replayOkFrom c f = true ∧ ∀ i, (ids (activeFrom c f i)).Nodup

theorem Clean.step {c : List Setting} {k : Nat} {p : Point} {rest : Fmts}
    (hs : SortedKeys ((k, p) :: rest)) (h : Clean c ((k, p) :: rest)) :
    stepOk c p.rem = true ∧ Clean (stepPoint c p) rest := by
  obtain ⟨_, hok, hnd⟩ := h
  simp only [replayOkFrom, Bool.and_eq_true] at hok
  have hlb := Fmts.LB_tail_of_sorted hs
  have hk : (ids (stepPoint c p)).Nodup := by
    have := hnd k
    simpa only [activeFrom, Nat.le_refl, if_true, activeFrom_of_all_gt _ hlb] using this
  refine ⟨hok.1, hk, hok.2, fun i => ?_⟩
  by_cases hi : k ≤ i
  · have := hnd i
    simpa only [activeFrom, hi, if_true] using this
  · rw [activeFrom_of_all_gt _ (fun x hx => by have := hlb x hx; omega)]
    exact hk

theorem add_nil_of_closed {f : Fmts} {n : Nat} (hs : SortedKeys f) (hb : ∀ kp ∈ f, kp.1 ≤ n)
    (c : List Setting) (hc : activeFrom c f n = []) : ∀ kp ∈ f, kp.1 = n → kp.2.add = [] := by
  induction f generalizing c with
  | nil => intro kp h; cases h
  | cons a rest ih =>
    obtain ⟨k, p⟩ := a
    have hk : k ≤ n := hb (k, p) (by simp)
    simp only [activeFrom, hk, if_true] at hc
    intro kp hkp hn
    rcases List.mem_cons.mp hkp with rfl | hkp
    · cases rest with
      | nil => exact (List.append_eq_nil_iff.mp hc).2
      | cons b _ =>
        have h1 := Fmts.sorted_head_lt hs b (by simp)
        have h2 := hb b (by simp)
        simp only at hn h1
        omega
    · exact ih (Fmts.sorted_tail hs) (fun x hx => hb x (by simp [hx])) _ hc kp hkp hn

/-- `WF`'s clause that nothing starts at the very end follows from the others (`add_nil_of_closed`) -/
theorem wf_of {x : AStr} {f : Fmts} (hs : SortedKeys f) (hb : ∀ kp ∈ f, kp.1 ≤ x.len)
    (hok : replayOk f = true) (hnd : ∀ i, (ids (active f i)).Nodup) (hcl : active f x.len = [])
    (hco : ∀ s ∈ f.settings, ∀ t ∈ f.settings, s.id = t.id → s.txt = t.txt) : WF { x with fmts := f } :=
  ⟨hs, hb, add_nil_of_closed hs hb [] hcl, hok, hnd, hcl, hco⟩

/-! ## B. the point transformations of the loop -/

theorem dropWhile_congr {α : Type} {l : List α} {p q : α → Bool} (h : ∀ a ∈ l, p a = q a) :
    l.dropWhile p = l.dropWhile q := by
  induction l with
  | nil => rfl
  | cons a l ih =>
    simp only [List.dropWhile_cons, h a (by simp)]
    split
    · exact ih (fun b hb => h b (by simp [hb]))
    · rfl

theorem of_mem_takeWhile {α : Type} {l : List α} {p : α → Bool} {a : α} (h : a ∈ l.takeWhile p) :
    p a = true := by
  induction l with
  | nil => cases h
  | cons b l ih =>
    rw [List.takeWhile_cons] at h
    split at h
    · rcases List.mem_cons.mp h with rfl | h'
      · assumption
      · exact ih h'
    · cases h

open AStr (removeRems removeAtStart removeLoop selected)

theorem filter_not_hasId_split (c A B : List Setting) :
    c.filter (fun s => !hasId (A ++ B) s.id)
      = (c.filter (fun s => !hasId A s.id)).filter (fun s => !hasId B s.id) := by
  rw [List.filter_filter]
  apply List.filter_congr
  intro s _
  rw [hasId_append, Bool.not_or, Bool.and_comm]

theorem filter_comm' {α : Type} (l : List α) (p q : α → Bool) :
    (l.filter p).filter q = (l.filter q).filter p := by
  rw [List.filter_filter, List.filter_filter]
  apply List.filter_congr
  intro s _
  rw [Bool.and_comm]

/-- the settings the call removes and those it leaves: every active list is followed as its two filters -/
abbrev sel (M : Option (List Str)) : Setting → Bool := AStr.selected M
abbrev nsel (M : Option (List Str)) : Setting → Bool := fun s => !AStr.selected M s

/-- one iteration of the `for s in current_settings` loop at `start` -/
def rasStep (M : Option (List Str)) (acc : Point × List Setting) (s : Setting) : Point × List Setting :=
  if AStr.selected M s then
    if hasId acc.1.add s.id then ({ acc.1 with add := eraseId acc.1.add s.id }, acc.2 ++ [s])
    else ({ acc.1 with rem := acc.1.rem ++ [s] }, acc.2 ++ [s])
  else acc

theorem removeAtStart_eq (M : Option (List Str)) (p : Point) (R L : List Setting) :
    AStr.removeAtStart M p R L = L.foldl (rasStep M) (p, R) := rfl

/-- at `start`: every selected active setting goes into `removed_settings` and gets a stop marker, unless it
    starts at this very point, where its start marker is dropped instead -/
theorem removeAtStart_spec (M : Option (List Str)) (L : List Setting) (hL : (ids L).Nodup)
    (q : Point) (hq : (ids q.add).Nodup) (R : List Setting) :
    AStr.removeAtStart M q R L =
      ({ rem := q.rem ++ L.filter (fun s => sel M s && !hasId q.add s.id),
         add := q.add.filter (fun a => !hasId (L.filter (sel M)) a.id) },
       R ++ L.filter (sel M)) := by
  induction L generalizing q R with
  | nil =>
    simp only [removeAtStart_eq, List.foldl_nil, List.filter_nil, List.append_nil, hasId_nil]
    have : q.add.filter (fun _ => !false) = q.add := List.filter_eq_self.mpr (fun _ _ => rfl)
    rw [this]
  | cons s L ih =>
    obtain ⟨hs1, hs2⟩ := nodup_cons hL
    rw [removeAtStart_eq, List.foldl_cons, ← removeAtStart_eq]
    cases hsel : AStr.selected M s with
    | false =>
      rw [show rasStep M (q, R) s = (q, R) from if_neg (by simp [hsel]), ih hs2 q hq,
        List.filter_cons_of_neg (by simp [hsel]), List.filter_cons_of_neg (by simp [hsel])]
    | true =>
      have hstep : rasStep M (q, R) s =
          ({ add := eraseId q.add s.id, rem := q.rem ++ [s].filter (fun s => !hasId q.add s.id) }, R ++ [s]) := by
        unfold rasStep
        cases hin : hasId q.add s.id
        · simp [hsel, hin, eraseId_of_not_hasId hin]
        · simp [hsel, hin]
      rw [hstep, ih hs2 _ (by simpa [eraseId_eq_filter hq] using nodup_filter hq _)]
      simp only
      have e1 : (s :: L).filter (fun s => sel M s && !hasId q.add s.id)
          = [s].filter (fun s => !hasId q.add s.id) ++ L.filter (fun s => sel M s && !hasId q.add s.id) := by
        cases hin : hasId q.add s.id <;> simp [hsel, hin]
      have e2 : L.filter (fun t => sel M t && !hasId (eraseId q.add s.id) t.id)
          = L.filter (fun s => sel M s && !hasId q.add s.id) := by
        apply List.filter_congr
        intro t ht
        rw [eraseId_eq_filter hq, hasId_filter_id q.add (fun j => j != s.id)]
        have : (t.id != s.id) = true := by simpa using hs1 t ht
        rw [this, Bool.and_true]
      have e3 : (eraseId q.add s.id).filter (fun a => !hasId (L.filter (sel M)) a.id)
          = q.add.filter (fun a => !hasId ((s :: L).filter (sel M)) a.id) := by
        rw [eraseId_eq_filter hq, List.filter_filter, List.filter_cons_of_pos (by simpa using hsel)]
        exact List.filter_congr fun a _ => by rw [not_hasId_cons, Bool.and_comm]
      rw [e1, e2, e3, List.filter_cons_of_pos (by simpa using hsel)]
      simp

theorem step_start (M : Option (List Str)) {c : List Setting} (hc : (ids c).Nodup) (p : Point)
    (hcur : (ids (stepPoint c p)).Nodup) (hok : stepOk c p.rem = true) :
    stepPoint c (AStr.removeAtStart M p [] (stepPoint c p)).1 = (stepPoint c p).filter (nsel M) ∧
    stepOk c (AStr.removeAtStart M p [] (stepPoint c p)).1.rem = true ∧
    (AStr.removeAtStart M p [] (stepPoint c p)).2 = (stepPoint c p).filter (sel M) := by
  rw [stepPoint_eq hc] at hcur
  obtain ⟨hpre, hadd, hd1, hd2⟩ := nodup_append hcur
  have hcur' := hcur
  rw [← stepPoint_eq hc] at hcur'
  rw [removeAtStart_spec M _ hcur' p hadd []]
  simp only [List.nil_append]
  have e1 : (stepPoint c p).filter (fun s => sel M s && !hasId p.add s.id)
      = (c.filter (fun s => !hasId p.rem s.id)).filter (sel M) := by
    rw [← List.filter_filter, stepPoint_eq hc, filter_not_hasId_append hd1]
  have e2 : p.add.filter (fun a => !hasId ((stepPoint c p).filter (sel M)) a.id) = p.add.filter (nsel M) := by
    apply List.filter_congr
    intro a ha
    rw [hasId_filter_of_mem hcur' (sel M) (by rw [stepPoint_eq hc]; simp [ha])]
  rw [e1, e2]
  refine ⟨?_, ?_, ?_⟩
  rotate_left 2
  · first | trivial | rfl
  · rw [stepPoint_eq hc]
    simp only
    rw [stepPoint_eq hc, List.filter_append]
    congr 1
    rw [filter_not_hasId_split]
    apply List.filter_congr
    intro s hs
    rw [hasId_filter_of_mem hpre (sel M) hs]
  · rw [stepOk_iff hc]
    obtain ⟨o1, o2⟩ := (stepOk_iff hc p.rem).mp hok
    refine ⟨?_, ?_⟩
    · intro r hr
      rcases List.mem_append.mp hr with hr | hr
      · exact o1 r hr
      · exact hasId_of_mem (List.mem_filter.mp (List.mem_filter.mp hr).1).1
    · apply nodup_append_of o2 (nodup_filter hpre _)
      intro s hs
      have := (List.mem_filter.mp (List.mem_filter.mp hs).1).2
      simpa using this

theorem removeRems_cons (s : Setting) (rem R : List Setting) :
    removeRems (s :: rem) R =
      if hasId (removeRems rem R).2 s.id then ((removeRems rem R).1, eraseId (removeRems rem R).2 s.id)
      else (s :: (removeRems rem R).1, (removeRems rem R).2) := rfl

theorem removeRems_nil (R : List Setting) : removeRems [] R = ([], R) := rfl

theorem removeRems_snd {R : List Setting} (hR : (ids R).Nodup) (rem : List Setting) :
    (removeRems rem R).2 = R.filter (fun s => !hasId rem s.id) := by
  induction rem with
  | nil =>
    rw [removeRems_nil]
    exact (List.filter_eq_self.mpr (fun _ _ => rfl)).symm
  | cons s rem ih =>
    have h2 : (removeRems (s :: rem) R).2 = eraseId (removeRems rem R).2 s.id := by
      rw [removeRems_cons]
      split
      · rfl
      · rename_i h
        exact (eraseId_of_not_hasId (by simpa using h)).symm
    rw [h2, ih, eraseId_eq_filter (nodup_filter hR _), List.filter_filter]
    exact List.filter_congr fun t _ => (not_hasId_cons s rem t.id).symm

theorem removeRems_fst {R : List Setting} (hR : (ids R).Nodup) {rem : List Setting} (hrem : (ids rem).Nodup) :
    (removeRems rem R).1 = rem.filter (fun s => !hasId R s.id) := by
  induction rem with
  | nil => rfl
  | cons s rem ih =>
    obtain ⟨h1, h2⟩ := nodup_cons hrem
    have hs : hasId (removeRems rem R).2 s.id = hasId R s.id := by
      rw [removeRems_snd hR, hasId_filter_id R (fun j => !hasId rem j)]
      have : hasId rem s.id = false := hasId_false_iff.mpr h1
      rw [this]; simp
    rw [removeRems_cons, hs]
    by_cases hin : hasId R s.id = true
    · simp only [hin, if_true]
      rw [ih h2, List.filter_cons_of_neg (by simp [hin])]
    · have hin' : hasId R s.id = false := by simpa using hin
      simp only [hin', Bool.false_eq_true, if_false]
      rw [ih h2, List.filter_cons_of_pos (by simp [hin'])]

/-- facts shared by the middle points and the point at `end`: what is left in `removed_settings` marks the
    selected ones among the settings that stay active, and the stop markers that survive act on the
    unselected active settings as all of them do on the active settings -/
theorem mid_core (M : Option (List Str)) {c : List Setting} (hc : (ids c).Nodup) (p : Point)
    (hok : stepOk c p.rem = true) {R : List Setting} (hR : R.Perm (c.filter (sel M))) :
    removeRems p.rem R = (p.rem.filter (fun s => !hasId R s.id), R.filter (fun s => !hasId p.rem s.id)) ∧
    (∀ s ∈ eraseAll c p.rem, hasId (R.filter (fun s => !hasId p.rem s.id)) s.id = sel M s) ∧
    eraseAll (c.filter (nsel M)) (p.rem.filter (fun s => !hasId R s.id)) = (eraseAll c p.rem).filter (nsel M) ∧
    stepOk (c.filter (nsel M)) (p.rem.filter (fun s => !hasId R s.id)) = true := by
  obtain ⟨o1, o2⟩ := (stepOk_iff hc p.rem).mp hok
  have hRn : (ids R).Nodup := ((hR.map (·.id)).nodup_iff).mpr (nodup_filter hc _)
  have hcn : (ids (c.filter (nsel M))).Nodup := nodup_filter hc _
  have hRc : ∀ s ∈ c, hasId R s.id = sel M s := by
    intro s hs
    rw [show hasId R s.id = hasId (c.filter (sel M)) s.id from hR.any_eq, hasId_filter_of_mem hc _ hs]
  refine ⟨?_, ?_, ?_, ?_⟩
  · rw [← removeRems_fst hRn o2, ← removeRems_snd hRn]
  · intro s hs
    obtain ⟨hs1, hs2⟩ := (mem_eraseAll hc).mp hs
    rw [hasId_filter_id R (fun j => !hasId p.rem j), hRc s hs1, hs2]
    exact Bool.and_true _
  · rw [eraseAll_eq_filter hcn, eraseAll_eq_filter hc, filter_comm' c (fun s => !hasId p.rem s.id) (nsel M)]
    apply List.filter_congr
    intro s hs
    have hns : sel M s = false := by simpa [nsel, sel] using (List.mem_filter.mp hs).2
    rw [hasId_filter_id p.rem (fun j => !hasId R j), hRc s (List.mem_filter.mp hs).1, hns]
    simp
  · rw [stepOk_iff hcn]
    refine ⟨fun r hr => ?_, nodup_filter o2 _⟩
    obtain ⟨hr1, hr2⟩ := List.mem_filter.mp hr
    obtain ⟨s, hs, e⟩ := hasId_iff.mp (o1 r hr1)
    rw [← e, hasId_filter_of_mem hc _ hs]
    have := hRc s hs
    rw [e] at this
    simp only [Bool.not_eq_true'] at hr2
    rw [hr2] at this
    simp [← this]

/-- new point (`midPt`) and new `removed_settings` (`midR`) at a change point strictly inside the range:
    stop markers of removed settings go together with their entry, selected start markers are not added
    and are remembered as removed -/
def midPt (M : Option (List Str)) (p : Point) (R : List Setting) : Point :=
  { rem := (removeRems p.rem R).1, add := p.add.filter (fun s => !AStr.selected M s) }

def midR (M : Option (List Str)) (p : Point) (R : List Setting) : List Setting :=
  (removeRems p.rem R).2 ++ (p.add.filter (AStr.selected M)).reverse

theorem step_mid (M : Option (List Str)) {c : List Setting} (hc : (ids c).Nodup) (p : Point)
    (hok : stepOk c p.rem = true) {R : List Setting} (hR : R.Perm (c.filter (sel M))) :
    stepPoint (c.filter (nsel M)) (midPt M p R) = (stepPoint c p).filter (nsel M) ∧
    stepOk (c.filter (nsel M)) (midPt M p R).rem = true ∧
    (midR M p R).Perm ((stepPoint c p).filter (sel M)) := by
  obtain ⟨hrr, -, hcore, hsok⟩ := mid_core M hc p hok hR
  unfold midPt midR
  rw [hrr]
  refine ⟨?_, hsok, ?_⟩
  · rw [stepPoint_def, stepPoint_def, List.filter_append]
    simp only
    rw [hcore]
  · rw [stepPoint_eq hc, List.filter_append]
    apply List.Perm.append
    · have := hR.filter (fun s => !hasId p.rem s.id)
      refine this.trans ?_
      rw [filter_comm']
    · exact List.reverse_perm _

def endPt (n en : Nat) (p : Point) (R cur : List Setting) : Point :=
  let rr := removeRems p.rem R
  if en ≠ n ∧ !rr.2.isEmpty then
    let carried := (cur.filter (fun s => !hasId p.add s.id)).dropWhile (fun s => !hasId rr.2 s.id)
    { rem := rr.1 ++ carried.filter (fun s => !hasId rr.2 s.id), add := carried ++ p.add }
  else { p with rem := rr.1 }

/-- At `end` the table replays to the old state again.  When something is restarted, the point first stops
    the unselected settings behind the first selected one (a block at the end of what is active without
    the selected ones: `eraseAll_block`) and then starts that whole stretch, selected ones included. -/
theorem step_end (M : Option (List Str)) (n en : Nat) {c : List Setting} (hc : (ids c).Nodup) (p : Point)
    (hcur : (ids (stepPoint c p)).Nodup) (hok : stepOk c p.rem = true)
    {R : List Setting} (hR : R.Perm (c.filter (sel M))) (hn : en = n → stepPoint c p = []) :
    stepPoint (c.filter (nsel M)) (endPt n en p R (stepPoint c p)) = stepPoint c p ∧
    stepOk (c.filter (nsel M)) (endPt n en p R (stepPoint c p)).rem = true := by
  obtain ⟨hrr, hrr2, hcore, hsok⟩ := mid_core M hc p hok hR
  obtain ⟨hpre, -, hd1, -⟩ := nodup_append (stepPoint_def c p ▸ hcur)
  unfold endPt
  rw [hrr]
  simp only
  split
  · rw [show (stepPoint c p).filter (fun s => !hasId p.add s.id) = eraseAll c p.rem from
        filter_not_hasId_append hd1,
      dropWhile_congr (q := nsel M) (fun s hs => congrArg (!·) (hrr2 s hs)),
      List.filter_congr (q := nsel M) (fun s hs =>
        congrArg (!·) (hrr2 s ((List.dropWhile_sublist _).subset hs)))]
    -- what is active without the selected ones: the stretch before the first selected one, then the block
    have hsplit : (eraseAll c p.rem).filter (nsel M) = (eraseAll c p.rem).takeWhile (nsel M) ++
        ((eraseAll c p.rem).dropWhile (nsel M)).filter (nsel M) := by
      have := congrArg (List.filter (nsel M)) (List.takeWhile_append_dropWhile (p := nsel M) (l := eraseAll c p.rem))
      rw [List.filter_append, List.filter_eq_self.mpr (fun s hs => of_mem_takeWhile hs)] at this
      exact this.symm
    obtain ⟨-, -, hdT, -⟩ := nodup_append
      ((List.takeWhile_append_dropWhile (p := nsel M) (l := eraseAll c p.rem)).symm ▸ hpre)
    have hblock := eraseAll_block (N := ((eraseAll c p.rem).dropWhile (nsel M)).filter (nsel M))
      ((eraseAll c p.rem).takeWhile (nsel M)) [] (fun t ht u hu =>
        (hasId_false_iff.mp (hdT u hu) t (List.mem_filter.mp ht).1).symm)
    rw [List.append_nil, List.append_nil, ← hsplit] at hblock
    refine ⟨?_, ?_⟩
    · rw [stepPoint_def, stepPoint_def]
      simp only
      rw [eraseAll_append, hcore, hblock.1, ← List.append_assoc, List.takeWhile_append_dropWhile]
    · rw [stepOk_append, hsok, hcore, hblock.2]
      rfl
  · rename_i hcond
    refine ⟨?_, hsok⟩
    rw [stepPoint_def, stepPoint_def]
    simp only
    rw [hcore]
    congr 1
    apply List.filter_eq_self.mpr
    intro s hs
    by_cases hen : en = n
    · rw [(List.append_eq_nil_iff.mp ((stepPoint_def c p).symm.trans (hn hen))).1] at hs
      cases hs
    · have hnil : R.filter (fun s => !hasId p.rem s.id) = [] := by
        apply List.isEmpty_iff.mp
        apply Decidable.by_contra
        intro h
        exact hcond ⟨hen, by simpa using h⟩
      have := hrr2 s hs
      rw [hnil, hasId_nil] at this
      simp [nsel, ← this]

/-! ## C. one round of the loop -/

end Remove

/-! One round as a function (`roundPt`), in the namespace of `Props/C07c.lean`, where the translated code is
    compared with it round by round.  The code's
    `while carried_settings[0] not in removed_settings: del carried_settings[0]` at `end` raises IndexError
    when it uses its list up, where the model's `dropWhile` is total: `loopOk` says, on the model side, that
    this does not happen. -/
namespace C07c.L
open Remove

/-- does the `while` loop at `end` find an element (`false` = IndexError) -/
def endOk (n en : Nat) (p : Point) (R cur : List Setting) : Bool :=
  !(decide (en ≠ n) && !(AStr.removeRems p.rem R).2.isEmpty &&
    (cur.filter (fun x => !hasId p.add x.id)).all (fun x => !hasId (AStr.removeRems p.rem R).2 x.id))

def roundOk (st en n k : Nat) (p : Point) (R cur : List Setting) : Bool :=
  if ¬ k < st ∧ k ≠ st ∧ k = en then endOk n en p R cur else true

/-- the model's round: the new point under the key, the new `removed_settings`, `break` -/
def roundPt (M : Option (List Str)) (st en n k : Nat) (p : Point) (R cur : List Setting) :
    Point × List Setting × Bool :=
  if k < st then (p, R, false)
  else if k > en then (p, R, true)
  else if k = st then ((AStr.removeAtStart M p R cur).1, (AStr.removeAtStart M p R cur).2, false)
  else if k = en then (endPt n en p R cur, (AStr.removeRems p.rem R).2, false)
  else (midPt M p R, midR M p R, false)

def loopOk (M : Option (List Str)) (st en n : Nat) :
    List Setting → List (Nat × Point × List Setting) → Bool
  | _, [] => true
  | R, (k, p, cur) :: rest =>
    roundOk st en n k p R cur &&
      (if (roundPt M st en n k p R cur).2.2 then true
       else loopOk M st en n (roundPt M st en n k p R cur).2.1 rest)

end C07c.L

namespace Remove
open AStr (removeRems removeAtStart removeLoop selected)
open C07c.L

theorem removeLoop_nil (M : Option (List Str)) (st en n : Nat) (R : List Setting) :
    removeLoop M st en n R [] = [] := rfl

theorem removeLoop_round (M : Option (List Str)) (st en n : Nat) (R : List Setting) (k : Nat) (p : Point)
    (cur : List Setting) (rest : List (Nat × Point × List Setting)) :
    removeLoop M st en n R ((k, p, cur) :: rest) =
      (k, (roundPt M st en n k p R cur).1) ::
        (if (roundPt M st en n k p R cur).2.2 then rest.map (fun t => (t.1, t.2.1))
         else removeLoop M st en n (roundPt M st en n k p R cur).2.1 rest) := by
  unfold roundPt
  by_cases h1 : k < st
  · simp [removeLoop, h1]
  · by_cases h2 : k > en
    · simp [removeLoop, h1, h2]
    · by_cases h3 : k = st
      · subst h3
        simp [removeLoop, h2]
      · by_cases h4 : k = en
        · subst h4
          simp only [removeLoop, h1, h2, h3, if_false, if_true, endPt]
          by_cases h5 : k ≠ n ∧ (!(removeRems p.rem R).2.isEmpty) = true
          · rw [if_pos h5, if_pos h5]
            rfl
          · rw [if_neg h5, if_neg h5]
            rfl
        · simp only [removeLoop, h1, h2, h3, h4, if_false, midPt, midR, Bool.false_eq_true]

section Round
variable {M : Option (List Str)} {st en n k : Nat} {p : Point} {R cur : List Setting}

theorem roundPt_before (h : k < st) : roundPt M st en n k p R cur = (p, R, false) := if_pos h

theorem roundPt_after (h1 : ¬ k < st) (h2 : k > en) : roundPt M st en n k p R cur = (p, R, true) :=
  (if_neg h1).trans (if_pos h2)

theorem roundPt_start (h1 : ¬ k < st) (h2 : ¬ k > en) (h3 : k = st) :
    roundPt M st en n k p R cur = ((removeAtStart M p R cur).1, (removeAtStart M p R cur).2, false) :=
  (if_neg h1).trans ((if_neg h2).trans (if_pos h3))

theorem roundPt_end (h1 : ¬ k < st) (h2 : ¬ k > en) (h3 : ¬ k = st) (h4 : k = en) :
    roundPt M st en n k p R cur = (endPt n en p R cur, (removeRems p.rem R).2, false) :=
  (if_neg h1).trans ((if_neg h2).trans ((if_neg h3).trans (if_pos h4)))

theorem roundPt_mid (h1 : ¬ k < st) (h2 : ¬ k > en) (h3 : ¬ k = st) (h4 : ¬ k = en) :
    roundPt M st en n k p R cur = (midPt M p R, midR M p R, false) :=
  (if_neg h1).trans ((if_neg h2).trans ((if_neg h3).trans (if_neg h4)))

theorem roundOk_of_not (h : ¬ (¬ k < st ∧ k ≠ st ∧ k = en)) : roundOk st en n k p R cur = true := if_neg h

theorem roundOk_of_ne (h : ¬ k = en) : roundOk st en n k p R cur = true := roundOk_of_not fun c => h c.2.2

theorem roundOk_end (h1 : ¬ k < st) (h3 : ¬ k = st) (h4 : k = en) :
    roundOk st en n k p R cur = endOk n en p R cur := if_pos ⟨h1, h3, h4⟩

end Round

theorem removeLoop_keys (M : Option (List Str)) (st en n : Nat) (R c : List Setting) (f : Fmts) :
    (removeLoop M st en n R (replayFrom c f)).map (·.1) = f.map (·.1) := by
  induction f generalizing R c with
  | nil => rfl
  | cons kp rest ih =>
    obtain ⟨k, p⟩ := kp
    simp only [replayFrom]
    rw [removeLoop_round, List.map_cons, List.map_cons]
    split
    · rw [replayFrom_untag]
    · rw [ih]

/-! ## D. the loop, phase by phase, along the replay of a sorted table -/

/-- `removed_settings` still holds an entry after the stop markers at `end` have been dealt with: that
    entry is an active setting that is not stopped here and not restarted here, so it is in the list the
    `while` loop walks, and the loop stops there at the latest -/
theorem endOk_true (M : Option (List Str)) (n en : Nat) {c : List Setting} (hc : (ids c).Nodup) (p : Point)
    (hcur : (ids (stepPoint c p)).Nodup) (hok : stepOk c p.rem = true)
    {R : List Setting} (hR : R.Perm (c.filter (sel M))) :
    endOk n en p R (stepPoint c p) = true := by
  obtain ⟨hrr, -, -, -⟩ := mid_core M hc p hok hR
  obtain ⟨-, -, hd1, -⟩ := nodup_append (stepPoint_def c p ▸ hcur)
  unfold endOk
  rw [hrr, show (stepPoint c p).filter (fun x => !hasId p.add x.id) = eraseAll c p.rem from
    filter_not_hasId_append hd1]
  simp only
  cases hl : R.filter (fun s => !hasId p.rem s.id) with
  | nil => simp
  | cons r l =>
    obtain ⟨hrR, hrrem⟩ := List.mem_filter.mp (hl ▸ List.mem_cons_self : r ∈ R.filter _)
    have hmem : r ∈ eraseAll c p.rem :=
      (mem_eraseAll hc).mpr ⟨(List.mem_filter.mp (hR.mem_iff.mp hrR)).1, by simpa using hrrem⟩
    have hall : (eraseAll c p.rem).all (fun x => !hasId (r :: l) x.id) = false := by
      rw [List.all_eq_false]
      exact ⟨r, hmem, by simp [hasId_cons]⟩
    rw [hall]
    simp

theorem loop_after (M : Option (List Str)) {st en : Nat} (n : Nat) (hse : st ≤ en) (R c : List Setting)
    {f : Fmts} (h : ∀ kp ∈ f, en < kp.1) :
    removeLoop M st en n R (replayFrom c f) = f ∧ loopOk M st en n R (replayFrom c f) = true := by
  cases f with
  | nil => exact ⟨rfl, rfl⟩
  | cons kp rest =>
    obtain ⟨k, p⟩ := kp
    have hk : en < k := h (k, p) (by simp)
    have h1 : ¬ k < st := by omega
    simp only [replayFrom]
    rw [removeLoop_round, loopOk, roundPt_after h1 hk, roundOk_of_ne (Nat.ne_of_gt hk), replayFrom_untag]
    exact ⟨rfl, rfl⟩

/-- From behind `start` on: `removed_settings` holds the selected ones among the active settings, the new
    table replays to the old states without them up to `end`, and to the old states from `end` on; at `end`
    the `while` loop finds an element (`endOk_true`). -/
theorem loop_inside (M : Option (List Str)) {st en : Nat} (n : Nat) (hse : st < en) :
    ∀ (f : Fmts) (c R : List Setting), SortedKeys f → (∀ kp ∈ f, st < kp.1) → en ∈ f.map (·.1) →
      Clean c f → R.Perm (c.filter (sel M)) → (en = n → activeFrom c f en = []) →
      replayOkFrom (c.filter (nsel M)) (removeLoop M st en n R (replayFrom c f)) = true ∧
      (∀ i, activeFrom (c.filter (nsel M)) (removeLoop M st en n R (replayFrom c f)) i =
        if i < en then (activeFrom c f i).filter (nsel M) else activeFrom c f i) ∧
      loopOk M st en n R (replayFrom c f) = true := by
  intro f
  induction f with
  | nil => intro c R _ _ hen; cases hen
  | cons kp rest ih =>
    obtain ⟨k, p⟩ := kp
    intro c R hs hst hen hcl hR hn
    obtain ⟨hok, hcl'⟩ := hcl.step hs
    have hk : st < k := hst (k, p) (by simp)
    have hgt : ∀ x ∈ rest, k < x.1 := Fmts.sorted_head_lt hs
    have c1 : ¬ k < st := Nat.lt_asymm hk
    have c3 : ¬ k = st := Nat.ne_of_gt hk
    simp only [replayFrom]
    rw [removeLoop_round, loopOk]
    rcases List.mem_cons.mp hen with e | hen'
    · have e' : k = en := e.symm
      have c2 : ¬ k > en := Nat.not_lt.mpr (Nat.le_of_eq e')
      obtain ⟨a1, a2⟩ := loop_after M n (Nat.le_of_lt hse) (removeRems p.rem R).2 (stepPoint c p)
        (fun x hx => e' ▸ hgt x hx)
      simp only [roundPt_end c1 c2 c3 e', roundOk_end c1 c3 e', Bool.false_eq_true, if_false]
      rw [a1, a2, endOk_true M n en hcl.1 p hcl'.1 hok hR]
      obtain ⟨h1, h2⟩ := step_end M n en hcl.1 p hcl'.1 hok hR (fun h => by
        have := hn h
        rw [← e'] at this
        simpa only [activeFrom, Nat.le_refl, if_true, activeFrom_of_all_gt _ (Fmts.LB_tail_of_sorted hs)]
          using this)
      refine ⟨?_, fun i => ?_, rfl⟩
      · simp only [replayOkFrom, h1, h2, Bool.true_and]
        exact hcl'.2.1
      · simp only [activeFrom, h1, e']
        by_cases hi : en ≤ i
        · simp only [hi, if_true, Nat.not_lt.mpr hi, if_false]
        · simp only [hi, if_false, Nat.lt_of_not_le hi, if_true]
    · have hke : k < en := by
        obtain ⟨x, hx, e⟩ := List.mem_map.mp hen'
        exact e ▸ hgt x hx
      have c2 : ¬ k > en := Nat.lt_asymm hke
      have c4 : ¬ k = en := Nat.ne_of_lt hke
      simp only [roundPt_mid c1 c2 c3 c4, roundOk_of_ne c4, Bool.false_eq_true, if_false, Bool.true_and]
      obtain ⟨h1, h2, h3⟩ := step_mid M hcl.1 p hok hR
      obtain ⟨ihok, ihact, ihl⟩ := ih (stepPoint c p) (midR M p R) (Fmts.sorted_tail hs)
        (fun x hx => Nat.lt_trans hk (hgt x hx)) hen' hcl' h3 (fun h => by
          simpa only [activeFrom, Nat.le_of_lt hke, if_true] using hn h)
      refine ⟨?_, fun i => ?_, ihl⟩
      · simp only [replayOkFrom, h1, h2, ihok, Bool.and_self]
      · simp only [activeFrom, h1, ihact]
        by_cases hi : k ≤ i
        · simp only [hi, if_true]
        · simp only [hi, if_false, Nat.lt_trans (Nat.lt_of_not_le hi) hke, if_true]

theorem loop_before (M : Option (List Str)) {st en : Nat} (n : Nat) (hse : st < en) :
    ∀ (f : Fmts) (c : List Setting), SortedKeys f → st ∈ f.map (·.1) → en ∈ f.map (·.1) →
      Clean c f → (en = n → activeFrom c f en = []) →
      replayOkFrom c (removeLoop M st en n [] (replayFrom c f)) = true ∧
      (∀ i, activeFrom c (removeLoop M st en n [] (replayFrom c f)) i =
        if st ≤ i ∧ i < en then (activeFrom c f i).filter (nsel M) else activeFrom c f i) ∧
      loopOk M st en n [] (replayFrom c f) = true := by
  intro f
  induction f with
  | nil => intro c _ hst; cases hst
  | cons kp rest ih =>
    obtain ⟨k, p⟩ := kp
    intro c hs hst hen hcl hn
    obtain ⟨hok, hcl'⟩ := hcl.step hs
    have hgt : ∀ x ∈ rest, k < x.1 := Fmts.sorted_head_lt hs
    have hks : k ≤ st := by
      rcases List.mem_cons.mp hst with e | h
      · exact Nat.le_of_eq e.symm
      · obtain ⟨x, hx, e⟩ := List.mem_map.mp h
        exact Nat.le_of_lt (e ▸ hgt x hx)
    have hke : k < en := Nat.lt_of_le_of_lt hks hse
    have hen' : en ∈ rest.map (·.1) := by
      rcases List.mem_cons.mp hen with e | h
      · exact absurd e (Nat.ne_of_gt hke)
      · exact h
    have hn' : en = n → activeFrom (stepPoint c p) rest en = [] := fun h => by
      simpa only [activeFrom, Nat.le_of_lt hke, if_true] using hn h
    simp only [replayFrom]
    rw [removeLoop_round, loopOk, roundOk_of_ne (Nat.ne_of_lt hke)]
    rcases List.mem_cons.mp hst with e | hst'
    · have e' : k = st := e.symm
      have c1 : ¬ k < st := Nat.not_lt.mpr (Nat.le_of_eq e)
      have c2 : ¬ k > en := Nat.lt_asymm hke
      simp only [roundPt_start c1 c2 e', Bool.false_eq_true, if_false, Bool.true_and]
      obtain ⟨h1, h2, h3⟩ := step_start M hcl.1 p hcl'.1 hok
      obtain ⟨ihok, ihact, ihl⟩ := loop_inside M n hse rest (stepPoint c p)
        (removeAtStart M p [] (stepPoint c p)).2 (Fmts.sorted_tail hs)
        (fun x hx => e' ▸ hgt x hx) hen' hcl' (by rw [h3]) hn'
      refine ⟨?_, fun i => ?_, ihl⟩
      · simp only [replayOkFrom, h1, h2, ihok, Bool.and_self]
      · simp only [activeFrom, h1, ihact, e']
        by_cases hi : st ≤ i
        · simp only [hi, if_true, true_and]
        · simp only [hi, if_false, false_and]
    · have hlt : k < st := by
        obtain ⟨x, hx, e⟩ := List.mem_map.mp hst'
        exact e ▸ hgt x hx
      simp only [roundPt_before hlt, Bool.false_eq_true, if_false, Bool.true_and]
      obtain ⟨ihok, ihact, ihl⟩ := ih (stepPoint c p) (Fmts.sorted_tail hs) hst' hen' hcl' hn'
      refine ⟨?_, fun i => ?_, ihl⟩
      · simp only [replayOkFrom, hok, ihok, Bool.and_self]
      · simp only [activeFrom, ihact]
        by_cases hi : k ≤ i
        · simp only [hi, if_true]
        · have : ¬ (st ≤ i ∧ i < en) := fun h => hi (Nat.le_trans (Nat.le_of_lt hlt) h.1)
          simp only [hi, if_false, this]

/-! ## E. nothing new is put into the table -/

theorem removeAtStart_sub (P : Setting → Prop) (M : Option (List Str)) :
    ∀ (cur : List Setting) (p : Point) (R : List Setting), (∀ s ∈ cur, P s) → (∀ s ∈ p.add, P s) →
      (∀ s ∈ p.rem, P s) → (∀ s ∈ R, P s) →
      (∀ s ∈ (removeAtStart M p R cur).1.add, P s) ∧ (∀ s ∈ (removeAtStart M p R cur).1.rem, P s) ∧
        ∀ s ∈ (removeAtStart M p R cur).2, P s := by
  intro cur
  induction cur with
  | nil => intro p R _ ha hr hR; exact ⟨ha, hr, hR⟩
  | cons a cur ih =>
    intro p R hc ha hr hR
    have hca : P a := hc a (by simp)
    have hc' : ∀ s ∈ cur, P s := fun s hs => hc s (by simp [hs])
    have hRa : ∀ s ∈ R ++ [a], P s := by
      intro s hs
      rcases List.mem_append.mp hs with h | h
      · exact hR s h
      · rw [List.mem_singleton.mp h]; exact hca
    rw [removeAtStart_eq, List.foldl_cons, ← removeAtStart_eq]
    unfold rasStep
    by_cases hsel : AStr.selected M a = true
    · rw [if_pos hsel]
      by_cases hin : hasId p.add a.id = true
      · rw [if_pos hin]
        exact ih _ _ hc' (fun s hs => ha s (List.eraseP_subset hs)) hr hRa
      · rw [if_neg hin]
        refine ih _ _ hc' ha ?_ hRa
        intro s hs
        rcases List.mem_append.mp hs with h | h
        · exact hr s h
        · rw [List.mem_singleton.mp h]; exact hca
    · rw [if_neg hsel]
      exact ih _ _ hc' ha hr hR

theorem removeRems_sub (P : Setting → Prop) (rem R : List Setting) (h1 : ∀ s ∈ rem, P s)
    (h2 : ∀ s ∈ R, P s) : (∀ s ∈ (removeRems rem R).1, P s) ∧ ∀ s ∈ (removeRems rem R).2, P s := by
  induction rem with
  | nil => exact ⟨fun s hs => (by cases hs), h2⟩
  | cons a rem ih =>
    obtain ⟨i1, i2⟩ := ih (fun s hs => h1 s (by simp [hs]))
    rw [removeRems_cons]
    split
    · exact ⟨i1, fun s hs => i2 s (List.eraseP_subset hs)⟩
    · refine ⟨fun s hs => ?_, i2⟩
      rcases List.mem_cons.mp hs with rfl | hs
      · exact h1 s (by simp)
      · exact i1 s hs

theorem removeLoop_sub (P : Setting → Prop) (M : Option (List Str)) (st en n : Nat) :
    ∀ (f : Fmts) (c R : List Setting), (∀ s ∈ c, P s) → (∀ s ∈ R, P s) → (∀ s ∈ f.settings, P s) →
      ∀ s ∈ (removeLoop M st en n R (replayFrom c f)).settings, P s := by
  intro f
  induction f with
  | nil => intro c R _ _ _ s hs; cases hs
  | cons kp rest ih =>
    obtain ⟨k, p⟩ := kp
    intro c R hc hR hf
    rw [Fmts.settings_cons] at hf
    have ha : ∀ s ∈ p.add, P s := fun s hs => hf s (by simp [hs])
    have hr : ∀ s ∈ p.rem, P s := fun s hs => hf s (by simp [hs])
    have hrest : ∀ s ∈ Fmts.settings rest, P s := fun s hs => hf s (by simp [hs])
    have hcur : ∀ s ∈ stepPoint c p, P s := fun s hs => (mem_stepPoint hs).elim (hc s) (ha s)
    obtain ⟨hr1, hr2⟩ := removeRems_sub P p.rem R hr hR
    -- the point the round writes (`add`, `rem`) and the `removed_settings` it leaves
    have key : ∀ (q : Point) (R' : List Setting), (∀ s ∈ q.add, P s) → (∀ s ∈ q.rem, P s) →
        (∀ s ∈ R', P s) →
        ∀ s ∈ Fmts.settings ((k, q) :: removeLoop M st en n R' (replayFrom (stepPoint c p) rest)), P s := by
      intro q R' h1 h2 h3 s hs
      rw [Fmts.settings_cons] at hs
      rcases List.mem_append.mp hs with h | h
      · exact (List.mem_append.mp h).elim (h1 s) (h2 s)
      · exact ih _ _ hcur h3 hrest s h
    simp only [replayFrom]
    rw [removeLoop_round]
    by_cases h1 : k < st
    · rw [roundPt_before h1]
      exact key p R ha hr hR
    by_cases h2 : k > en
    · rw [roundPt_after h1 h2, replayFrom_untag]
      exact Fmts.settings_cons k p rest ▸ hf
    by_cases h3 : k = st
    · rw [roundPt_start h1 h2 h3]
      obtain ⟨q1, q2, q3⟩ := removeAtStart_sub P M _ p R hcur ha hr hR
      exact key _ _ q1 q2 q3
    have hcar : ∀ s ∈ ((stepPoint c p).filter (fun s => !hasId p.add s.id)).dropWhile
        (fun s => !hasId (removeRems p.rem R).2 s.id), P s := fun s hs =>
      hcur s (List.mem_filter.mp ((List.dropWhile_sublist _).subset hs)).1
    by_cases h4 : k = en
    · rw [roundPt_end h1 h2 h3 h4]
      refine key _ _ ?_ ?_ hr2
      · unfold endPt
        simp only
        split
        · intro s hs
          exact (List.mem_append.mp hs).elim (hcar s) (ha s)
        · exact ha
      · unfold endPt
        simp only
        split
        · intro s hs
          exact (List.mem_append.mp hs).elim (hr1 s) (fun h => hcar s (List.mem_filter.mp h).1)
        · exact hr1
    · rw [roundPt_mid h1 h2 h3 h4]
      refine key _ _ (fun s hs => ha s (List.mem_filter.mp hs).1) hr1 ?_
      intro s hs
      rcases List.mem_append.mp hs with h | h
      · exact hr2 s h
      · exact ha s (List.mem_filter.mp (List.mem_reverse.mp h)).1

/-! ## F. assembling: the value returned by `remove_formatting` -/

/-- the table the loop runs over: `start` and `end` are keys -/
def f0 (x : AStr) (st en : Nat) : Fmts := (x.fmts.ensure st).ensure en

/-- the table after `remove_formatting`: the loop over the replay of `f0`, points left empty dropped -/
def newFmts (x : AStr) (M : Option (List Str)) (st en : Nat) : Fmts :=
  (removeLoop M st en x.len [] (replay (f0 x st en))).filter (fun kp => kp.2.nonEmpty)

theorem removeFormatting_eq (x : AStr) (M : Option (List Str)) (start end_ : Option Int)
    (h : ¬ (sliceIdx x.len start 0 ≥ x.len ∨ sliceIdx x.len end_ x.len ≤ sliceIdx x.len start 0)) :
    x.removeFormatting M start end_ =
      { x with fmts := newFmts x M (sliceIdx x.len start 0) (sliceIdx x.len end_ x.len) } := by
  unfold AStr.removeFormatting
  simp only [h, if_false]
  rfl

theorem new_settings {x : AStr} (_ : WF x) (M : Option (List Str)) (st en : Nat) (_ : st < en) :
    ∀ s ∈ (newFmts x M st en).settings, s ∈ x.fmts.settings := by
  intro s hs
  obtain ⟨kp, hkp, h⟩ := Fmts.mem_settings.mp hs
  exact removeLoop_sub (· ∈ x.fmts.settings) M st en x.len (f0 x st en) [] []
    (fun _ h => nomatch h) (fun _ h => nomatch h) (settings_ensure (settings_ensure (fun _ h => h) st) en) s
    (Fmts.mem_settings.mpr ⟨kp, (List.mem_filter.mp hkp).1, h⟩)

section WFx

variable {x : AStr} (hx : WF x) (M : Option (List Str)) (st en : Nat)

include hx in
theorem f0_sorted : SortedKeys (f0 x st en) :=
  Fmts.sorted_ensure (Fmts.sorted_ensure hx.sorted st) en

include hx in
theorem f0_toFun (k : Nat) : Fmts.toFun (f0 x st en) k = Fmts.toFun x.fmts k := by
  rw [f0, Fmts.toFun_ensure (Fmts.sorted_ensure hx.sorted st), Fmts.toFun_ensure hx.sorted]

include hx in
theorem f0_active (i : Nat) : active (f0 x st en) i = active x.fmts i :=
  active_congr (f0_sorted hx st en) hx.sorted (f0_toFun hx st en) i

include hx in
theorem f0_clean : Clean [] (f0 x st en) :=
  ⟨List.nodup_nil, (replayOk_congr (f0_sorted hx st en) hx.sorted (f0_toFun hx st en)).mpr hx.ok,
    fun i => by rw [← active, f0_active hx st en i]; exact hx.nodup i⟩

include hx in
theorem mem_f0 : st ∈ (f0 x st en).map (·.1) ∧ en ∈ (f0 x st en).map (·.1) :=
  ⟨mem_keys_of_contains
      (contains_ensure_of_contains (Fmts.sorted_ensure hx.sorted st) en st (Fmts.contains_ensure_self _ st)),
    mem_keys_of_contains (Fmts.contains_ensure_self _ en)⟩

include hx in
theorem new_sorted : SortedKeys (newFmts x M st en) := by
  refine List.Pairwise.sublist List.filter_sublist (?_ : SortedKeys _)
  rw [Fmts.sortedKeys_iff, replay, removeLoop_keys, ← Fmts.sortedKeys_iff]
  exact f0_sorted hx st en

variable (h2 : st < en)

include hx h2 in
theorem f0_loop :
    replayOk (removeLoop M st en x.len [] (replay (f0 x st en))) = true ∧
    (∀ i, active (removeLoop M st en x.len [] (replay (f0 x st en))) i =
      if st ≤ i ∧ i < en then (active (f0 x st en) i).filter (nsel M) else active (f0 x st en) i) ∧
    loopOk M st en x.len [] (replay (f0 x st en)) = true :=
  loop_before M x.len h2 (f0 x st en) [] (f0_sorted hx st en) (mem_f0 hx st en).1
    (mem_f0 hx st en).2 (f0_clean hx st en) (fun h => by
      have := f0_active hx st en en
      rw [h, hx.closed] at this
      rw [h]
      exact this)

include hx h2 in
theorem new_replay : replayOk (newFmts x M st en) = true ∧
    ∀ i, active (newFmts x M st en) i =
      if st ≤ i ∧ i < en then (active x.fmts i).filter (nsel M) else active x.fmts i := by
  obtain ⟨hok, hact, _⟩ := f0_loop hx M st en h2
  have hs : SortedKeys (removeLoop M st en x.len [] (replay (f0 x st en))) := by
    rw [Fmts.sortedKeys_iff, replay, removeLoop_keys, ← Fmts.sortedKeys_iff]
    exact f0_sorted hx st en
  refine ⟨?_, fun i => ?_⟩
  · exact (replayOk_congr (List.Pairwise.sublist List.filter_sublist hs) hs (toFun_filter_nonEmpty hs)).mpr hok
  · rw [← f0_active hx st en i]
    unfold newFmts
    rw [active_congr (List.Pairwise.sublist List.filter_sublist hs) hs (toFun_filter_nonEmpty hs) i]
    exact hact i

include hx h2 in
theorem new_active (i : Nat) : active (newFmts x M st en) i =
    if st ≤ i ∧ i < en then (active x.fmts i).filter (nsel M) else active x.fmts i :=
  (new_replay hx M st en h2).2 i

variable (h1 : st < x.len) (h3 : en ≤ x.len)

include hx h1 h2 h3 in
theorem new_wf : WF { x with fmts := newFmts x M st en } := by
  obtain ⟨hok, hact⟩ := new_replay hx M st en h2
  refine wf_of (new_sorted hx M st en) ?_ hok (fun i => ?_) ?_ (fun s hs t ht =>
    hx.coherent s (new_settings hx M st en h2 s hs) t (new_settings hx M st en h2 t ht))
  · intro kp hkp
    have : kp.1 ∈ (removeLoop M st en x.len [] (replay (f0 x st en))).map (·.1) :=
      List.mem_map_of_mem (List.mem_filter.mp hkp).1
    rw [replay, removeLoop_keys] at this
    obtain ⟨kq, hkq, e⟩ := List.mem_map.mp this
    rw [← e]
    rcases Fmts.mem_ensure hkq with e | hkq
    · rw [e]; exact h3
    · rcases Fmts.mem_ensure hkq with e | hkq
      · rw [e]; exact Nat.le_of_lt h1
      · exact hx.bound kq hkq
  · rw [hact]
    split
    · exact nodup_filter (hx.nodup i) _
    · exact hx.nodup i
  · rw [hact, if_neg (by omega)]
    exact hx.closed

end WFx

end Remove
