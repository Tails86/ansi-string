import AnsiModel.Regex
/-
  The matcher `Re.m` of `AnsiModel/Regex.lean` by its characterising equations, one per construct, and
  the greedy `[..]*` where only the longest run can succeed.  Proofs about the library's patterns rewrite
  with these and never unfold `Re.m`.
-/

namespace Re

theorem m_seq {α} (a b : Re) (s : Str) (caps : Caps) (k : Str → Caps → Option α) :
    m (seq a b) s caps k = m a s caps (fun rest caps' => m b rest caps' k) := by rw [m]
theorem m_cls_cons {α} (p : Char → Bool) (c : Char) (rest : Str) (caps : Caps) (k : Str → Caps → Option α) :
    m (cls p) (c :: rest) caps k = if p c then k rest caps else none := by rw [m]
theorem m_cls_nil {α} (p : Char → Bool) (caps : Caps) (k : Str → Caps → Option α) :
    m (cls p) [] caps k = none := by rw [m]
theorem m_eps {α} (s : Str) (caps : Caps) (k : Str → Caps → Option α) : m eps s caps k = k s caps := by rw [m]
theorem m_cap {α} (n : Nat) (r : Re) (s : Str) (caps : Caps) (k : Str → Caps → Option α) :
    m (cap n r) s caps k =
      m r s caps (fun rest caps' => k rest ((n, s.take (s.length - rest.length)) :: caps'.filter (·.1 != n))) := by
  rw [m]
theorem m_opt {α} (r : Re) (s : Str) (caps : Caps) (k : Str → Caps → Option α) :
    m (opt r) s caps k = (m r s caps k).or (k s caps) := by
  rw [m]; cases m r s caps k <;> rfl
theorem m_alt {α} (a b : Re) (s : Str) (caps : Caps) (k : Str → Caps → Option α) :
    m (alt a b) s caps k = (m a s caps k).or (m b s caps k) := by
  rw [m]; cases m a s caps k <;> rfl
theorem m_eos {α} (s : Str) (caps : Caps) (k : Str → Caps → Option α) :
    m eos s caps k = if s.isEmpty ∨ s == ['\n'] then k s caps else none := by rw [m]
theorem m_star {α} (p : Char → Bool) (s : Str) (caps : Caps) (k : Str → Caps → Option α) :
    m (star p) s caps k = m.go s caps k (s.takeWhile p).length := by rw [m]

theorem go_zero {α} (s : Str) (caps : Caps) (k : Str → Caps → Option α) : m.go s caps k 0 = k s caps := by
  rw [m.go]
theorem go_succ {α} (s : Str) (caps : Caps) (k : Str → Caps → Option α) (n : Nat) :
    m.go s caps k (n + 1) = (k (s.drop (n + 1)) caps).or (m.go s caps k n) := by
  rw [m.go]; cases k (s.drop (n + 1)) caps <;> rfl

theorem go_longest {α} (s : Str) (caps : Caps) (k : Str → Caps → Option α) (n : Nat) (a : α)
    (h : k (s.drop n) caps = some a) : m.go s caps k n = some a := by
  cases n with
  | zero => rw [go_zero]; simpa using h
  | succ n => rw [go_succ, h]; rfl

theorem go_exact {α} (s : Str) (caps : Caps) (k : Str → Caps → Option α) :
    ∀ n, (∀ j, j < n → k (s.drop j) caps = none) → m.go s caps k n = k (s.drop n) caps
  | 0, _ => by rw [go_zero]; rfl
  | n + 1, h => by
    rw [go_succ]
    cases hk : k (s.drop (n + 1)) caps with
    | some a => rfl
    | none =>
      rw [Option.none_or, go_exact s caps k n (fun j hj => h j (by omega))]
      exact h n (by omega)

theorem m_star_exact {α} (p : Char → Bool) (s : Str) (caps : Caps) (k : Str → Caps → Option α)
    (h : ∀ j, j < (s.takeWhile p).length → k (s.drop j) caps = none) :
    m (star p) s caps k = k (s.drop (s.takeWhile p).length) caps := by
  rw [m_star, go_exact s caps k _ h]

theorem m_star_skip {α} (p : Char → Bool) (s : Str) (caps : Caps) (k : Str → Caps → Option α)
    (h : ∀ c, s.head? = some c → p c = false) : m (star p) s caps k = k s caps := by
  have : s.takeWhile p = [] := by
    cases s with
    | nil => rfl
    | cons c r => simp [List.takeWhile, h c rfl]
  rw [m_star, this]; exact go_zero ..

end Re
