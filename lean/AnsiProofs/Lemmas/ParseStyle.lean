import AnsiProofs.Lemmas.RenderStrip
import AnsiProofs.Props.C02
import AnsiProofs.Props.C18
import AnsiProofs.Props.C06
import AnsiProofs.Props.C07
/-
  For the STYLE half of property C02 (`set_ansi_str`: each character reports the effective style a conforming
  terminal gives it).  On a well-formed parameter string `parse_graphic_sequence` and the terminal read the
  same numbers (`pgsStr_effect`, from any prior state).  The lists `settings_to_remove` / `settings_to_apply`
  of the loop body are read as sets of texts; the effective style of a list of settings whose texts are the
  values of a dict does not depend on their order, a dict holding one group text per effect group
  (`eff_of_txtSet`).  With these one step of the loop body keeps `StepInv`, and `fold_inv` folds it over the
  ascending list of SGR sequences.
-/

open Term Eff ParseTextL ParseTextL.C02Spec

namespace ParseStyleL

/-! ## well-formed parameter strings -/

/-- every parameter of the parameter string is empty or decimal (after trimming) -/
def ParamsOK (p : Str) : Prop := (Term.params p).all Option.isSome = true

instance (p : Str) : Decidable (ParamsOK p) := by unfold ParamsOK; infer_instance

theorem wellFormedAux_sgrAux (m : Term.Mode) (n : Nat) (s : Str) :
    Term.wellFormedAux m s = true → ∀ ks ∈ sgrAux m n s, ParamsOK ks.2 := by
  fun_induction sgrAux m n s with
  | case1 => simp
  | case2 n rest ih =>
    intro h; rw [Term.wellFormedAux.eq_2] at h; exact ih h
  | case3 n c rest hne ih =>
    intro h; rw [Term.wellFormedAux.eq_3 _ _ hne] at h; exact ih h
  | case4 => simp
  | case5 ps n c rest hf hm ih =>
    intro h
    rw [Term.wellFormedAux.eq_5, if_pos hf, if_pos hm, Bool.and_eq_true] at h
    intro ks hks
    rcases List.mem_cons.mp hks with rfl | hks
    · exact h.1
    · exact ih h.2 ks hks
  | case6 ps n c rest hf hm ih =>
    intro h
    rw [Term.wellFormedAux.eq_5, if_pos hf, if_neg hm, Bool.and_eq_true] at h
    exact ih h.2
  | case7 ps n c rest hf ih =>
    intro h
    rw [Term.wellFormedAux.eq_5, if_neg hf] at h
    exact ih h

theorem wellFormed_sgrs (r : Str) (h : Term.wellFormed r = true) : ∀ ks ∈ sgrs r, ParamsOK ks.2 :=
  wellFormedAux_sgrAux .text 0 r h

theorem strip_eq_trim (s : Str) : Py.strip s = Term.trim s := rfl

theorem int_nil : Py.int [] = none := by decide

/-- one item: the model's `int(item.strip())` (empty = 0) and the terminal's `param` agree -/
theorem item_eq_param (it : Str) (n : Nat) (h : Term.param it = some n) :
    (match Py.int (Py.strip it) with
      | some i => Code.int i
      | none => if (Py.strip it).isEmpty then Code.int 0 else Code.str (Py.strip it)) =
      Code.int (n : Int) := by
  unfold Term.param at h
  simp only at h
  rw [strip_eq_trim]
  by_cases he : (Term.trim it).isEmpty = true
  · rw [if_pos he] at h
    cases h
    have : Term.trim it = [] := List.isEmpty_iff.1 he
    rw [this, int_nil]
    rfl
  · rw [if_neg he] at h
    by_cases hd : (Term.trim it).all Term.isDigit = true
    · rw [if_pos hd] at h
      cases h
      have hne : Term.trim it ≠ [] := fun e => he (by rw [e]; rfl)
      have hall : AllDigits (Term.trim it) := by
        intro c hc
        exact List.all_eq_true.1 hd c hc
      rw [int_digits hne hall, decimal_eq]
    · rw [if_neg hd] at h; cases h

theorem items_eq_aux (l : List Str) (h : ∀ it ∈ l, (Term.param it).isSome = true) :
    l.map (fun it =>
      let it := Py.strip it
      match Py.int it with
      | some i => Code.int i
      | none => if it.isEmpty then Code.int 0 else Code.str it) =
      ints ((l.map Term.param).filterMap id) := by
  induction l with
  | nil => rfl
  | cons it l ih =>
    have h1 := h it (by simp)
    obtain ⟨n, hn⟩ := Option.isSome_iff_exists.1 h1
    rw [List.map_cons, List.map_cons, ih (fun x hx => h x (by simp [hx])), hn]
    simp only [List.filterMap_cons, id]
    rw [item_eq_param it n hn]
    rfl

theorem items_eq_params (p : Str) (hp : ParamsOK p) :
    pgsItemsOfStr p = ints ((Term.params p).filterMap id) ∧
    Term.params p = ((Term.params p).filterMap id).map some := by
  unfold ParamsOK at hp
  constructor
  · unfold pgsItemsOfStr Term.params
    rw [splitSemi_eq]
    apply items_eq_aux
    intro it hit
    unfold Term.params at hp
    rw [splitSemi_eq] at hp
    exact List.all_eq_true.1 hp _ (List.mem_map.2 ⟨it, hit, rfl⟩)
  · generalize Term.params p = l at hp
    induction l with
    | nil => rfl
    | cons a l ih =>
      simp only [List.all_cons, Bool.and_eq_true] at hp
      obtain ⟨n, rfl⟩ := Option.isSome_iff_exists.1 hp.1
      simp only [List.filterMap_cons, id, List.map_cons]
      rw [← ih hp.2]

theorem params_ne_nil (p : Str) : Term.params p ≠ [] := by
  unfold Term.params
  rw [splitSemi_eq]
  intro h
  exact splitOnChar_ne_nil ';' p (List.map_eq_nil_iff.1 h)

/-- the settings `parse_graphic_sequence(p, add_erroneous=False)` hands to `settings_to_dict` -/
def seqSettings (p : Str) : List Setting := (pgsStr p false).map (fun t => (⟨0, t⟩ : Setting))

theorem seqSettings_spec (p : Str) (hp : ParamsOK p) :
    (∀ s ∈ seqSettings p, isGroupTxt s.txt = true) ∧
    ∀ t : TState, Term.feed t (codesOf (seqSettings p)) = Term.feed t (Term.params p) := by
  by_cases hne : p = []
  · subst hne
    have e1 : seqSettings [] = [⟨0, ['0']⟩] := by decide
    have e2 : codesOf [(⟨0, ['0']⟩ : Setting)] = [some 0] := by decide
    have e3 : Term.params [] = [some 0] := by decide
    rw [e1, e2, e3]
    exact ⟨by simp [isGroupTxt_zero], fun _ => rfl⟩
  · obtain ⟨h1, h2⟩ := items_eq_params p hp
    generalize (Term.params p).filterMap id = codes at h1 h2
    obtain ⟨gs, hgs⟩ := reads_exists codes
    have hgv := hgs.1
    have hnn : ∀ g ∈ gs, g ≠ [] := fun g hg => by cases hgv g hg <;> simp
    have hemp : p.isEmpty = false := by simpa [List.isEmpty_iff] using hne
    have e : seqSettings p = (gs.map Scrub.joinNats).map (fun t => (⟨0, t⟩ : Setting)) := by
      unfold seqSettings pgsStr
      rw [hemp]
      simp only [Bool.false_eq_true, if_false]
      rw [h1, pgsItems_false hgs]
    rw [e]
    refine ⟨?_, fun t => ?_⟩
    · intro s hs
      simp only [List.mem_map] at hs
      obtain ⟨t, ⟨g, hg, rfl⟩, rfl⟩ := hs
      exact isGroupTxt_joinNats (hgv g hg)
    · rw [codesOf_groups gs hnn, hgs.2.2, h2]

/-- `C18.pgs_terminal` from any prior state and for string input: `parse_graphic_sequence` +
    `settings_to_dict` on top of `old` is what the terminal does with the same parameter string in the
    state `old` stands for -/
theorem pgsStr_effect (p : Str) (hp : ParamsOK p) (old : PyDict) :
    alpha (settingsToDict (seqSettings p) old) = Term.feed (alpha old) (Term.params p) := by
  obtain ⟨h1, h2⟩ := seqSettings_spec p hp
  rw [alpha_settingsToDict h1, h2]

theorem pgsStr_dictOK (p : Str) (hp : ParamsOK p) (old : PyDict) (hd : DictOK old) :
    DictOK (settingsToDict (seqSettings p) old) :=
  dictOK_settingsToDict (seqSettings_spec p hp).1 hd

/-! ## `settings_to_remove` / `settings_to_apply` as sets of texts -/

def dtexts (d : PyDict) : List Str := d.map (fun kv => kv.2.txt)

theorem mem_dtexts {d : PyDict} {t : Str} : t ∈ dtexts d ↔ ∃ kv ∈ d, kv.2.txt = t :=
  List.mem_map

theorem get_eq_none {d : PyDict} {k : Nat} (h : d.get? k = none) : ∀ kv ∈ d, kv.1 ≠ k := by
  rw [PyDict.get?_def] at h
  rw [Option.map_eq_none_iff, List.find?_eq_none] at h
  intro kv hkv
  simpa using h kv hkv

theorem pair_unique {d : PyDict} (hp : d.Pairwise (fun a b => a.1 ≠ b.1)) {a b : Nat × Setting}
    (ha : a ∈ d) (hb : b ∈ d) (h : a.1 = b.1) : a = b := by
  have h1 := PyDict.get?_of_mem hp (k := a.1) (v := a.2) ha
  have h2 := PyDict.get?_of_mem hp (k := b.1) (v := b.2) hb
  rw [h, h2] at h1
  exact Prod.ext h (Option.some.inj h1).symm

theorem key_of_txt {d d' : PyDict} (hd : DictOK d) (hd' : DictOK d') {kv kv' : Nat × Setting}
    (h : kv ∈ d) (h' : kv' ∈ d') (e : kv.2.txt = kv'.2.txt) : kv.1 = kv'.1 := by
  have a := (hd.2 kv h).2
  have b := (hd'.2 kv' h').2
  rw [e, b] at a
  simp only [Option.some.injEq, Prod.mk.injEq, and_true] at a
  exact a.symm

theorem dtexts_nodup {d : PyDict} (hd : DictOK d) : (dtexts d).Nodup := by
  unfold dtexts
  rw [List.nodup_iff_pairwise_ne, List.pairwise_map]
  refine List.Pairwise.imp_of_mem ?_ hd.1
  intro a b ha hb hne e
  exact hne (key_of_txt hd hd ha hb e)

/-- `settings_to_remove` of the loop body, as a function of the old and the new dict -/
def toRemoveOf (old new : PyDict) : List Setting :=
  ((new.filter (fun kv => match old.get? kv.1 with
      | some v => v.txt != kv.2.txt
      | none => false)).filterMap (fun kv => old.get? kv.1)) ++
    (old.filter (fun kv => !new.contains kv.1)).map (·.2)

/-- `settings_to_apply` of the loop body -/
def toApplyOf (old new : PyDict) : List Setting :=
  (new.filter (fun kv => match old.get? kv.1 with
      | some v => v.txt != kv.2.txt
      | none => true)).map (·.2)

theorem mem_toRemove {old new : PyDict} (ho : DictOK old) (hn : DictOK new) (t : Str) :
    t ∈ texts (toRemoveOf old new) ↔ t ∈ dtexts old ∧ t ∉ dtexts new := by
  unfold toRemoveOf texts
  simp only [List.map_append, List.mem_append, List.mem_map, List.mem_filterMap, List.mem_filter,
    mem_dtexts]
  constructor
  · rintro (⟨s, ⟨kv, ⟨hkv, hc⟩, hg⟩, rfl⟩ | ⟨s, ⟨kv, ⟨hkv, hc⟩, rfl⟩, rfl⟩)
    · have hm := PyDict.mem_of_get? hg
      rw [hg] at hc
      have hc' : s.txt ≠ kv.2.txt := by simpa using hc
      refine ⟨⟨_, hm, rfl⟩, ?_⟩
      rintro ⟨kv', hkv', e⟩
      have hk : kv'.1 = kv.1 := key_of_txt (kv' := (kv.1, s)) hn ho hkv' hm e
      have : kv' = kv := pair_unique hn.1 hkv' hkv hk
      subst this
      exact hc' e.symm
    · refine ⟨⟨kv, hkv, rfl⟩, ?_⟩
      rintro ⟨kv', hkv', e⟩
      have hk : kv'.1 = kv.1 := key_of_txt hn ho hkv' hkv e
      have : new.contains kv.1 = true := PyDict.contains_iff.2 ⟨kv', hkv', hk⟩
      rw [this] at hc
      cases hc
  · rintro ⟨⟨kv, hkv, rfl⟩, hnot⟩
    by_cases hc : new.contains kv.1 = true
    · left
      obtain ⟨kv', hkv', hk⟩ := PyDict.contains_iff.1 hc
      have hg : old.get? kv'.1 = some kv.2 := PyDict.get?_of_mem ho.1 (by rw [hk]; exact hkv)
      refine ⟨kv.2, ⟨kv', ⟨hkv', ?_⟩, hg⟩, rfl⟩
      rw [hg]
      simp only [bne_iff_ne, ne_eq]
      intro e
      exact hnot ⟨kv', hkv', e.symm⟩
    · right
      exact ⟨kv.2, ⟨kv, ⟨hkv, by simpa using hc⟩, rfl⟩, rfl⟩

theorem mem_toApply {old new : PyDict} (ho : DictOK old) (hn : DictOK new) (t : Str) :
    t ∈ texts (toApplyOf old new) ↔ t ∈ dtexts new ∧ t ∉ dtexts old := by
  unfold toApplyOf texts
  simp only [List.mem_map, List.mem_filter, mem_dtexts]
  constructor
  · rintro ⟨s, ⟨kv, ⟨hkv, hc⟩, rfl⟩, rfl⟩
    refine ⟨⟨kv, hkv, rfl⟩, ?_⟩
    rintro ⟨kv', hkv', e⟩
    have hk : kv'.1 = kv.1 := key_of_txt ho hn hkv' hkv e
    have hg : old.get? kv.1 = some kv'.2 := PyDict.get?_of_mem ho.1 (by rw [← hk]; exact hkv')
    rw [hg] at hc
    have : kv'.2.txt ≠ kv.2.txt := by simpa using hc
    exact this e
  · rintro ⟨⟨kv, hkv, rfl⟩, hnot⟩
    refine ⟨kv.2, ⟨kv, ⟨hkv, ?_⟩, rfl⟩, rfl⟩
    cases hg : old.get? kv.1 with
    | none => rfl
    | some v =>
      simp only [bne_iff_ne, ne_eq]
      intro e
      exact hnot ⟨_, PyDict.mem_of_get? hg, e⟩

theorem nodup_toApply {old new : PyDict} (hn : DictOK new) : (texts (toApplyOf old new)).Nodup := by
  unfold toApplyOf texts
  rw [List.map_map]
  exact (dtexts_nodup hn).sublist (List.Sublist.map _ List.filter_sublist)

/-! ## the effective style of settings whose texts are the values of a dict -/

/-- the effect number the first code of a setting text is filed under -/
def keyOf (t : Str) : Nat :=
  match SettingTxt.initialParam t with
  | some (e, _) => e
  | none => 0

/-- a group text that applies (sets) its own effect group -/
def ApplyTxt (t : Str) : Prop :=
  isGroupTxt t = true ∧ SettingTxt.initialParam t = some (keyOf t, Gen.fnApply)

theorem applyTxt_of_mem {d : PyDict} (hd : DictOK d) {kv : Nat × Setting} (h : kv ∈ d) :
    ApplyTxt kv.2.txt ∧ keyOf kv.2.txt = kv.1 := by
  obtain ⟨h1, h2⟩ := hd.2 kv h
  have hk : keyOf kv.2.txt = kv.1 := by unfold keyOf; rw [h2]
  exact ⟨⟨h1, by rw [hk]; exact h2⟩, hk⟩

theorem dictStep_apply {s : Setting} (h : ApplyTxt s.txt) (d : PyDict) :
    dictStep d s = d.insert (keyOf s.txt) s := by
  unfold dictStep
  rw [h.2]
  simp

theorem settingsToDict_apply (A : List Setting) (hA : ∀ s ∈ A, ApplyTxt s.txt) (d0 : PyDict) :
    settingsToDict A d0 = PyDict.insAll (A.map fun s => (keyOf s.txt, s)) d0 := by
  induction A generalizing d0 with
  | nil => rfl
  | cons a A ih =>
    rw [settingsToDict_cons, dictStep_apply (hA a (by simp)), ih (fun s hs => hA s (by simp [hs]))]
    rfl

def TxtSet (A : List Setting) (d : PyDict) : Prop :=
  (texts A).Nodup ∧ ∀ t, t ∈ texts A ↔ t ∈ dtexts d

theorem mem_texts {A : List Setting} {t : Str} : t ∈ texts A ↔ ∃ s ∈ A, s.txt = t :=
  List.mem_map

/-- Order independence: a dict holds one group text per effect group, each setting its own
    group, so whatever the order in which a character reports the dict's values, their effective
    style is the state the dict stands for. -/
theorem eff_of_txtSet {A : List Setting} {d : PyDict} (hd : DictOK d) (h : TxtSet A d) :
    eff A = alpha d := by
  obtain ⟨hnd, hmem⟩ := h
  -- every active setting is a value of the dict
  have hin : ∀ s ∈ A, ∃ kv ∈ d, kv.2.txt = s.txt := fun s hs =>
    mem_dtexts.1 ((hmem s.txt).1 (mem_texts.2 ⟨s, hs, rfl⟩))
  have hA : ∀ s ∈ A, ApplyTxt s.txt := by
    intro s hs
    obtain ⟨kv, hkv, e⟩ := hin s hs
    rw [← e]
    exact (applyTxt_of_mem hd hkv).1
  have hp : A.Pairwise (fun a b => keyOf a.txt ≠ keyOf b.txt) := by
    have h1 : A.Pairwise (fun a b => a.txt ≠ b.txt) := by
      have := List.nodup_iff_pairwise_ne.1 hnd
      unfold texts at this
      exact List.pairwise_map.1 this
    refine List.Pairwise.imp_of_mem ?_ h1
    intro a b ha hb hne e
    obtain ⟨kva, hkva, ea⟩ := hin a ha
    obtain ⟨kvb, hkvb, eb⟩ := hin b hb
    have ka := (applyTxt_of_mem hd hkva).2
    have kb := (applyTxt_of_mem hd hkvb).2
    rw [ea] at ka
    rw [eb] at kb
    have : kva = kvb := pair_unique hd.1 hkva hkvb (by rw [← ka, ← kb, e])
    subst this
    exact hne (ea.symm.trans eb)
  rw [RenderL.eff_eq_alpha (fun s hs => (hA s hs).1), settingsToDict_apply A hA]
  apply alpha_congr
  intro k
  by_cases hex : ∃ s ∈ A, keyOf s.txt = k
  · obtain ⟨s, hs, rfl⟩ := hex
    obtain ⟨kv, hkv, e⟩ := hin s hs
    have kk := (applyTxt_of_mem hd hkv).2
    rw [e] at kk
    have hget : (PyDict.insAll (A.map fun s => (keyOf s.txt, s)) []).get? (keyOf s.txt) = some s :=
      PyDict.get?_insAll_mem _ (List.pairwise_map.2 hp) [] (keyOf s.txt, s) (List.mem_map.2 ⟨s, hs, rfl⟩)
    rw [hget, kk, PyDict.get?_of_mem hd.1 hkv]
    exact congrArg some e.symm
  · rw [PyDict.get?_insAll_not_mem _ _ _ (fun kv hkv e => by
      obtain ⟨s, hs, rfl⟩ := List.mem_map.1 hkv
      exact hex ⟨s, hs, e⟩)]
    cases hf : d.get? k with
    | none => rfl
    | some v =>
      exfalso
      have hkv := PyDict.mem_of_get? hf
      obtain ⟨s, hs, e⟩ := mem_texts.1 ((hmem v.txt).2 (mem_dtexts.2 ⟨_, hkv, rfl⟩))
      exact hex ⟨s, hs, by rw [e]; exact (applyTxt_of_mem hd hkv).2⟩

/-- The set-of-texts content of one loop step: take the texts of `settings_to_remove` out of a
    list that reports the old dict's values, put the texts of `settings_to_apply` in (anywhere):
    the list reports the new dict's values. -/
theorem txtSet_step {A : List Setting} {old new : PyDict} (ho : DictOK old) (hn : DictOK new)
    (h : TxtSet A old) {p q F : List Setting}
    (e : A.filter (fun s => !(texts (toRemoveOf old new)).contains s.txt) = p ++ q)
    (hF : texts F = texts (toApplyOf old new)) : TxtSet (p ++ F ++ q) new := by
  obtain ⟨hnd, hmem⟩ := h
  have hrm := mem_toRemove ho hn
  have hap := mem_toApply ho hn
  -- the texts after the removal
  have hnd1 : (texts (p ++ q)).Nodup := by
    rw [← e]
    exact hnd.sublist (List.Sublist.map _ List.filter_sublist)
  have hmem1 : ∀ t, t ∈ texts (p ++ q) ↔ t ∈ dtexts old ∧ t ∈ dtexts new := by
    intro t
    rw [← e, ← hmem t]
    simp only [mem_texts, List.mem_filter, Bool.not_eq_true', List.contains_eq_mem,
      decide_eq_false_iff_not]
    constructor
    · rintro ⟨s, ⟨hs, hnot⟩, rfl⟩
      have hin : s.txt ∈ dtexts old := (hmem s.txt).1 (mem_texts.2 ⟨s, hs, rfl⟩)
      refine ⟨⟨s, hs, rfl⟩, ?_⟩
      by_cases hc : s.txt ∈ dtexts new
      · exact hc
      · exact absurd (mem_texts.1 ((hrm s.txt).2 ⟨hin, hc⟩)) hnot
    · rintro ⟨⟨s, hs, rfl⟩, hin⟩
      exact ⟨s, ⟨hs, fun hc => ((hrm s.txt).1 (mem_texts.2 hc)).2 hin⟩, rfl⟩
  -- the texts after the application, up to order
  have hperm : (texts (p ++ F ++ q)).Perm (texts (p ++ q) ++ texts (toApplyOf old new)) := by
    rw [← hF]
    unfold texts
    simp only [List.map_append, List.append_assoc]
    exact List.Perm.append_left _ List.perm_append_comm
  constructor
  · rw [hperm.nodup_iff, List.nodup_append]
    refine ⟨hnd1, nodup_toApply hn, ?_⟩
    intro a ha b hb e
    subst e
    exact ((hap a).1 hb).2 ((hmem1 a).1 ha).1
  · intro t
    rw [hperm.mem_iff, List.mem_append, hmem1 t, hap t]
    by_cases h1 : t ∈ dtexts old <;> by_cases h2 : t ∈ dtexts new <;> simp [h1, h2]

/-! ## one step of the loop body -/

theorem sliceIdx_key (n k : Nat) (h : k < n) : sliceIdx n (some (k : Int)) 0 = k := by
  have : ¬ ((k : Int) < 0) := Int.not_lt.2 (Int.natCast_nonneg k)
  simp only [sliceIdx, this, if_false, Int.toNat_natCast]
  omega

theorem mem_freshSettings {nid : Nat} {ts : List Str} {s : Setting} (h : s ∈ freshSettings nid ts) :
    s.txt ∈ ts := by
  have : s.txt ∈ texts (freshSettings nid ts) := List.mem_map.2 ⟨s, h, rfl⟩
  rwa [texts_freshSettings] at this

/-- `if settings_to_remove: self.remove_formatting(settings_to_remove, key)` -/
def stepRemove (x : AStr) (R : List Setting) (key : Nat) : AStr :=
  if R.isEmpty then x else x.removeFormatting (some (texts R)) (some key) none

/-- `if settings_to_apply: self.apply_formatting(settings_to_apply, key)` -/
def stepApply (x : AStr) (nid : Nat) (N : List Setting) (key : Nat) : AStr :=
  if N.isEmpty then x else x.applyFormatting (freshSettings nid (texts N)) (some key) none true

theorem stepRemove_spec (x : AStr) (hw : WF x) (R : List Setting) (key : Nat) (hk : key < x.len) :
    WF (stepRemove x R key) ∧ (stepRemove x R key).s = x.s ∧
    (∀ s ∈ (stepRemove x R key).fmts.settings, s ∈ x.fmts.settings) ∧
    (∀ j, j < key → act (stepRemove x R key) j = act x j) ∧
    (∀ j, key ≤ j → j < x.len →
      act (stepRemove x R key) j = (act x j).filter (fun s => !(texts R).contains s.txt)) := by
  unfold stepRemove
  split
  · rename_i he
    have : R = [] := List.isEmpty_iff.1 he
    subst this
    refine ⟨hw, rfl, fun _ h => h, fun _ _ => rfl, fun j _ _ => ?_⟩
    symm
    apply List.filter_eq_self.2
    intro s _
    simp [texts]
  · have hst : sliceIdx x.len (some (key : Int)) 0 = key := sliceIdx_key _ _ hk
    refine ⟨remove_wf x hw _ _ _, remove_text _ _ _ _, removeNoNewSettings x _ _ _ hw, ?_, ?_⟩
    · intro j hj
      exact remove_outside x hw _ _ _ j (Or.inl (by rw [hst]; exact hj))
    · intro j h1 h2
      rw [remove_inside x hw (some (texts R)) (some (key : Int)) none j (by rw [hst]; exact hk)
        (by rw [hst]; exact h1) h2]
      rfl

theorem stepApply_spec (x : AStr) (hw : WF x) (nid : Nat) (hf : FreshFrom x nid) (N : List Setting)
    (key : Nat) (hk : key < x.len) :
    WF (stepApply x nid N key) ∧ (stepApply x nid N key).s = x.s ∧
    FreshFrom (stepApply x nid N key) (nid + N.length) ∧
    (∀ s ∈ (stepApply x nid N key).fmts.settings, s.txt ∈ texts N ∨ s ∈ x.fmts.settings) ∧
    (∀ j, j < key → act (stepApply x nid N key) j = act x j) ∧
    (∀ j, key ≤ j → j < x.len → ∃ p q, act x j = p ++ q ∧
      act (stepApply x nid N key) j = p ++ freshSettings nid (texts N) ++ q) := by
  unfold stepApply
  split
  · rename_i he
    have : N = [] := List.isEmpty_iff.1 he
    subst this
    refine ⟨hw, rfl, hf, fun _ h => Or.inr h, fun _ _ => rfl, fun j _ _ => ⟨act x j, [], by simp, ?_⟩⟩
    simp [texts, freshSettings]
  · have hst : key = sliceIdx x.len (some (key : Int)) 0 := (sliceIdx_key _ _ hk).symm
    have hen : x.len = sliceIdx x.len none x.len := rfl
    have hfn := freshSettings_fresh x nid (texts N) hf
    refine ⟨apply_wf x _ _ _ true hw hfn, apply_text _ _ _ _ _, ?_, ?_, ?_, ?_⟩
    · have := freshFrom_apply (texts N) (some (key : Int)) none true hw hf
      rw [texts_length] at this
      exact this
    · intro s hs
      exact (apply_settings_sub _ _ true hw hfn s hs).imp_left mem_freshSettings
    · intro j hj
      exact apply_outside x _ _ _ true hst hen hw hfn j (Or.inl hj)
    · intro j h1 h2
      exact apply_inside_top x _ _ _ hst hen hw hfn j h1 h2 hk

theorem setAnsiStep_skip (acc : AStr × PyDict × Nat) (key : Nat) (sq : CtlSeq) (h : key ≥ acc.1.len) :
    AStr.setAnsiStep acc key sq = acc := by
  obtain ⟨x, old, nid⟩ := acc
  unfold AStr.setAnsiStep
  simp only
  rw [if_pos h]

theorem setAnsiStep_eq (x : AStr) (old : PyDict) (nid key : Nat) (sq : CtlSeq) (h : key < x.len) :
    AStr.setAnsiStep (x, old, nid) key sq =
      (stepApply (stepRemove x (toRemoveOf old (settingsToDict (seqSettings sq.sequence) old)) key) nid
          (toApplyOf old (settingsToDict (seqSettings sq.sequence) old)) key,
       settingsToDict (seqSettings sq.sequence) old,
       nid + (toApplyOf old (settingsToDict (seqSettings sq.sequence) old)).length) := by
  unfold AStr.setAnsiStep
  simp only
  rw [if_neg (Nat.not_le_of_lt h)]
  rfl

/-- The loop invariant at "last processed key" `k` for a text of length `n`, on the loop state
    (value, `current_settings`, next identity): the history invariant, the identities handed out
    so far, a well-formed dict, and — the point — every character from `k` on reports exactly the
    dict's values (each once, in some order). -/
structure StepInv (n k : Nat) (acc : AStr × PyDict × Nat) : Prop where
  wf : WF acc.1
  fresh : FreshFrom acc.1 acc.2.2
  len : acc.1.len = n
  dict : DictOK acc.2.1
  set : ∀ j, k ≤ j → j < n → TxtSet (act acc.1 j) acc.2.1

theorem len_of_s {x y : AStr} (h : y.s = x.s) : y.len = x.len := by
  unfold AStr.len; rw [h]

theorem step_inv {n k : Nat} {acc : AStr × PyDict × Nat} (h : StepInv n k acc)
    (key : Nat) (hk : k ≤ key) (hlt : key < n) (p : Str) (hp : ParamsOK p) (tm : Str) :
    StepInv n key (AStr.setAnsiStep acc key ⟨p, tm⟩) ∧
    alpha (AStr.setAnsiStep acc key ⟨p, tm⟩).2.1 = Term.feed (alpha acc.2.1) (Term.params p) ∧
    ∀ j, j < key → act (AStr.setAnsiStep acc key ⟨p, tm⟩).1 j = act acc.1 j := by
  obtain ⟨x, d, nid⟩ := acc
  obtain ⟨hw, hf, rfl, hd, hset⟩ := h
  simp only at hw hf hlt hd hset ⊢
  rw [setAnsiStep_eq x d nid key ⟨p, tm⟩ hlt]
  simp only
  have hnew : DictOK (settingsToDict (seqSettings p) d) := pgsStr_dictOK p hp d hd
  have halpha := pgsStr_effect p hp d
  generalize settingsToDict (seqSettings p) d = new at hnew halpha ⊢
  obtain ⟨r1, r2, r3, r4, r5⟩ := stepRemove_spec x hw (toRemoveOf d new) key hlt
  have hl1 : (stepRemove x (toRemoveOf d new) key).len = x.len := len_of_s r2
  obtain ⟨a1, a2, a3, -, a4, a5⟩ := stepApply_spec _ r1 nid (fun s hs => hf s (r3 s hs))
    (toApplyOf d new) key (hl1 ▸ hlt)
  refine ⟨⟨a1, a3, ?_, hnew, ?_⟩, halpha, ?_⟩
  · show (stepApply _ nid _ key).len = x.len
    rw [len_of_s a2, hl1]
  · intro j hj1 hj2
    obtain ⟨pp, qq, e1, e2⟩ := a5 j hj1 (hl1 ▸ hj2)
    rw [r5 j hj1 hj2] at e1
    show TxtSet (act (stepApply _ nid _ key) j) new
    rw [e2]
    exact txtSet_step hd hnew (hset j (Nat.le_trans hk hj1) hj2) e1 (texts_freshSettings nid _)
  · intro j hj
    show act (stepApply _ nid _ key) j = act x j
    rw [a4 j hj, r4 j hj]

/-! ## the fold over the ascending list of SGR sequences -/

/-- the loop body as `C02.setAnsi_eq_fold_sgrs` folds it -/
def stepFn (acc : AStr × PyDict × Nat) (ks : Nat × Str) : AStr × PyDict × Nat :=
  AStr.setAnsiStep acc ks.1 ⟨ks.2, ['m']⟩

theorem stAt_nil (t : TState) (i : Nat) : stAt t [] i = t := rfl

theorem stAt_cons_gt (t : TState) (k : Nat) (ps : Str) (L : List (Nat × Str)) (i : Nat) (h : i < k) :
    stAt t ((k, ps) :: L) i = stAt t L i := by
  unfold stAt
  have : ¬ (k ≤ i) := Nat.not_le_of_lt h
  simp [this]

/-- Characters before `k` are not touched; every character `i ≥ k` ends up reporting the style of
    the terminal state reached from the dict's state by the sequences at offsets `≤ i`; the final
    dict stands for the state reached by the sequences inside the text (those at the very end of
    the text are skipped by the library). -/
theorem fold_inv (n : Nat) (L : List (Nat × Str)) :
    ∀ (k : Nat) (acc : AStr × PyDict × Nat), StepInv n k acc →
      L.Pairwise (fun a b => a.1 ≤ b.1) → (∀ ks ∈ L, k ≤ ks.1) → (∀ ks ∈ L, ParamsOK ks.2) →
      (∀ j, j < k → act (L.foldl stepFn acc).1 j = act acc.1 j) ∧
      (∀ i, k ≤ i → i < n → eff (act (L.foldl stepFn acc).1 i) = stAt (alpha acc.2.1) L i) ∧
      alpha (L.foldl stepFn acc).2.1 =
        feedSeqs (alpha acc.2.1) ((L.filter (fun ks => ks.1 < n)).map (·.2)) ∧
      DictOK (L.foldl stepFn acc).2.1 := by
  induction L with
  | nil =>
    intro k acc h _ _ _
    refine ⟨fun _ _ => rfl, fun i h1 h2 => ?_, rfl, h.dict⟩
    rw [stAt_nil]
    exact eff_of_txtSet h.dict (h.set i h1 h2)
  | cons kp L ih =>
    obtain ⟨key, p⟩ := kp
    intro k acc h hs hge hok
    rw [List.pairwise_cons] at hs
    have hkey : k ≤ key := hge (key, p) (by simp)
    have hok' : ∀ ks ∈ L, ParamsOK ks.2 := fun ks hks => hok ks (by simp [hks])
    rw [List.foldl_cons]
    by_cases hlt : key < n
    · obtain ⟨hinv, halpha, hbefore⟩ := step_inv h key hkey hlt p (hok (key, p) (by simp)) ['m']
      obtain ⟨i1, i2, i3, i4⟩ := ih key (stepFn acc (key, p)) hinv hs.2 (fun ks hks => hs.1 ks hks) hok'
      refine ⟨fun j hj => ?_, fun i h1 h2 => ?_, ?_, i4⟩
      · rw [i1 j (Nat.lt_of_lt_of_le hj hkey)]
        exact hbefore j (Nat.lt_of_lt_of_le hj hkey)
      · by_cases hi : i < key
        · rw [i1 i hi, show act (stepFn acc (key, p)).1 i = act acc.1 i from hbefore i hi,
            eff_of_txtSet h.dict (h.set i h1 h2), stAt_of_lt]
          intro ks hks
          rcases List.mem_cons.1 hks with rfl | hks
          · exact hi
          · exact Nat.lt_of_lt_of_le hi (hs.1 ks hks)
        · rw [i2 i (Nat.le_of_not_lt hi) h2, show alpha (stepFn acc (key, p)).2.1 = _ from halpha,
            stAt_cons_le _ _ _ _ _ (Nat.le_of_not_lt hi)]
      · rw [i3, show alpha (stepFn acc (key, p)).2.1 = _ from halpha]
        simp only [List.filter_cons, hlt, decide_true, if_true, List.map_cons, feedSeqs_cons]
    · have hnk : n ≤ key := Nat.le_of_not_lt hlt
      have e : stepFn acc (key, p) = acc := setAnsiStep_skip acc key _ (h.len ▸ hnk)
      rw [e]
      obtain ⟨i1, i2, i3, i4⟩ := ih k acc h hs.2 (fun ks hks => Nat.le_trans hkey (hs.1 ks hks)) hok'
      refine ⟨i1, fun i h1 h2 => ?_, ?_, i4⟩
      · rw [i2 i h1 h2, stAt_cons_gt _ _ _ _ _ (Nat.lt_of_lt_of_le h2 hnk)]
      · rw [i3]
        simp only [List.filter_cons, hlt, decide_false, Bool.false_eq_true, if_false]

theorem stepInv_init (s : Str) (nid : Nat) : StepInv s.length 0 ({ s := s, fmts := [] }, [], nid) where
  wf := wf_plain s
  fresh := freshFrom_plain s nid
  len := rfl
  dict := dictOK_nil
  set := fun _ _ _ => ⟨List.nodup_nil, fun _ => Iff.rfl⟩

/-- `current_settings` when `set_ansi_str(r)` returns (the dict component of the loop state) -/
def finalDict (r : Str) (nid : Nat := 0) : PyDict :=
  ((sgrs r).foldl stepFn ({ s := Term.stripSgr r, fmts := [] }, [], nid)).2.1

theorem setAnsi_eq_fold (r : Str) (nid : Nat) :
    (AStr.setAnsi r nid).1 =
      ((sgrs r).foldl stepFn ({ s := Term.stripSgr r, fmts := [] }, [], nid)).1 := by
  rw [C02.setAnsi_eq_fold_sgrs]
  rfl

theorem setAnsi_inv (r : Str) (nid : Nat) (hwf : Term.wellFormed r = true) :
    (∀ i, i < (Term.stripSgr r).length →
      eff (act (AStr.setAnsi r nid).1 i) = stAt Term.default (sgrs r) i) ∧
    alpha (finalDict r nid) =
      feedSeqs Term.default (((sgrs r).filter (fun ks => ks.1 < (Term.stripSgr r).length)).map (·.2)) ∧
    DictOK (finalDict r nid) := by
  have h := fold_inv _ (sgrs r) 0 _ (stepInv_init (Term.stripSgr r) nid) (C02.sgrs_sorted r)
    (fun _ _ => Nat.zero_le _) (wellFormed_sgrs r hwf)
  rw [← setAnsi_eq_fold, alpha_nil] at h
  exact ⟨fun i hi => h.2.1 i (Nat.zero_le _) hi, h.2.2⟩

end ParseStyleL
