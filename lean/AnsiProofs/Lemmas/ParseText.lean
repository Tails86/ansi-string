import AnsiProofs.Props.C19
import AnsiProofs.Props.C06
import AnsiProofs.Props.C07
/-
  For the TEXT half of property C02 (`set_ansi_str` / the constructors: base text = input with the SGR
  sequences removed).  The loop of `set_ansi_str` never touches the text (`loop_inv` is the invariant lemma
  of that loop).  The terminal specification seen from the input only: the characters it displays (`sm`,
  defined here under `namespace RenderStripL`, where `Lemmas/RenderStrip.lean` goes on with it) and the SGR
  sequences it meets with their offsets (`C02Spec.sgrs`); `Term.run` through the two (`run_eq`).  The model
  tokenizer (`tokLoop false (some ['m'])`) is the same mode machine: it collects that text and records exactly
  that list, so `set_ansi_str` is one fold over `sgrs`.  Along that fold the identities stay fresh and the
  value `WF`, given that `remove_formatting` keeps `WF` and introduces no new object (`RemoveKeepsWF`,
  `RemoveNoNewSettings`, from C07).

  The specification-side definitions `ParseTextL.C02Spec.*` are written over the input characters only,
  mirroring `Term.runAux`, and never mention the tokenizer.
-/

namespace RenderStripL

/-- the characters `Term.runAux` displays, as a function of the mode and the input only -/
def sm : Term.Mode → List Char → List Char
  | .text, [] => []
  | .text, '\x1b' :: '[' :: rest => sm (.seq []) rest
  | .text, c :: rest => c :: sm .text rest
  | .seq ps, [] => '\x1b' :: '[' :: ps
  | .seq ps, c :: rest =>
    if Term.isFinal c then
      if c == 'm' then sm .text rest
      else ('\x1b' :: '[' :: ps ++ [c]) ++ sm .text rest
    else sm (.seq (ps ++ [c])) rest

end RenderStripL

namespace ParseTextL

/-! ## the loop of `set_ansi_str` keeps the text -/

theorem texts_length (l : List Setting) : (texts l).length = l.length := by
  simp [texts]

/-- One step of `set_ansi_str`'s loop, as far as the value and the next id go: nothing, or an optional
    `remove_formatting` and then an optional `apply_formatting` of fresh objects. -/
theorem setAnsiStep_shape (x : AStr) (old : PyDict) (nid key : Nat) (sq : CtlSeq) :
    ∃ (new : PyDict) (rm ap : List Setting),
      AStr.setAnsiStep (x, old, nid) key sq =
        if key ≥ x.len then (x, old, nid)
        else
          let y := if rm.isEmpty then x else x.removeFormatting (some (texts rm)) (some key) none
          (if ap.isEmpty then y else y.applyFormatting (freshSettings nid (texts ap)) (some key) none true,
            new, nid + ap.length) :=
  ⟨_, _, _, rfl⟩

theorem setAnsiStep_inv (P : AStr → Nat → Prop)
    (hrem : ∀ x n M a b, P x n → P (x.removeFormatting M a b) n)
    (happ : ∀ x n ts a b, P x n → P (x.applyFormatting (freshSettings n ts) a b true) (n + ts.length))
    (acc : AStr × PyDict × Nat) (key : Nat) (sq : CtlSeq) (h : P acc.1 acc.2.2) :
    P (AStr.setAnsiStep acc key sq).1 (AStr.setAnsiStep acc key sq).2.2 := by
  obtain ⟨x, old, nid⟩ := acc
  obtain ⟨new, rm, ap, e⟩ := setAnsiStep_shape x old nid key sq
  by_cases hk : key ≥ x.len
  · rw [e, if_pos hk]
    exact h
  · rw [e, if_neg hk]
    have hy : P (if rm.isEmpty then x else x.removeFormatting (some (texts rm)) (some key) none) nid := by
      by_cases hr : rm.isEmpty
      · rw [if_pos hr]
        exact h
      · rw [if_neg hr]
        exact hrem _ _ _ _ _ h
    show P (if ap.isEmpty then _ else _) (nid + ap.length)
    by_cases ha : ap.isEmpty
    · rw [if_pos ha, List.isEmpty_iff.mp ha]
      exact hy
    · rw [if_neg ha, ← texts_length]
      exact happ _ _ _ _ _ hy

/-- the double loop of `set_ansi_str` over the recorded sequences -/
def loop (seqs : List (Nat × List CtlSeq)) (init : AStr × PyDict × Nat) : AStr × PyDict × Nat :=
  seqs.foldl (fun acc kv => kv.2.foldl (fun acc sq => AStr.setAnsiStep acc kv.1 sq) acc) init

theorem setAnsi_eq_loop (r : Str) (nid : Nat) :
    AStr.setAnsi r nid =
      ((loop (tokenize r false (some Gen.sgrTerminator)).seqs
          ({ s := (tokenize r false (some Gen.sgrTerminator)).text, fmts := [] }, [], nid)).1,
       (loop (tokenize r false (some Gen.sgrTerminator)).seqs
          ({ s := (tokenize r false (some Gen.sgrTerminator)).text, fmts := [] }, [], nid)).2.2) := rfl

theorem loop_inv (P : AStr → Nat → Prop)
    (hrem : ∀ x n M a b, P x n → P (x.removeFormatting M a b) n)
    (happ : ∀ x n ts a b, P x n → P (x.applyFormatting (freshSettings n ts) a b true) (n + ts.length))
    (seqs : List (Nat × List CtlSeq)) (init : AStr × PyDict × Nat) (h : P init.1 init.2.2) :
    P (loop seqs init).1 (loop seqs init).2.2 := by
  unfold loop
  induction seqs generalizing init with
  | nil => exact h
  | cons kv rest ih =>
    rw [List.foldl_cons]
    apply ih
    generalize kv.2 = l
    induction l generalizing init with
    | nil => exact h
    | cons sq l ih2 =>
      rw [List.foldl_cons]
      exact ih2 _ (setAnsiStep_inv P hrem happ init kv.1 sq h)

theorem loop_s (seqs : List (Nat × List CtlSeq)) (init : AStr × PyDict × Nat) :
    (loop seqs init).1.s = init.1.s :=
  loop_inv (fun x _ => x.s = init.1.s)
    (fun x _ M a b h => by rw [remove_text]; exact h)
    (fun x _ ts a b h => by rw [apply_text]; exact h) seqs init rfl

/-! ## the SGR sequences with their offsets and the displayed characters, from the input -/

namespace C02Spec

def feedSeqs (t : Term.TState) (l : List Str) : Term.TState :=
  l.foldl (fun t ps => Term.feed t (Term.params ps)) t

/-- The SGR sequences (`ESC [ ps m`) a terminal meets while reading `s` from mode `m`, each with
    the number of characters displayed before it (`n` = number displayed so far), in input order.
    Same mode machine as `Term.runAux`, written over the input only. -/
def sgrAux : Term.Mode → Nat → Str → List (Nat × Str)
  | .text, _, [] => []
  | .text, n, '\x1b' :: '[' :: rest => sgrAux (.seq []) n rest
  | .text, n, _ :: rest => sgrAux .text (n + 1) rest
  | .seq _, _, [] => []
  | .seq ps, n, c :: rest =>
    if Term.isFinal c then
      if c == 'm' then (n, ps) :: sgrAux .text n rest
      else sgrAux .text (n + (ps.length + 3)) rest
    else sgrAux (.seq (ps ++ [c])) n rest

/-- the SGR sequences of `r`: (offset into the displayed text, parameter string), in order -/
def sgrs (r : Str) : List (Nat × Str) := sgrAux .text 0 r

/-- terminal state at displayed index `i`: everything at an offset `≤ i` has been fed -/
def stAt (t : Term.TState) (L : List (Nat × Str)) (i : Nat) : Term.TState :=
  feedSeqs t ((L.filter (fun ks => ks.1 ≤ i)).map (·.2))

end C02Spec

open C02Spec RenderStripL

/-! ### offsets are ascending and inside the displayed text -/

theorem sgrAux_bounds (m : Term.Mode) (n : Nat) (s : Str) :
    ∀ ks ∈ sgrAux m n s, n ≤ ks.1 ∧ ks.1 ≤ n + (sm m s).length := by
  fun_induction sgrAux m n s with
  | case1 => simp
  | case2 n rest ih => rw [sm.eq_2]; exact ih
  | case3 n c rest hne ih =>
    rw [sm.eq_3 _ _ hne]
    intro ks hks
    obtain ⟨h1, h2⟩ := ih ks hks
    exact ⟨Nat.le_of_succ_le h1, Nat.add_right_comm n 1 _ ▸ h2⟩
  | case4 => simp
  | case5 ps n c rest hf hm ih =>
    rw [sm.eq_5, if_pos hf, if_pos hm]
    intro ks hks
    rcases List.mem_cons.mp hks with rfl | hks
    · simp
    · exact ih ks hks
  | case6 ps n c rest hf hm ih =>
    rw [sm.eq_5, if_pos hf, if_neg hm]
    intro ks hks
    obtain ⟨h1, h2⟩ := ih ks hks
    have hE : ('\x1b' :: '[' :: ps ++ [c]).length = ps.length + 3 := by simp
    rw [List.length_append, hE, ← Nat.add_assoc]
    exact ⟨Nat.le_trans (Nat.le_add_right _ _) h1, h2⟩
  | case7 ps n c rest hf ih =>
    rw [sm.eq_5, if_neg hf]; exact ih

theorem sgrAux_sorted (m : Term.Mode) (n : Nat) (s : Str) :
    (sgrAux m n s).Pairwise (fun a b => a.1 ≤ b.1) := by
  fun_induction sgrAux m n s with
  | case1 => simp
  | case2 n rest ih => exact ih
  | case3 n c rest hne ih => exact ih
  | case4 => simp
  | case5 ps n c rest hf hm ih =>
    rw [List.pairwise_cons]
    exact ⟨fun ks hks => (sgrAux_bounds _ _ _ ks hks).1, ih⟩
  | case6 ps n c rest hf hm ih => exact ih
  | case7 ps n c rest hf ih => exact ih

/-! ### `Term.run` through `sgrs` -/

theorem feedSeqs_nil (t : Term.TState) : feedSeqs t [] = t := rfl

theorem feedSeqs_cons (t : Term.TState) (ps : Str) (l : List Str) :
    feedSeqs t (ps :: l) = feedSeqs (Term.feed t (Term.params ps)) l := rfl

theorem stAt_of_lt (t : Term.TState) (L : List (Nat × Str)) (i : Nat) (h : ∀ ks ∈ L, i < ks.1) :
    stAt t L i = t := by
  unfold stAt
  have : L.filter (fun ks => ks.1 ≤ i) = [] := by
    rw [List.filter_eq_nil_iff]
    intro ks hks
    simpa using h ks hks
  rw [this]; rfl

theorem stAt_cons_le (t : Term.TState) (k : Nat) (ps : Str) (L : List (Nat × Str)) (i : Nat)
    (h : k ≤ i) : stAt t ((k, ps) :: L) i = stAt (Term.feed t (Term.params ps)) L i := by
  unfold stAt
  simp [h, feedSeqs_cons]

theorem zipIdx_map_const {α β : Type} (E : List α) (n : Nat) (g : Nat → β) (t : β)
    (h : ∀ i, n ≤ i → i < n + E.length → g i = t) :
    (E.zipIdx n).map (fun ci => (ci.1, g ci.2)) = E.map (fun c => (c, t)) := by
  induction E generalizing n with
  | nil => rfl
  | cons e E ih =>
    rw [List.zipIdx_cons, List.map_cons, List.map_cons, ih (n + 1)]
    · rw [h n (Nat.le_refl _) (by simp)]
    · intro i h1 h2
      exact h i (Nat.le_of_succ_le h1) (Nat.add_right_comm n 1 E.length ▸ h2)

theorem stAt_block (t : Term.TState) (L : List (Nat × Str)) (E rest : Str) (n : Nat)
    (h : ∀ ks ∈ L, n + E.length ≤ ks.1) :
    ((E ++ rest).zipIdx n).map (fun ci => (ci.1, stAt t L ci.2)) =
      E.map (fun c => (c, t)) ++ (rest.zipIdx (n + E.length)).map (fun ci => (ci.1, stAt t L ci.2)) := by
  rw [List.zipIdx_append, List.map_append, zipIdx_map_const E n (stAt t L) t]
  intro i _ h2
  exact stAt_of_lt t L i (fun ks hks => Nat.lt_of_lt_of_le h2 (h ks hks))

theorem runAux_eq (m : Term.Mode) (t : Term.TState) (s : Str) (out : List (Char × Term.TState)) :
    Term.runAux m t s out =
      (out ++ ((sm m s).zipIdx out.length).map
          (fun ci => (ci.1, stAt t (sgrAux m out.length s) ci.2)),
       feedSeqs t ((sgrAux m out.length s).map (·.2))) := by
  fun_induction Term.runAux m t s out with
  | case1 t out => simp [sm, sgrAux, feedSeqs_nil]
  | case2 t rest out ih => rw [ih, sm.eq_2, sgrAux.eq_2]
  | case3 t c rest out hne ih =>
    rw [ih, sm.eq_3 _ _ hne, sgrAux.eq_3 _ _ _ hne, show c :: sm .text rest = [c] ++ sm .text rest from rfl,
      stAt_block t (sgrAux .text (out.length + 1) rest) [c] _ _ (fun ks hks => (sgrAux_bounds _ _ _ ks hks).1)]
    simp
  | case4 ps t out =>
    rw [sm.eq_4, sgrAux.eq_4, zipIdx_map_const _ _ _ t (fun i _ _ => stAt_of_lt t [] i (by simp))]
    rfl
  | case5 ps t c rest out hf hm ih =>
    rw [ih, sm.eq_5, sgrAux.eq_5, if_pos hf, if_pos hm, if_pos hf, if_pos hm]
    refine Prod.ext (congrArg (out ++ ·) (List.map_congr_left ?_)) rfl
    intro ci hci
    rw [stAt_cons_le _ _ _ _ _ (List.le_snd_of_mem_zipIdx hci)]
  | case6 ps t c rest out hf hm ih =>
    rw [ih, sm.eq_5, sgrAux.eq_5, if_pos hf, if_neg hm, if_pos hf, if_neg hm, List.length_append,
      List.length_map, List.append_assoc,
      ← stAt_block t _ _ _ _ (fun ks hks => (sgrAux_bounds _ _ _ ks hks).1)]
    simp
  | case7 ps t c rest out hf ih =>
    rw [ih, sm.eq_5, sgrAux.eq_5, if_neg hf, if_neg hf]

theorem run_chars (t : Term.TState) (s : Str) : (Term.run t s).1.map (·.1) = sm .text s := by
  unfold Term.run
  rw [runAux_eq]
  simp only [List.nil_append, List.map_map]
  exact List.zipIdx_map_fst 0 _

theorem stripSgr_eq_sm (s : Str) : Term.stripSgr s = sm .text s := run_chars _ s

theorem run_eq (t0 : Term.TState) (r : Str) :
    Term.run t0 r =
      ((Term.stripSgr r).zipIdx.map (fun ci => (ci.1, stAt t0 (sgrs r) ci.2)),
       feedSeqs t0 ((sgrs r).map (·.2))) := by
  rw [stripSgr_eq_sm]
  unfold Term.run
  rw [runAux_eq]
  simp [sgrs]

/-! ## tokenizer and terminal are the same mode machine -/

theorem sgr_eq : Gen.sgrTerminator = ['m'] := by decide

/-- the terminal's "final byte" and the library's "terminator" are the same predicate
    (`rfl` re-checks `Gen.termLo = 0x40`, `Gen.termHi = 0x7E` whenever the tables change) -/
theorem isFinal_eq_isTerm (c : Char) : Term.isFinal c = isTerm c := rfl

theorem accept_nil (acc : Option Str) : acceptSeq false acc [] = false := by
  simp [acceptSeq]

theorem accept_one (c : Char) : acceptSeq false (some Gen.sgrTerminator) [c] = (c == 'm') := by
  by_cases h : c = 'm' <;> simp [acceptSeq, sgr_eq, h]

def modeOf : TokMode → Term.Mode
  | .text => .text
  | .params ps => .seq ps

/-- the recorded sequences as a flat list (offset, parameter string) -/
def flat (p : Parsed) : List (Nat × Str) :=
  p.seqs.flatMap (fun kv => kv.2.map (fun c => (kv.1, c.sequence)))

theorem flat_push (p : Parsed) (s : Str) : flat (p.push s) = flat p := rfl

theorem flat_record (p : Parsed) (c : CtlSeq) :
    flat (p.record c) = flat p ++ [(p.text.length, c.sequence)] := by
  rcases Parsed.record_cases p c with ⟨init, l, hs, hr⟩ | ⟨_, hr⟩
  · rw [hr]; unfold flat; simp only; rw [hs]; simp
  · rw [hr]; unfold flat; simp

theorem tokLoop_spec (m : TokMode) (s : Str) (o : Parsed) :
    (tokLoop false (some Gen.sgrTerminator) m s o).text = o.text ++ sm (modeOf m) s ∧
    flat (tokLoop false (some Gen.sgrTerminator) m s o) =
      flat o ++ sgrAux (modeOf m) o.text.length s := by
  fun_induction tokLoop false (some Gen.sgrTerminator) m s o with
  | case1 o => simp [modeOf, sm, sgrAux]
  | case2 rest o ih => rw [modeOf, sm.eq_2, sgrAux.eq_2]; exact ih
  | case3 c rest o hne ih =>
    rw [modeOf, sm.eq_3 _ _ hne, sgrAux.eq_3 _ _ _ hne, ih.1, ih.2, flat_push]
    simp [modeOf]
  | case4 ps o hacc => rw [accept_nil] at hacc; cases hacc
  | case5 ps o hacc => simp [modeOf, sm, sgrAux, flat_push, csi_eq]
  | case6 ps c rest o ht hacc ih =>
    rw [accept_one] at hacc
    rw [modeOf, sm.eq_5, sgrAux.eq_5, isFinal_eq_isTerm, ht, if_pos rfl, if_pos hacc, if_pos rfl,
      if_pos hacc, ih.1, ih.2, flat_record, Parsed.record_text]
    simp [modeOf]
  | case7 ps c rest o ht hacc ih =>
    rw [accept_one] at hacc
    have : (o.push (Gen.csi ++ ps ++ [c])).text.length = o.text.length + (ps.length + 3) := by
      simp only [Parsed.push_text, List.length_append, csi_eq, List.length_cons, List.length_nil]
      omega
    rw [modeOf, sm.eq_5, sgrAux.eq_5, isFinal_eq_isTerm, ht, if_pos rfl, if_neg hacc, if_pos rfl,
      if_neg hacc, ih.1, ih.2, flat_push, this]
    simp [modeOf, csi_eq]
  | case8 ps c rest o ht ih =>
    rw [modeOf, sm.eq_5, sgrAux.eq_5, isFinal_eq_isTerm, if_neg ht, if_neg ht]
    exact ih

theorem tokenize_text_stripSgr (r : Str) :
    (tokenize r false (some Gen.sgrTerminator)).text = Term.stripSgr r := by
  rw [stripSgr_eq_sm]
  exact (tokLoop_spec .text r {}).1

theorem tokenize_flat (r : Str) : flat (tokenize r false (some Gen.sgrTerminator)) = sgrs r :=
  (tokLoop_spec .text r {}).2

theorem tokenize_terminator (r : Str) :
    ∀ kv ∈ (tokenize r false (some Gen.sgrTerminator)).seqs, ∀ c ∈ kv.2, c.terminator = ['m'] := by
  intro kv hkv c hc
  obtain ⟨-, -, h⟩ := (tokenize_wellformed r false (some Gen.sgrTerminator)).1 kv hkv
  obtain ⟨-, h2, h3, h4⟩ := h c hc
  rcases h2 with h2 | ⟨ch, h2, -⟩
  · exact absurd (h3 h2) (by decide)
  · have := h4 _ rfl ch h2
    rw [sgr_eq, List.mem_singleton] at this
    rw [h2, this]

/-! ### text without ESC -/

theorem tokLoop_noEsc (ae : Bool) (acc : Option Str) (s : Str) (o : Parsed) (h : '\x1b' ∉ s) :
    tokLoop ae acc .text s o = o.push s := by
  induction s generalizing o with
  | nil => simp [tokLoop, Parsed.push]
  | cons c rest ih =>
    have hc : c ≠ '\x1b' := fun e => h (by simp [e])
    rw [tokLoop.eq_3 _ _ _ _ _ (fun _ e _ => hc e), ih _ (fun hm => h (List.mem_cons_of_mem _ hm))]
    simp [Parsed.push]

theorem tokenize_noEsc (ae : Bool) (acc : Option Str) (s : Str) (h : '\x1b' ∉ s) :
    tokenize s ae acc = { text := s, seqs := [] } := by
  unfold tokenize
  rw [tokLoop_noEsc ae acc s {} h]
  simp [Parsed.push]

/-! ## `set_ansi_str` as one fold over `sgrs` -/

theorem foldl_flat {α β : Type} (f : α → Nat → β → α) (seqs : List (Nat × List β)) (init : α) :
    seqs.foldl (fun acc kv => kv.2.foldl (fun acc sq => f acc kv.1 sq) acc) init =
      (seqs.flatMap (fun kv => kv.2.map (fun c => (kv.1, c)))).foldl
        (fun acc kc => f acc kc.1 kc.2) init := by
  induction seqs generalizing init with
  | nil => rfl
  | cons kv rest ih =>
    rw [List.foldl_cons, ih, List.flatMap_cons, List.foldl_append, List.foldl_map]

theorem setAnsiStep_sequence (acc : AStr × PyDict × Nat) (k : Nat) (c : CtlSeq) (tm : Str) :
    AStr.setAnsiStep acc k c = AStr.setAnsiStep acc k ⟨c.sequence, tm⟩ := rfl

theorem loop_eq_fold (seqs : List (Nat × List CtlSeq)) (init : AStr × PyDict × Nat) :
    loop seqs init =
      (seqs.flatMap (fun kv => kv.2.map (fun c => (kv.1, c.sequence)))).foldl
        (fun acc ks => AStr.setAnsiStep acc ks.1 ⟨ks.2, ['m']⟩) init := by
  unfold loop
  rw [foldl_flat (fun acc k sq => AStr.setAnsiStep acc k sq)]
  have : (fun kv : Nat × List CtlSeq => kv.2.map (fun c => (kv.1, c.sequence))) =
      fun kv => (kv.2.map (fun c => (kv.1, c))).map (fun kc => (kc.1, kc.2.sequence)) := by
    funext kv; simp
  rw [this, ← List.map_flatMap, List.foldl_map]
  rfl

/-- `AnsiString(r, *settings)` is `set_ansi_str(r)`, followed by at most one `apply_formatting` of
    fresh objects over the whole text -/
theorem ofStr_cases {r : Str} {settings : List SArg} {nid : Nat} {y : AStr}
    (h : AStr.ofStr r settings nid = .ok y) :
    y = (AStr.setAnsi r nid).1 ∨ ∃ ts, y = (AStr.setAnsi r nid).1.applyFormatting
      (freshSettings (AStr.setAnsi r nid).2 ts) none none true := by
  unfold AStr.ofStr at h
  simp only at h
  split at h
  · cases h
    exact Or.inl rfl
  · exact (applyRaw_spec _ y _ _ _ _ _ h).imp_right fun ⟨ts, _, e⟩ => ⟨ts, e⟩

/-! ## freshness of the identities along the loop, `WF` of the result -/

theorem apply_settings_sub {x : AStr} {N : List Setting} (a b : Option Int) (top : Bool)
    (hw : WF x) (hf : FreshN x N) :
    ∀ s ∈ (x.applyFormatting N a b top).fmts.settings, s ∈ N ∨ s ∈ x.fmts.settings := by
  intro s hs
  rcases apply_cases x N a b top rfl rfl with h | ⟨h1, h2, hN⟩
  · rw [h] at hs; exact Or.inr hs
  · cases top with
    | true =>
      obtain ⟨_, hs', hu, _⟩ := apply_topUpd hw hf rfl rfl h1 h2 hN
      obtain ⟨k, hk⟩ := (Fmts.mem_settings_iff hs' s).mp hs
      rcases hu.mem_new hk with h | h
      · exact Or.inl h
      · exact Or.inr ((Fmts.mem_settings_iff hw.sorted s).mpr h)
    | false =>
      obtain ⟨_, hs', hu, _⟩ := apply_botUpd hw hf rfl rfl h1 h2 hN
      obtain ⟨k, hk⟩ := (Fmts.mem_settings_iff hs' s).mp hs
      rcases hu.mem_new hk with h | h
      · exact Or.inl h
      · exact Or.inr ((Fmts.mem_settings_iff hw.sorted s).mpr h)

theorem freshFrom_apply {x : AStr} {nid : Nat} (ts : List Str) (a b : Option Int) (top : Bool)
    (hw : WF x) (hf : FreshFrom x nid) :
    FreshFrom (x.applyFormatting (freshSettings nid ts) a b top) (nid + ts.length) := by
  intro s hs
  rcases apply_settings_sub a b top hw (freshSettings_fresh x nid ts hf) s hs with h | h
  · have h1 : s.id ∈ (freshSettings nid ts).map (·.id) := List.mem_map.mpr ⟨s, h, rfl⟩
    rw [freshSettings_ids, List.mem_range'_1] at h1
    exact h1.2
  · exact Nat.lt_of_lt_of_le (hf s h) (Nat.le_add_right _ _)

/-- `remove_formatting` keeps `WF` (discharged below by `remove_wf` of property C07) -/
def RemoveKeepsWF : Prop :=
  ∀ (x : AStr) (M : Option (List Str)) (a b : Option Int), WF x → WF (x.removeFormatting M a b)

def RemoveNoNewSettings : Prop :=
  ∀ (x : AStr) (M : Option (List Str)) (a b : Option Int), WF x →
    ∀ s ∈ (x.removeFormatting M a b).fmts.settings, s ∈ x.fmts.settings

theorem removeKeepsWF : RemoveKeepsWF := fun x M a b h => remove_wf x h M a b

theorem removeNoNewSettings : RemoveNoNewSettings := by
  intro x M a b hw s hs
  by_cases hn : sliceIdx x.len a 0 ≥ x.len ∨ sliceIdx x.len b x.len ≤ sliceIdx x.len a 0
  · rw [remove_noop x M a b hn] at hs; exact hs
  · rw [Remove.removeFormatting_eq x M a b hn] at hs
    exact Remove.new_settings hw M _ _ (by omega) s hs

theorem loop_wf_fresh (hRemWF : RemoveKeepsWF) (hRemSub : RemoveNoNewSettings)
    (seqs : List (Nat × List CtlSeq)) (init : AStr × PyDict × Nat)
    (h : WF init.1 ∧ FreshFrom init.1 init.2.2) :
    WF (loop seqs init).1 ∧ FreshFrom (loop seqs init).1 (loop seqs init).2.2 :=
  loop_inv (fun x n => WF x ∧ FreshFrom x n)
    (fun x _ M a b h => ⟨hRemWF x M a b h.1, fun s hs => h.2 s (hRemSub x M a b h.1 s hs)⟩)
    (fun x n ts a b h =>
      ⟨apply_wf x _ a b true h.1 (freshSettings_fresh x n ts h.2), freshFrom_apply ts a b true h.1 h.2⟩)
    seqs init h

theorem wf_plain (s : Str) : WF { s := s, fmts := [] } where
  sorted := List.Pairwise.nil
  bound := by intro kp h; cases h
  noAddEnd := by intro kp h; cases h
  ok := rfl
  nodup := by intro i; exact List.nodup_nil
  closed := rfl
  coherent := by intro s h; cases h

theorem freshFrom_plain (s : Str) (n : Nat) : FreshFrom { s := s, fmts := [] } n := by
  intro t h; cases h

end ParseTextL
