import AnsiProofs.Lemmas.Basic
/-
  Helper lemmas for property C04 (`__getitem__`, `clip`, the character iterator).

  `AStr.getLoop` is used through its equations on a head triple (`getLoop_cons_…`, one for each
  position of the key relative to `st` and `en`); the table it builds is followed as a function
  `Nat → Point` (`getLoop_init`, `getLoop_uninit`), which gives the table of `AStr.getRange` as `sliceFn`
  of the old one (`getRange_spec`); every semantic fact (`act`, `replayOk`, `Fmts.settings`) is then read
  off the function representation.
-/

/-! ## `pySlice` and `sliceIdx` -/

theorem pySlice_getElem? (s : Str) (st en k : Nat) :
    (pySlice s st en)[k]? = if st + k < en then s[st + k]? else none := by
  unfold pySlice
  rw [List.getElem?_drop, List.getElem?_take]

theorem pySlice_length (s : Str) (st en : Nat) :
    (pySlice s st en).length = min en s.length - st := by
  unfold pySlice
  simp [List.length_drop, List.length_take]

theorem pySlice_eq_nil_iff {s : Str} {st en : Nat} (h : en ≤ s.length) : pySlice s st en = [] ↔ en ≤ st := by
  rw [← List.length_eq_zero_iff, pySlice_length, Nat.min_eq_left h]
  exact Nat.sub_eq_zero_iff_le

theorem sliceIdx_none (n d : Nat) : sliceIdx n none d = d := rfl

theorem sliceIdx_neg (n : Nat) (v : Int) (d : Nat) (h : v < 0) :
    sliceIdx n (some v) d = ((n : Int) + v).toNat := by
  simp [sliceIdx, h]

theorem sliceIdx_nonneg (n : Nat) (v : Int) (d : Nat) (h : v ≥ 0) :
    sliceIdx n (some v) d = min v.toNat n := by
  have : ¬ v < 0 := by omega
  simp [sliceIdx, this]

theorem sliceIdx_le_max (n : Nat) (v : Option Int) (d : Nat) : sliceIdx n v d ≤ max n d := by
  cases v with
  | none => exact Nat.le_max_right n d
  | some v =>
    by_cases h : v < 0
    · rw [sliceIdx_neg n v d h]; omega
    · rw [sliceIdx_nonneg n v d (Int.not_lt.mp h)]
      exact Nat.le_trans (Nat.min_le_right _ _) (Nat.le_max_left n d)

namespace Fmts

theorem mem_iff_get?_s4 {f : Fmts} (h : SortedKeys f) (k : Nat) (p : Point) :
    (k, p) ∈ f ↔ f.get? k = some p :=
  mem_iff_get? h k p

theorem get?_of_all_gt {f : Fmts} {i : Nat} (h : ∀ kp ∈ f, i < kp.1) : f.get? i = none :=
  get?_of_LB (lo := i + 1) (fun kp hk => h kp hk) (by omega)

end Fmts

/-! ## the loop of `__getitem__` -/

theorem not_beyond {k en n : Nat} (hk : k ≤ en) (hen : en ≤ n) : ¬ (k > n ∨ k > en) :=
  fun h => h.elim (Nat.not_lt.mpr (Nat.le_trans hk hen)) (Nat.not_lt.mpr hk)

section
variable {st en n k : Nat} {prev : List Setting} {init : Bool} {out : Fmts} {p : Point} {c : List Setting}
  {T : List (Nat × Point × List Setting)}

theorem getLoop_cons_beyond (h : en < k) :
    AStr.getLoop st en n prev init out ((k, p, c) :: T) = (prev, init, out) := by
  rw [AStr.getLoop, if_pos (Or.inr h)]

theorem getLoop_cons_end (hen : en ≤ n) :
    AStr.getLoop st en n prev init out ((en, p, c) :: T) =
      (prev, init, if p.rem.isEmpty then out else out.set (en - st) { rem := p.rem }) := by
  rw [AStr.getLoop, if_neg (not_beyond (Nat.le_refl _) hen), if_pos rfl]

theorem getLoop_cons_start (hse : st < en) (hen : en ≤ n) :
    AStr.getLoop st en n prev init out ((st, p, c) :: T) =
      AStr.getLoop st en n c true (if c.isEmpty then out else out.set 0 { add := c }) T := by
  rw [AStr.getLoop, if_neg (not_beyond (Nat.le_of_lt hse) hen), if_neg (Nat.ne_of_lt hse), if_pos rfl]

theorem getLoop_cons_inside (h1 : st < k) (h2 : k < en) (hen : en ≤ n) :
    AStr.getLoop st en n prev init out ((k, p, c) :: T) =
      AStr.getLoop st en n c true
        ((if !init ∧ !prev.isEmpty then out.set 0 { add := prev } else out).set (k - st) p) T := by
  rw [AStr.getLoop, if_neg (not_beyond (Nat.le_of_lt h2) hen), if_neg (Nat.ne_of_lt h2), if_neg (Nat.ne_of_gt h1),
    if_pos h1]

theorem getLoop_cons_inside_init (h1 : st < k) (h2 : k < en) (hen : en ≤ n) :
    AStr.getLoop st en n prev true out ((k, p, c) :: T) = AStr.getLoop st en n c true (out.set (k - st) p) T :=
  getLoop_cons_inside h1 h2 hen

theorem getLoop_cons_before (h : k < st) (hse : st < en) (hen : en ≤ n) :
    AStr.getLoop st en n prev init out ((k, p, c) :: T) = AStr.getLoop st en n c init out T := by
  rw [AStr.getLoop, if_neg (not_beyond (Nat.le_of_lt (Nat.lt_trans h hse)) hen),
    if_neg (Nat.ne_of_lt (Nat.lt_trans h hse)), if_neg (Nat.ne_of_lt h), if_neg (Nat.lt_asymm h)]

end

def Fmts.Within (L : Nat) (f : Fmts) : Prop := SortedKeys f ∧ ∀ kp ∈ f, kp.1 ≤ L

theorem Fmts.Within.set {L k : Nat} {f : Fmts} (h : Fmts.Within L f) (hk : k ≤ L) (p : Point) :
    Fmts.Within L (f.set k p) :=
  ⟨Fmts.sorted_set h.1 k p, fun x hx => (Fmts.mem_set hx).elim (fun e => e ▸ hk) (h.2 x)⟩

theorem Fmts.Within.nil (L : Nat) : Fmts.Within L [] := ⟨List.Pairwise.nil, fun _ h => nomatch h⟩

/-- `d[idx - st] = p` read at the key `j` of the new table -/
theorem Fmts.toFun_set_sub {f : Fmts} (h : SortedKeys f) {st k : Nat} (hk : st ≤ k) (p : Point) (j : Nat) :
    Fmts.toFun (f.set (k - st) p) j = if st + j = k then p else Fmts.toFun f j := by
  rw [Fmts.toFun_set h]
  by_cases hj : st + j = k
  · rw [if_pos hj, if_pos ((Nat.sub_eq_iff_eq_add' hk).mpr hj.symm).symm]
  · rw [if_neg hj, if_neg (fun e => hj ((Nat.sub_eq_iff_eq_add' hk).mp e.symm).symm)]

/-- a point that is only written when it is not empty reads the same as one that is always written -/
theorem Fmts.toFun_set_unless {f : Fmts} (h : SortedKeys f) {k : Nat} (hk : Fmts.toFun f k = {}) {p : Point}
    {b : Bool} (hb : b = true → p = {}) (j : Nat) :
    Fmts.toFun (if b then f else f.set k p) j = Fmts.toFun (f.set k p) j := by
  cases b with
  | false => rfl
  | true =>
    rw [Fmts.toFun_set h, hb rfl]
    by_cases hj : j = k
    · rw [if_pos hj, hj]; exact hk
    · rw [if_neg hj]; rfl

/-- the part of the new table that is copied from the old one (`g`): the keys between `st` and `en`,
    and of the point at `en` its stop markers -/
def sliceCore (g : Nat → Point) (st en j : Nat) : Point :=
  if st + j < en then g (st + j) else if st + j = en then { rem := (g en).rem } else {}

theorem sliceCore_congr {g g' : Nat → Point} {st en j k : Nat} (h : ∀ i, k < i → g i = g' i)
    (hj : k < st + j) (hk : k < en) : sliceCore g st en j = sliceCore g' st en j := by
  unfold sliceCore
  rw [h _ hj, h en hk]

theorem sliceCore_of_empty {g : Nat → Point} {st en j : Nat} (h : ∀ i, st + j ≤ i → i ≤ en → g i = {}) :
    sliceCore g st en j = {} := by
  unfold sliceCore
  split
  · exact h _ (Nat.le_refl _) (Nat.le_of_lt ‹_›)
  · split
    · rw [h en (Nat.le_of_eq ‹_›) (Nat.le_refl _)]
    · rfl

/-- the loop once `settings_initialized` is set: the keys still to come are beyond `st`, and the new
    table holds nothing yet at the places where they will go -/
theorem getLoop_init {st en n : Nat} (hen : en ≤ n) {f : Fmts} (hs : SortedKeys f) :
    ∀ {lo : Nat}, Fmts.LB lo f → st < lo → ∀ (cur : List Setting) {out : Fmts}, Fmts.Within (en - st) out →
      (∀ j, lo ≤ st + j → Fmts.toFun out j = {}) →
      (AStr.getLoop st en n cur true out (replayFrom cur f)).1 = activeFrom cur f (en - 1) ∧
      Fmts.Within (en - st) (AStr.getLoop st en n cur true out (replayFrom cur f)).2.2 ∧
      ∀ j, Fmts.toFun (AStr.getLoop st en n cur true out (replayFrom cur f)).2.2 j =
        if st + j < lo then Fmts.toFun out j else sliceCore (Fmts.toFun f) st en j := by
  induction f with
  | nil =>
    intro lo _ _ cur out ho hout
    refine ⟨rfl, ho, fun j => ?_⟩
    by_cases hj : st + j < lo
    · rw [if_pos hj]; rfl
    · rw [if_neg hj, sliceCore_of_empty (g := Fmts.toFun []) (fun _ _ _ => rfl)]
      exact hout j (Nat.le_of_not_lt hj)
  | cons kp rest ih =>
    obtain ⟨k, p⟩ := kp
    intro lo hlb hlo cur out ho hout
    have hk : lo ≤ k := hlb (k, p) List.mem_cons_self
    have hsk : st < k := Nat.lt_of_lt_of_le hlo hk
    rw [replayFrom]
    have below : ∀ j, st + j < k → st + j < en → Fmts.toFun out j =
        if st + j < lo then Fmts.toFun out j else sliceCore (Fmts.toFun ((k, p) :: rest)) st en j := by
      intro j hj hje
      by_cases hjl : st + j < lo
      · rw [if_pos hjl]
      · rw [if_neg hjl, hout j (Nat.le_of_not_lt hjl), sliceCore, if_pos hje, Fmts.toFun_cons_lt p rest hj]
    rcases Nat.lt_trichotomy k en with hken | hken | hken
    · -- a key inside the range is copied
      rw [getLoop_cons_inside_init hsk hken hen, activeFrom_cons_le cur p rest (Nat.le_sub_one_of_lt hken)]
      have hset := Fmts.toFun_set_sub ho.1 (Nat.le_of_lt hsk) p
      obtain ⟨i1, i2, i3⟩ := ih (Fmts.sorted_tail hs) (Fmts.LB_tail_of_sorted hs) (Nat.lt_succ_of_lt hsk)
        (stepPoint cur p) (ho.set (Nat.sub_le_sub_right (Nat.le_of_lt hken) st) p)
        (fun j hj => by rw [hset, if_neg (Nat.ne_of_gt hj)]; exact hout j (Nat.le_trans hk (Nat.le_of_lt hj)))
      refine ⟨i1, i2, fun j => ?_⟩
      rw [i3, hset]
      rcases Nat.lt_trichotomy (st + j) k with hj | hj | hj
      · rw [if_pos (Nat.lt_succ_of_lt hj), if_neg (Nat.ne_of_lt hj)]
        exact below j hj (Nat.lt_trans hj hken)
      · rw [if_pos (hj ▸ Nat.lt_succ_self _), if_pos hj, if_neg (Nat.not_lt.mpr (hj ▸ hk)), sliceCore,
          if_pos (hj ▸ hken), hj, Fmts.toFun_cons_self]
      · rw [if_neg (Nat.not_lt.mpr hj), if_neg (Nat.not_lt.mpr (Nat.le_trans hk (Nat.le_of_lt hj)))]
        exact sliceCore_congr (fun i hi => (Fmts.toFun_cons_gt p rest hi).symm) hj hken
    · -- the key `en` contributes its stop markers and ends the loop
      subst hken
      rw [getLoop_cons_end hen, activeFrom_cons_gt cur p rest (Nat.sub_lt (Nat.zero_lt_of_lt hsk) Nat.one_pos)]
      refine ⟨rfl, ?_, fun j => ?_⟩
      · show Fmts.Within _ (if _ then _ else _)
        split
        · exact ho
        · exact ho.set (Nat.le_refl _) _
      · show Fmts.toFun (if _ then _ else _) j = _
        rw [Fmts.toFun_set_unless ho.1 (hout _ (by rw [Nat.add_sub_cancel' (Nat.le_of_lt hsk)]; exact hk))
          (fun h => by rw [List.isEmpty_iff.mp h]), Fmts.toFun_set_sub ho.1 (Nat.le_of_lt hsk)]
        rcases Nat.lt_trichotomy (st + j) k with hj | hj | hj
        · rw [if_neg (Nat.ne_of_lt hj)]
          exact below j hj hj
        · rw [if_pos hj, if_neg (Nat.not_lt.mpr (hj ▸ hk)), sliceCore, if_neg (hj ▸ Nat.lt_irrefl k), if_pos hj,
            Fmts.toFun_cons_self]
        · rw [if_neg (Nat.ne_of_gt hj), if_neg (Nat.not_lt.mpr (Nat.le_trans hk (Nat.le_of_lt hj))),
            hout j (Nat.le_trans hk (Nat.le_of_lt hj)), sliceCore, if_neg (Nat.lt_asymm hj), if_neg (Nat.ne_of_gt hj)]
    · -- a key beyond `en` ends the loop
      rw [getLoop_cons_beyond hken, activeFrom_cons_gt cur p rest (Nat.lt_of_le_of_lt (Nat.sub_le _ _) hken)]
      refine ⟨rfl, ho, fun j => ?_⟩
      by_cases hj : st + j < lo
      · rw [if_pos hj]
      · rw [if_neg hj, sliceCore_of_empty (fun i _ hi => Fmts.toFun_cons_lt p rest (Nat.lt_of_le_of_lt hi hken))]
        exact hout j (Nat.le_of_not_lt hj)

/-- key `0` of the new table when it is written from the settings `c` -/
def init0 (c : List Setting) : Fmts := if c.isEmpty then [] else Fmts.set [] 0 { add := c }

theorem init0_within (L : Nat) (c : List Setting) : Fmts.Within L (init0 c) := by
  unfold init0
  split
  · exact Fmts.Within.nil L
  · exact (Fmts.Within.nil L).set (Nat.zero_le L) _

theorem toFun_init0 (c : List Setting) (j : Nat) :
    Fmts.toFun (init0 c) j = if j = 0 then { add := c } else {} := by
  unfold init0
  rw [Fmts.toFun_set_unless (f := []) List.Pairwise.nil rfl (fun h => by rw [List.isEmpty_iff.mp h]),
    Fmts.toFun_set List.Pairwise.nil]
  rfl

theorem getLoop_init0 {st en n : Nat} (hen : en ≤ n) {f : Fmts} (hs : SortedKeys f)
    (hgt : ∀ kp ∈ f, st < kp.1) (c : List Setting) :
    (AStr.getLoop st en n c true (init0 c) (replayFrom c f)).1 = activeFrom c f (en - 1) ∧
    Fmts.Within (en - st) (AStr.getLoop st en n c true (init0 c) (replayFrom c f)).2.2 ∧
    ∀ j, Fmts.toFun (AStr.getLoop st en n c true (init0 c) (replayFrom c f)).2.2 j =
      if j = 0 then { add := c } else sliceCore (Fmts.toFun f) st en j := by
  obtain ⟨i1, i2, i3⟩ := getLoop_init hen hs (lo := st + 1) hgt (Nat.lt_succ_self st) c (init0_within _ c)
    (fun j hj => by rw [toFun_init0, if_neg (by omega)])
  refine ⟨i1, i2, fun j => ?_⟩
  rw [i3, toFun_init0]
  cases j with
  | zero => rw [if_pos (show st + 0 < st + 1 from Nat.lt_succ_self st), if_pos rfl, if_pos rfl]
  | succ j => rw [if_neg (by omega), if_neg (Nat.succ_ne_zero j)]

/-- the `if not settings_initialized and previous_settings` fix-up after the loop -/
def fixInit (r : List Setting × Bool × Fmts) : Fmts :=
  if !r.2.1 ∧ !r.1.isEmpty then r.2.2.set 0 { add := r.1 } else r.2.2

theorem getLoop_flag {st en n : Nat} (hse : st < en) (hen : en ≤ n) :
    ∀ (T : List (Nat × Point × List Setting)) (prev : List Setting) (out : Fmts),
      (AStr.getLoop st en n prev true out T).2.1 = true := by
  intro T
  induction T with
  | nil => intros; rfl
  | cons t T ih =>
    obtain ⟨k, p, c⟩ := t
    intro prev out
    rcases Nat.lt_trichotomy k en with hken | hken | hken
    · rcases Nat.lt_trichotomy k st with hk | hk | hk
      · rw [getLoop_cons_before hk hse hen]; exact ih _ _
      · rw [hk, getLoop_cons_start hse hen]; exact ih _ _
      · rw [getLoop_cons_inside hk hken hen]; exact ih _ _
    · rw [hken, getLoop_cons_end hen]
    · rw [getLoop_cons_beyond hken]

theorem fixInit_of_flag {r : List Setting × Bool × Fmts} (h : r.2.1 = true) : fixInit r = r.2.2 := by
  unfold fixInit
  rw [h]
  rfl

/-- before any key in the range has been met, a key beyond `st` (or the end of the table) is treated as if
    key `0` had been written already -/
theorem getLoop_uninit_of_gt {st en n : Nat} (hse : st < en) (hen : en ≤ n) (cur : List Setting)
    {T : List (Nat × Point × List Setting)} (hT : ∀ t ∈ T.head?, st < t.1) :
    (AStr.getLoop st en n cur false [] T).1 = (AStr.getLoop st en n cur true (init0 cur) T).1 ∧
    fixInit (AStr.getLoop st en n cur false [] T) = (AStr.getLoop st en n cur true (init0 cur) T).2.2 := by
  cases T with
  | nil => cases cur <;> exact ⟨rfl, rfl⟩
  | cons t T =>
    obtain ⟨k, p, c⟩ := t
    have hk : st < k := hT _ rfl
    rcases Nat.lt_trichotomy k en with hken | hken | hken
    · rw [getLoop_cons_inside hk hken hen, getLoop_cons_inside hk hken hen, fixInit_of_flag (getLoop_flag hse hen ..)]
      cases cur <;> exact ⟨rfl, rfl⟩
    · subst hken
      rw [getLoop_cons_end hen, getLoop_cons_end hen]
      refine ⟨rfl, ?_⟩
      cases cur with
      | nil => rfl
      | cons a l =>
        cases p.rem with
        | nil => rfl
        | cons b m =>
          show Fmts.set (Fmts.set [] _ _) 0 _ = Fmts.set (Fmts.set [] 0 _) _ _
          rw [Fmts.set, Fmts.set, Fmts.set_cons_of_lt _ _ _ (Nat.sub_pos_of_lt hse),
            Fmts.set_cons_of_gt _ _ _ (Nat.sub_pos_of_lt hse), Fmts.set]
    · rw [getLoop_cons_beyond hken, getLoop_cons_beyond hken]
      cases cur <;> exact ⟨rfl, rfl⟩

/-- the loop and the fix-up from the start: key `0` of the new table holds what is active at `st` -/
theorem getLoop_uninit {st en n : Nat} (hse : st < en) (hen : en ≤ n) {f : Fmts} (hs : SortedKeys f) :
    ∀ cur : List Setting,
      (AStr.getLoop st en n cur false [] (replayFrom cur f)).1 = activeFrom cur f (en - 1) ∧
      Fmts.Within (en - st) (fixInit (AStr.getLoop st en n cur false [] (replayFrom cur f))) ∧
      ∀ j, Fmts.toFun (fixInit (AStr.getLoop st en n cur false [] (replayFrom cur f))) j =
        if j = 0 then { add := activeFrom cur f st } else sliceCore (Fmts.toFun f) st en j := by
  have beyond : ∀ {f : Fmts}, SortedKeys f → (∀ kp ∈ f, st < kp.1) → ∀ cur : List Setting,
      (AStr.getLoop st en n cur false [] (replayFrom cur f)).1 = activeFrom cur f (en - 1) ∧
      Fmts.Within (en - st) (fixInit (AStr.getLoop st en n cur false [] (replayFrom cur f))) ∧
      ∀ j, Fmts.toFun (fixInit (AStr.getLoop st en n cur false [] (replayFrom cur f))) j =
        if j = 0 then { add := activeFrom cur f st } else sliceCore (Fmts.toFun f) st en j := by
    intro f hs hgt cur
    obtain ⟨e1, e2⟩ := getLoop_uninit_of_gt hse hen cur (T := replayFrom cur f)
      (by cases f with
          | nil => exact fun _ h => nomatch h
          | cons kp rest => exact fun t ht => Option.some.inj ht ▸ hgt kp List.mem_cons_self)
    rw [e1, e2, activeFrom_of_all_gt cur hgt]
    exact getLoop_init0 hen hs hgt cur
  induction f with
  | nil => exact beyond hs (fun _ h => nomatch h)
  | cons kp rest ih =>
    obtain ⟨k, p⟩ := kp
    intro cur
    have hgt : ∀ x ∈ rest, k < x.1 := Fmts.sorted_head_lt hs
    rcases Nat.lt_trichotomy k st with hk | hk | hk
    · -- a key before the range only moves `previous_settings` on
      rw [replayFrom, getLoop_cons_before hk hse hen, activeFrom_cons_le cur p rest (Nat.le_of_lt hk),
        activeFrom_cons_le cur p rest (Nat.le_sub_one_of_lt (Nat.lt_trans hk hse))]
      obtain ⟨i1, i2, i3⟩ := ih (Fmts.sorted_tail hs) (stepPoint cur p)
      refine ⟨i1, i2, fun j => ?_⟩
      rw [i3]
      cases j with
      | zero => rfl
      | succ j =>
        rw [if_neg (Nat.succ_ne_zero j), if_neg (Nat.succ_ne_zero j)]
        exact sliceCore_congr (fun i hi => (Fmts.toFun_cons_gt p rest hi).symm)
          (Nat.lt_of_lt_of_le hk (Nat.le_add_right _ _)) (Nat.lt_trans hk hse)
    · -- the key `st` itself
      subst hk
      rw [replayFrom, getLoop_cons_start hse hen, activeFrom_cons_le cur p rest (Nat.le_refl k),
        activeFrom_cons_le cur p rest (Nat.le_sub_one_of_lt hse), activeFrom_of_all_gt _ hgt, ← init0]
      obtain ⟨i1, i2, i3⟩ := getLoop_init0 hen (Fmts.sorted_tail hs) hgt (stepPoint cur p)
      rw [fixInit_of_flag (getLoop_flag hse hen ..)]
      refine ⟨i1, i2, fun j => ?_⟩
      rw [i3]
      cases j with
      | zero => rfl
      | succ j =>
        rw [if_neg (Nat.succ_ne_zero j), if_neg (Nat.succ_ne_zero j)]
        exact sliceCore_congr (fun i hi => (Fmts.toFun_cons_gt p rest hi).symm)
          (Nat.lt_add_of_pos_right (Nat.succ_pos j)) hse
    · exact beyond hs (fun x hx => (List.mem_cons.mp hx).elim (fun e => e ▸ hk)
        (fun h => Nat.lt_trans hk (hgt x h))) cur

/-! ## closing the slice and the resulting table -/

/-- the last block of `__getitem__`: everything still active is stopped at `newLen` -/
def closeFmts (out : Fmts) (prev : List Setting) (newLen : Nat) : Fmts :=
  if prev.isEmpty then out
  else
    let out := out.ensure newLen
    let have_ := (out.getD newLen).rem
    out.modify newLen (fun p => { p with rem := p.rem ++ prev.filter (fun s => !hasId have_ s.id) })

/-- the point written at `newLen` -/
def closePoint (q : Point) (prev : List Setting) : Point :=
  { add := q.add, rem := q.rem ++ prev.filter (fun s => !hasId q.rem s.id) }

theorem closePoint_nil (q : Point) : closePoint q [] = q := by
  unfold closePoint
  rw [List.filter_nil, List.append_nil]

theorem toFun_closeFmts {out : Fmts} (ho : SortedKeys out) (prev : List Setting) (L j : Nat) :
    Fmts.toFun (closeFmts out prev L) j = if j = L then closePoint (Fmts.toFun out L) prev else Fmts.toFun out j := by
  unfold closeFmts
  cases hp : prev.isEmpty
  · rw [if_neg Bool.false_ne_true]
    show Fmts.toFun ((out.ensure L).modify L _) j = _
    rw [Fmts.toFun_modify _ _ _ (Fmts.contains_ensure_self _ L), Fmts.toFun_ensure ho, Fmts.toFun_ensure ho,
      show (out.ensure L).getD L = Fmts.toFun out L from Fmts.toFun_ensure ho L L]
    rfl
  · rw [if_pos rfl, List.isEmpty_iff.mp hp, closePoint_nil]
    split
    · next h => rw [h]
    · rfl

theorem within_closeFmts {L : Nat} {out : Fmts} (ho : Fmts.Within L out) (prev : List Setting) :
    Fmts.Within L (closeFmts out prev L) := by
  unfold closeFmts
  split
  · exact ho
  · refine ⟨Fmts.sorted_modify (Fmts.sorted_ensure ho.1 _) _ _, fun kp hkp => ?_⟩
    have hk := List.mem_map_of_mem (f := (·.1)) hkp
    rw [Fmts.keys_modify] at hk
    obtain ⟨x, hx, e⟩ := List.mem_map.mp hk
    rw [← e]
    unfold Fmts.ensure at hx
    split at hx
    · exact ho.2 x hx
    · exact (Fmts.mem_set hx).elim (fun e => e ▸ Nat.le_refl L) (ho.2 x)

theorem getRange_fmts (x : AStr) {st en : Nat} (hse : st < en) (hen : en ≤ x.len) :
    (x.getRange st en).fmts =
      closeFmts (fixInit (AStr.getLoop st en x.len [] false [] (replayFrom [] x.fmts)))
        (AStr.getLoop st en x.len [] false [] (replayFrom [] x.fmts)).1 (en - st) := by
  have hl : (pySlice x.s st en).length = en - st := by
    rw [pySlice_length, Nat.min_eq_left (show en ≤ x.s.length from hen)]
  have hne : (pySlice x.s st en).isEmpty = false :=
    Bool.eq_false_iff.mpr fun h => Nat.not_le.mpr hse ((pySlice_eq_nil_iff hen).mp (List.isEmpty_iff.mp h))
  unfold AStr.getRange
  simp only [hne, Bool.false_eq_true, if_false, hl]
  rfl

theorem getRange_s (x : AStr) (st en : Nat) : (x.getRange st en).s = pySlice x.s st en := by
  unfold AStr.getRange
  cases h : (pySlice x.s st en).isEmpty
  · simp only [h, Bool.false_eq_true, if_false]
  · simp only [h, if_true]
    exact (List.isEmpty_iff.mp h).symm

theorem getRange_of_empty (x : AStr) {st en : Nat} (h : pySlice x.s st en = []) :
    x.getRange st en = { s := [], fmts := [] } := by
  unfold AStr.getRange
  simp [h]

/-- the new table as a function of the old one (`g`), the settings active at `st` (`a0`) and the
    settings active at `en - 1` (`aE`) -/
def sliceFn (g : Nat → Point) (a0 aE : List Setting) (st en : Nat) (j : Nat) : Point :=
  if j = 0 then { add := a0 }
  else if j < en - st then g (st + j)
  else if j = en - st then closePoint { rem := (g en).rem } aE
  else {}

theorem sliceFn_inside {g : Nat → Point} (a0 aE : List Setting) {st en j : Nat} (h0 : j ≠ 0) (h : j < en - st) :
    sliceFn g a0 aE st en j = g (st + j) := by
  rw [sliceFn, if_neg h0, if_pos h]

theorem sliceFn_end {g : Nat → Point} (a0 aE : List Setting) {st en : Nat} (h : st < en) :
    sliceFn g a0 aE st en (en - st) = closePoint { rem := (g en).rem } aE := by
  rw [sliceFn, if_neg (Nat.sub_ne_zero_of_lt h), if_neg (Nat.lt_irrefl _), if_pos rfl]

theorem sliceFn_beyond {g : Nat → Point} (a0 aE : List Setting) {st en j : Nat} (h : en - st < j) :
    sliceFn g a0 aE st en j = {} := by
  rw [sliceFn, if_neg (Nat.ne_of_gt (Nat.lt_of_le_of_lt (Nat.zero_le _) h)), if_neg (Nat.lt_asymm h),
    if_neg (Nat.ne_of_gt h)]

theorem getRange_spec (x : AStr) (hs : SortedKeys x.fmts) {st en : Nat} (hse : st < en) (hen : en ≤ x.len) :
    Fmts.Within (en - st) (x.getRange st en).fmts ∧
    Fmts.toFun (x.getRange st en).fmts =
      sliceFn (Fmts.toFun x.fmts) (activeFn (Fmts.toFun x.fmts) st) (activeFn (Fmts.toFun x.fmts) (en - 1)) st en := by
  obtain ⟨i1, i2, i3⟩ := getLoop_uninit hse hen hs []
  rw [getRange_fmts x hse hen, i1, ← active_eq_activeFn _ hs, ← active_eq_activeFn _ hs]
  refine ⟨within_closeFmts i2 _, funext fun j => ?_⟩
  rw [toFun_closeFmts i2.1, i3, i3]
  rcases Nat.lt_trichotomy j (en - st) with hj | hj | hj
  · rw [if_neg (Nat.ne_of_lt hj)]
    cases j with
    | zero => rfl
    | succ j =>
      rw [if_neg (Nat.succ_ne_zero j), sliceFn_inside _ _ (Nat.succ_ne_zero j) hj, sliceCore,
        if_pos (Nat.lt_sub_iff_add_lt'.mp hj)]
  · rw [if_pos hj, hj, if_neg (Nat.sub_ne_zero_of_lt hse), sliceFn_end _ _ hse, sliceCore,
      Nat.add_sub_cancel' (Nat.le_of_lt hse), if_neg (Nat.lt_irrefl en), if_pos rfl]
    rfl
  · have h1 : en < st + j := by omega
    rw [if_neg (Nat.ne_of_gt hj), if_neg (Nat.ne_of_gt (Nat.lt_of_le_of_lt (Nat.zero_le _) hj)),
      sliceFn_beyond _ _ hj, sliceCore, if_neg (Nat.lt_asymm h1), if_neg (Nat.ne_of_gt h1)]

theorem getRange_sorted (x : AStr) (hs : SortedKeys x.fmts) {st en : Nat} (hse : st < en) (hen : en ≤ x.len) :
    SortedKeys (x.getRange st en).fmts :=
  (getRange_spec x hs hse hen).1.1

theorem stepPoint_closePoint {c : List Setting} (h : (c.map (·.id)).Nodup) (R : List Setting) :
    stepPoint c (closePoint { rem := R } c) = [] := by
  rw [stepPoint_eq h, closePoint, List.append_nil]
  refine List.filter_eq_nil_iff.mpr fun s hs => ?_
  rw [hasId_append]
  cases hr : hasId R s.id
  · simp [hasId_of_mem (List.mem_filter.mpr ⟨hs, by simp [hr]⟩ : s ∈ c.filter (fun s => !hasId R s.id))]
  · simp

theorem stepOk_closePoint {c : List Setting} (h : (c.map (·.id)).Nodup) {R : List Setting}
    (hr : stepOk c R = true) : stepOk c (closePoint { rem := R } c).rem = true := by
  rw [closePoint, stepOk_append, hr, eraseAll_eq_filter h, Bool.true_and]
  exact (stepOk_iff (nodup_filter h _) _).mpr ⟨fun _ hr => hasId_of_mem hr, nodup_filter h _⟩

/-! ## replay of the new table, as a function -/

theorem stepPoint_nil_add (a : List Setting) : stepPoint [] { add := a } = a := by
  simp [stepPoint]

theorem activeFn_sliceFn (g : Nat → Point) (aE : List Setting) (st en : Nat) :
    ∀ k, k < en - st →
      activeFn (sliceFn g (activeFn g st) aE st en) k = activeFn g (st + k) := by
  intro k
  induction k with
  | zero => intro _; exact stepPoint_nil_add _
  | succ k ih =>
    intro hk
    rw [activeFn_succ, ih (Nat.lt_of_succ_lt hk), sliceFn_inside _ _ (Nat.succ_ne_zero k) hk]
    exact (activeFn_succ g (st + k)).symm

theorem activeFn_sliceFn_end (g : Nat → Point) (st en : Nat) (hse : st < en)
    (hn : ((activeFn g (en - 1)).map (·.id)).Nodup) :
    activeFn (sliceFn g (activeFn g st) (activeFn g (en - 1)) st en) (en - st) = [] := by
  have e : en - st = (en - st - 1) + 1 := (Nat.sub_add_cancel (Nat.sub_pos_of_lt hse)).symm
  rw [e, activeFn_succ, activeFn_sliceFn g _ st en (en - st - 1) (Nat.sub_lt (Nat.sub_pos_of_lt hse) Nat.one_pos),
    ← e, sliceFn_end _ _ hse, show st + (en - st - 1) = en - 1 by omega]
  exact stepPoint_closePoint hn _

theorem activeFn_sliceFn_beyond (g : Nat → Point) (st en : Nat) (hse : st < en)
    (hn : ((activeFn g (en - 1)).map (·.id)).Nodup) :
    ∀ d, activeFn (sliceFn g (activeFn g st) (activeFn g (en - 1)) st en) (en - st + d) = [] := by
  intro d
  induction d with
  | zero => exact activeFn_sliceFn_end g st en hse hn
  | succ d ih =>
    rw [← Nat.add_assoc, activeFn_succ, ih, sliceFn_beyond _ _ (Nat.lt_succ_of_le (Nat.le_add_right _ d))]
    rfl

theorem Fmts.toFun_nil (j : Nat) : Fmts.toFun [] j = {} := rfl

/-! ## the slice as a value -/

theorem getRange_act (x : AStr) (hs : SortedKeys x.fmts) {st en : Nat} (hse : st < en)
    (hen : en ≤ x.len) {k : Nat} (hk : k < en - st) :
    act (x.getRange st en) k = act x (st + k) := by
  unfold act
  rw [active_eq_activeFn _ (getRange_sorted x hs hse hen), active_eq_activeFn _ hs,
    (getRange_spec x hs hse hen).2]
  exact activeFn_sliceFn _ _ st en k hk

theorem getRange_act_beyond (x : AStr) (hs : SortedKeys x.fmts) {st en : Nat} (hse : st < en)
    (hen : en ≤ x.len) (hn : ((active x.fmts (en - 1)).map (·.id)).Nodup) {j : Nat}
    (hj : en - st ≤ j) : act (x.getRange st en) j = [] := by
  unfold act
  rw [active_eq_activeFn _ (getRange_sorted x hs hse hen), (getRange_spec x hs hse hen).2,
    ← Nat.add_sub_cancel' hj]
  rw [active_eq_activeFn _ hs] at hn
  exact activeFn_sliceFn_beyond (Fmts.toFun x.fmts) st en hse hn _

theorem getRange_len (x : AStr) {st en : Nat} (hen : en ≤ x.len) :
    (x.getRange st en).len = en - st := by
  unfold AStr.len at *
  rw [getRange_s, pySlice_length, Nat.min_eq_left hen]

theorem getLoop_sub (P : Setting → Prop) (st en n : Nat) (L : List (Nat × Point × List Setting)) :
    ∀ (prev : List Setting) (init : Bool) (out : Fmts),
    (∀ t ∈ L, (∀ s ∈ t.2.1.add, P s) ∧ (∀ s ∈ t.2.1.rem, P s) ∧ (∀ s ∈ t.2.2, P s)) →
    (∀ s ∈ prev, P s) → (∀ s ∈ out.settings, P s) →
    (∀ s ∈ (AStr.getLoop st en n prev init out L).1, P s) ∧
    (∀ s ∈ (AStr.getLoop st en n prev init out L).2.2.settings, P s) := by
  have hnil : ∀ s ∈ ([] : List Setting), P s := fun _ h => nomatch h
  induction L with
  | nil => exact fun prev init out _ hp ho => ⟨hp, ho⟩
  | cons t rest ih =>
    obtain ⟨idx, p, cur⟩ := t
    intro prev init out hL hp ho
    have ⟨ha, hr, hc⟩ : (∀ s ∈ p.add, P s) ∧ (∀ s ∈ p.rem, P s) ∧ ∀ s ∈ cur, P s :=
      hL _ List.mem_cons_self
    have hrest := fun t ht => hL t (List.mem_cons_of_mem _ ht)
    rw [AStr.getLoop]
    by_cases h1 : idx > n ∨ idx > en
    · rw [if_pos h1]; exact ⟨hp, ho⟩
    rw [if_neg h1]
    by_cases h2 : idx = en
    · rw [if_pos h2]; exact ⟨hp, settings_ite ho (settings_set (p := { rem := p.rem }) ho hnil hr _)⟩
    rw [if_neg h2]
    by_cases h3 : idx = st
    · rw [if_pos h3]; exact ih cur true _ hrest hc (settings_ite ho (settings_set (p := { add := cur }) ho hc hnil _))
    rw [if_neg h3]
    by_cases h4 : idx > st
    · rw [if_pos h4]
      exact ih cur true _ hrest hc (settings_set (settings_ite (settings_set (p := { add := prev }) ho hp hnil _) ho) ha hr _)
    · rw [if_neg h4]; exact ih cur init out hrest hc ho

/-- for all bounds, no invariant needed: every operation on the table keeps "all settings satisfy `P`", so the
    slicing loop does -/
theorem getRange_settings_sub (x : AStr) (st en : Nat) :
    ∀ s ∈ (x.getRange st en).fmts.settings, s ∈ x.fmts.settings := by
  have hnil : ∀ s ∈ ([] : List Setting), s ∈ x.fmts.settings := fun _ h => nomatch h
  obtain ⟨h1, h2⟩ := getLoop_sub (· ∈ x.fmts.settings) st en x.len (replay x.fmts) [] false []
    (replayFrom_sub _ x.fmts [] hnil (fun _ h => h)) hnil hnil
  unfold AStr.getRange
  generalize AStr.getLoop st en x.len [] false [] (replay x.fmts) = r at h1 h2
  have h3 := settings_ite (c := !r.2.1 ∧ !r.1.isEmpty) (settings_set (p := { add := r.1 }) h2 h1 hnil 0) h2
  show ∀ s ∈ (if (pySlice x.s st en).isEmpty = true then ({ s := [] } : AStr) else _).fmts.settings, _
  split
  · exact hnil
  · refine settings_ite h3 (settings_modify (settings_ensure h3 _) ?_ _)
    intro p ha hr
    exact ⟨ha, fun s hs => (List.mem_append.mp hs).elim (hr s) (fun h => h1 s (List.mem_filter.mp h).1)⟩

/-- a non-empty slice is well-formed: read as a function its table is `sliceFn` of the source's, so every
    clause of `WF` is the source's at the index shifted by `st`, up to the closing point at `en - st` -/
theorem getRange_wf_of_lt (x : AStr) (h : WF x) {st en : Nat} (hse : st < en) (hen : en ≤ x.len) :
    WF (x.getRange st en) := by
  have hs := h.sorted
  have hsy := getRange_sorted x hs hse hen
  have hlen := getRange_len x (st := st) hen
  have hf := (getRange_spec x hs hse hen).2
  have hnE : ((activeFn (Fmts.toFun x.fmts) (en - 1)).map (·.id)).Nodup := by
    rw [← active_eq_activeFn _ hs]; exact h.nodup _
  have hact : ∀ i, active (x.getRange st en).fmts i =
      if i < en - st then active x.fmts (st + i) else [] := by
    intro i
    by_cases hi : i < en - st
    · rw [if_pos hi]; exact getRange_act x hs hse hen hi
    · rw [if_neg hi]; exact getRange_act_beyond x hs hse hen (h.nodup _) (Nat.le_of_not_lt hi)
  have sub := getRange_settings_sub x st en
  refine ⟨hsy, ?_, ?_, ?_, ?_, ?_, fun s hs' t ht e => h.coherent s (sub s hs') t (sub t ht) e⟩
  · rw [hlen]; exact (getRange_spec x hs hse hen).1.2
  · intro kp hkp hk
    rw [← Fmts.toFun_of_mem hsy hkp, hk, hlen, hf, sliceFn_end _ _ hse]
    rfl
  · -- the self-check of the slice follows that of the source; at the end the closing point stops what is left
    have hx := (replayOk_iff hs).mp h.ok
    rw [replayOk_iff hsy, hf]
    intro k
    cases k with
    | zero => exact stepOk_nil _
    | succ i =>
    show stepOk (activeFn _ i) _ = true
    rcases Nat.lt_trichotomy (i + 1) (en - st) with hi | hi | hi
    · rw [activeFn_sliceFn _ _ st en i (Nat.lt_of_succ_lt hi), sliceFn_inside _ _ (Nat.succ_ne_zero i) hi]
      exact hx (st + i + 1)
    · have e : st + i = en - 1 := by omega
      have hx' : stepOk (activeFn _ (en - 1)) _ = true := hx (en - 1 + 1)
      rw [Nat.sub_add_cancel (Nat.zero_lt_of_lt hse)] at hx'
      rw [activeFn_sliceFn _ _ st en i (hi ▸ Nat.lt_succ_self i), hi, sliceFn_end _ _ hse, e]
      exact stepOk_closePoint hnE hx'
    · rw [sliceFn_beyond _ _ hi]; exact stepOk_nil _
  · intro i
    rw [hact]
    split
    · exact h.nodup _
    · exact List.nodup_nil
  · rw [hact, hlen, if_neg (Nat.lt_irrefl _)]

theorem getRange_wf_all (x : AStr) (h : WF x) (st : Nat) {en : Nat} (hen : en ≤ x.len) :
    WF (x.getRange st en) := by
  by_cases he : pySlice x.s st en = []
  · rw [getRange_of_empty x he]; exact wf_empty
  · exact getRange_wf_of_lt x h (Nat.not_le.mp fun hle => he ((pySlice_eq_nil_iff hen).mpr hle)) hen

/-! ## appending plain text -/

theorem iadd_nil_fmts (a : AStr) (t : Str) :
    a.iadd { s := t, fmts := [] } = { s := a.s ++ t, fmts := a.fmts } := by
  simp [AStr.iadd]
