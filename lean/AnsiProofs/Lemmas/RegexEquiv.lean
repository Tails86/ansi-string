import AnsiModel.RegexCls
import AnsiModel.Render
import AnsiModel.Scrub
/-
  Lemmas for C12d / C14c: when do two regular expressions of the model's `Re` type match alike.

  * `app r t` / `norm r = app r .eps`: right-nest every `seq`, drop every `eps` (so `Re.lit "rgb(".toList`
    followed by the rest and a flat sequence of one-character classes agree), recursively inside `opt`,
    `cap`, `alt`.  `matchStart_of_norm`: the same normal form gives the same `matchStart` (the same captures,
    not only the same language) on every string.
  * `cls_*`: each character class `Cls.test ⟨neg, items⟩` that harness/pyre.py emits for the source's
    patterns is, as a function, the predicate the model writes at that place.  A class with another member
    has no lemma here, and the comparison of normal forms fails on it.
  * `Equiv`: same shape, classes pointwise equal; `Equiv.eq : Equiv r r' → r = r'` (funext).
-/
namespace RegexEquivL

open Re

def app : Re → Re → Re
  | .seq a b, t => app a (app b t)
  | .eps, t => t
  | .cls p, t => .seq (.cls p) t
  | .star p, t => .seq (.star p) t
  | .opt r, t => .seq (.opt (app r .eps)) t
  | .cap n r, t => .seq (.cap n (app r .eps)) t
  | .alt a b, t => .seq (.alt (app a .eps) (app b .eps)) t
  | .eos, t => .seq .eos t

def norm (r : Re) : Re := app r .eps

theorem m_app {α} (r : Re) : ∀ (t : Re) (s : Str) (caps : Caps) (k : Str → Caps → Option α),
    m (app r t) s caps k = m r s caps (fun rest caps' => m t rest caps' k) := by
  induction r with
  | cls p => intro t s caps k; rfl
  | star p => intro t s caps k; rfl
  | eps => intro t s caps k; rfl
  | eos => intro t s caps k; rfl
  | seq a b iha ihb =>
    intro t s caps k
    show m (app a (app b t)) s caps k = m a s caps (fun rest caps' => m b rest caps' _)
    rw [iha]
    congr 1
    funext rest caps'
    exact ihb t rest caps' k
  | opt r ih =>
    intro t s caps k
    simp only [app, Re.m, ih]
  | cap n r ih =>
    intro t s caps k
    simp only [app, Re.m, ih]
  | alt a b iha ihb =>
    intro t s caps k
    simp only [app, Re.m, iha, ihb]

theorem m_norm {α} (r : Re) (s : Str) (caps : Caps) (k : Str → Caps → Option α) :
    m (norm r) s caps k = m r s caps k := by
  unfold norm
  rw [m_app]
  rfl

theorem matchStart_norm (r : Re) (s : Str) : matchStart (norm r) s = matchStart r s := m_norm r s _ _

inductive Equiv : Re → Re → Prop
  | cls {p q : Char → Bool} : (∀ c, p c = q c) → Equiv (.cls p) (.cls q)
  | star {p q : Char → Bool} : (∀ c, p c = q c) → Equiv (.star p) (.star q)
  | opt {r r' : Re} : Equiv r r' → Equiv (.opt r) (.opt r')
  | cap {n : Nat} {r r' : Re} : Equiv r r' → Equiv (.cap n r) (.cap n r')
  | seq {a b a' b' : Re} : Equiv a a' → Equiv b b' → Equiv (.seq a b) (.seq a' b')
  | alt {a b a' b' : Re} : Equiv a a' → Equiv b b' → Equiv (.alt a b) (.alt a' b')
  | eps : Equiv .eps .eps
  | eos : Equiv .eos .eos

theorem Equiv.eq {r r' : Re} (h : Equiv r r') : r = r' := by
  induction h with
  | cls h => exact congrArg Re.cls (funext h)
  | star h => exact congrArg Re.star (funext h)
  | opt _ ih => rw [ih]
  | cap _ ih => rw [ih]
  | seq _ _ iha ihb => rw [iha, ihb]
  | alt _ _ iha ihb => rw [iha, ihb]
  | eps => rfl
  | eos => rfl

theorem Equiv.m_eq {α} {r r' : Re} (h : Equiv r r') (s : Str) (caps : Caps) (k : Str → Caps → Option α) :
    m r s caps k = m r' s caps k := by rw [h.eq]

theorem matchStart_of_norm {r r' : Re} (h : norm r = norm r') (s : Str) :
    matchStart r s = matchStart r' s := by
  rw [← matchStart_norm r, ← matchStart_norm r', h]

theorem cls_ch (a : Char) : Cls.test ⟨false, [.ch a]⟩ = (· == a) := by
  funext c
  simp [Cls.test, ClsItem.test]

theorem cls_ch2 (a b : Char) : Cls.test ⟨false, [.ch a, .ch b]⟩ = fun c => c == a || c == b := by
  funext c
  simp [Cls.test, ClsItem.test]

/-- `.` -/
theorem cls_dot : Cls.test ⟨true, [.ch '\n']⟩ = Render.dot := by
  funext c
  simp [Cls.test, ClsItem.test, Render.dot, bne]

/-- `[-\+]` of `to_str`; `[+-]` is `cls_ch2` -/
theorem cls_sign_swap : Cls.test ⟨false, [.ch '-', .ch '+']⟩ = Render.sign := by
  funext c
  simp [Cls.test, ClsItem.test, Render.sign, Bool.or_comm]

theorem cls_align : Cls.test ⟨false, [.ch '<', .ch '>', .ch '^']⟩ = Render.align := by
  funext c
  simp [Cls.test, ClsItem.test, Render.align, Bool.or_assoc]

theorem cls_digit : Cls.test ⟨false, [.range '0' '9']⟩ = Py.isDigit := by
  funext c
  simp [Cls.test, ClsItem.test, Py.isDigit]

theorem cls_space : Cls.test ⟨false, [.space]⟩ = Py.isSpace := by
  funext c
  simp [Cls.test, ClsItem.test]

theorem cls_hex : Cls.test ⟨false, [.range '0' '9', .range 'a' 'f', .range 'A' 'F']⟩ = Scrub.isHex := by
  funext c
  simp [Cls.test, ClsItem.test, Scrub.isHex, Py.isDigit, Bool.or_assoc]

end RegexEquivL
