import AnsiProofs.Lemmas.Replace
import AnsiProofs.Props.C08
import AnsiProofs.Props.C12
import AnsiProofs.Props.C16
/-
  The invariant over *histories* (`StoreInv`) for property C09, put together from the per-operation
  theorems of C02, C04, C05, C06, C07, C12 and C16.

  A value may be written to a store (`Adm`) if it passes `WF` and each of its setting objects is
  one of the store's or has an identity the counter has not reached; writing such a value keeps
  the invariant (`inv_commit`).  Sections 1–4 show that every operation computes such a value,
  section 5 which error classes the raw-argument front ends can raise, and `step_spec` (section 6)
  states both for `Store.step` in the shape of `Store.Effect` (C08); `inv_step` and the outcome
  theorems of C09 are read off it.
-/

namespace StoreL

open ConcatL (CoherentPair mem_iadd_settings)
open ReplaceL (getSlice_settings_sub apply_fresh_settings apply_fresh_wf)
open MatchL (foldlM_inv)

/-! ## 1. provenance of setting objects: pads and `assign_str` keep them -/

open PadL in
theorem ljust_settings (x : AStr) (h : WF x) (w : Int) (c : Char) (e : Bool) :
    (x.ljust w c e).fmts.settings = x.fmts.settings := by
  by_cases hn : 0 < (w - (x.len : Int)).toNat
  · cases e with
    | true =>
      rw [PadL.AStr.ljust_fmts_ext h.sorted c hn]
      exact settings_congr (map_snd_padExt h.sorted h.bound (Nat.lt_add_of_pos_right hn))
    | false => rw [PadL.AStr.ljust_fmts_plain]
  · rw [PadL.AStr.ljust_noop' c e (Nat.eq_zero_of_not_pos hn)]

open PadL in
theorem rjust_settings (x : AStr) (w : Int) (c : Char) (e : Bool) :
    (x.rjust w c e).fmts.settings = x.fmts.settings := by
  rw [PadL.AStr.rjust_fmts]
  exact settings_congr (map_snd_shiftKeys _ _ _)

open PadL in
theorem center_settings (x : AStr) (h : WF x) (w : Int) (c : Char) (e : Bool) :
    (x.center w c e).fmts.settings = x.fmts.settings := by
  by_cases hn : 0 < (w - (x.len : Int)).toNat
  · cases e with
    | true =>
      rw [PadL.AStr.center_fmts_ext x c hn]
      exact settings_congr (map_snd_padExt h.sorted h.bound
        (Nat.add_lt_add_left (Nat.div_lt_self hn (by decide)) _))
    | false =>
      rw [PadL.AStr.center_fmts_plain]
      exact settings_congr (map_snd_shiftKeys _ _ _)
  · rw [PadL.AStr.center_noop' c e (Nat.eq_zero_of_not_pos hn)]

theorem assignStr_shorter (x : AStr) {t : Str} (h : t.length < x.len) :
    x.assignStr t = { (x.getSlice none (some (t.length : Int))) with s := t } := by
  unfold AStr.assignStr
  simp only [Nat.lt_asymm h, if_false, h, if_true]

theorem assignStr_wf (x : AStr) (h : WF x) (t : Str) : WF (x.assignStr t) := by
  by_cases hl : t.length ≥ x.len
  · exact C12.assignStr_wf_longer h hl
  · have hl' : t.length < x.len := Nat.lt_of_not_le hl
    rw [assignStr_shorter x hl']
    refine PadL.wf_of_eq (C04.getSlice_wf x h none (some (t.length : Int))) ?_ rfl
    rw [ReplaceL.head_len x (Nat.le_of_lt hl')]
    rfl

open PadL in
theorem assignStr_settings_sub (x : AStr) (h : WF x) (t : Str) :
    ∀ s ∈ (x.assignStr t).fmts.settings, s ∈ x.fmts.settings := by
  intro s hs
  by_cases hl : x.len < t.length
  · rw [PadL.AStr.assignStr_fmts_longer h.sorted hl,
      settings_congr (map_snd_padExt h.sorted h.bound hl)] at hs
    exact hs
  · by_cases he : x.len = t.length
    · rw [PadL.AStr.assignStr_fmts_same he] at hs; exact hs
    · rw [assignStr_shorter x (Nat.lt_of_le_of_ne (Nat.le_of_not_lt hl) fun e => he e.symm)] at hs
      exact getSlice_settings_sub x h _ _ s hs

/-! ## 2. `set_ansi_str` hands out identities from `nid` on only -/

theorem setAnsi_ids (r : Str) (nid : Nat) :
    nid ≤ (AStr.setAnsi r nid).2 ∧ ∀ s ∈ (AStr.setAnsi r nid).1.fmts.settings, nid ≤ s.id := by
  rw [ParseTextL.setAnsi_eq_loop]
  have key := ParseTextL.loop_inv
    (fun x n => (WF x ∧ FreshFrom x n) ∧ nid ≤ n ∧ ∀ s ∈ x.fmts.settings, nid ≤ s.id)
    (fun x n M a b h =>
      ⟨⟨remove_wf x h.1.1 M a b, fun s hs => h.1.2 s (ParseTextL.removeNoNewSettings x M a b h.1.1 s hs)⟩,
        h.2.1, fun s hs => h.2.2 s (ParseTextL.removeNoNewSettings x M a b h.1.1 s hs)⟩)
    (fun x n ts a b h =>
      ⟨⟨apply_fresh_wf h.1.1 h.1.2 ts a b true, ParseTextL.freshFrom_apply ts a b true h.1.1 h.1.2⟩,
        Nat.le_trans h.2.1 (Nat.le_add_right _ _),
        fun s hs => by
          rcases apply_fresh_settings h.1.1 h.1.2 ts a b true s hs with h1 | h1
          · exact h.2.2 s h1
          · exact Nat.le_trans h.2.1 h1.1⟩)
    (tokenize r false (some Gen.sgrTerminator)).seqs
    ({ s := (tokenize r false (some Gen.sgrTerminator)).text, fmts := [] }, [], nid)
    ⟨⟨ParseTextL.wf_plain _, ParseTextL.freshFrom_plain _ _⟩, Nat.le_refl _, by intro s h; cases h⟩
  exact key.2

/-! ## 3. the store invariant -/

/-- What every store reachable from the empty one satisfies: every value passes `WF`, the counter
    is beyond every identity in use, and an identity carries one text across the whole store. -/
structure StoreInv (σ : Store) : Prop where
  wf       : ∀ v x, σ.get? v = some x → WF x
  fresh    : ∀ v x, σ.get? v = some x → FreshFrom x σ.nid
  coherent : ∀ v w x y, σ.get? v = some x → σ.get? w = some y → CoherentPair x y

def Old (σ : Store) (s : Setting) : Prop := ∃ v x, σ.get? v = some x ∧ s ∈ x.fmts.settings

structure Adm (σ : Store) (y : AStr) : Prop where
  wf   : WF y
  prov : ∀ s ∈ y.fmts.settings, Old σ s ∨ σ.nid ≤ s.id

theorem old_lt {σ : Store} (h : StoreInv σ) {s : Setting} (hs : Old σ s) : s.id < σ.nid := by
  obtain ⟨v, x, hx, hm⟩ := hs
  exact h.fresh v x hx s hm

theorem old_coh {σ : Store} (h : StoreInv σ) {s t : Setting} (hs : Old σ s) (ht : Old σ t)
    (e : s.id = t.id) : s.txt = t.txt := by
  obtain ⟨v, x, hx, hm⟩ := hs
  obtain ⟨w, y, hy, hn⟩ := ht
  exact h.coherent v w x y hx hy s hm t hn e

theorem adm_old {σ : Store} {y : AStr} (hy : Adm σ y) {s : Setting}
    (hs : s ∈ y.fmts.settings) (hlt : s.id < σ.nid) : Old σ s :=
  (hy.prov s hs).elim id fun h1 => absurd hlt (Nat.not_lt.mpr h1)

theorem coh_adm_old {σ : Store} (h : StoreInv σ) {a b : AStr} (ha : Adm σ a)
    (hb : ∀ t ∈ b.fmts.settings, Old σ t) : CoherentPair a b := by
  intro s hs t ht e
  exact old_coh h (adm_old ha hs (e ▸ old_lt h (hb t ht))) (hb t ht) e

theorem coh_symm {a b : AStr} (h : CoherentPair a b) : CoherentPair b a :=
  fun s hs t ht e => (h t ht s hs e.symm).symm

theorem coh_disjoint {a b : AStr} {n : Nat} (ha : FreshFrom a n) (hb : ∀ t ∈ b.fmts.settings, n ≤ t.id) :
    CoherentPair a b := by
  intro s hs t ht e
  exact absurd (e ▸ ha s hs) (Nat.not_lt.mpr (hb t ht))

theorem get?_commit {σ : Store} {v w : Var} {y z : AStr} (h : ((σ.commit v y).1).get? w = some z) :
    z = y ∨ σ.get? w = some z := by
  by_cases e : w = v
  · rw [e, Store.get?_commit_eq] at h
    exact Or.inl (Option.some.inj h).symm
  · rw [Store.commit_frame σ v w y e] at h
    exact Or.inr h

theorem nid_commit (σ : Store) (v : Var) (y : AStr) :
    (σ.commit v y).1.nid = max σ.nid y.fmts.nextId := rfl

theorem inv_commit {σ : Store} (h : StoreInv σ) {y : AStr} (hy : Adm σ y) (v : Var) :
    StoreInv (σ.commit v y).1 := by
  have hyz : ∀ w z, σ.get? w = some z → CoherentPair y z :=
    fun w z hz => coh_adm_old h hy (fun t ht => ⟨w, z, hz, ht⟩)
  refine ⟨?_, ?_, ?_⟩
  · intro w z hz
    rcases get?_commit hz with e | e
    · rw [e]; exact hy.wf
    · exact h.wf w z e
  · intro w z hz s hs
    rw [nid_commit]
    rcases get?_commit hz with e | e
    · rw [e] at hs
      exact Nat.lt_of_lt_of_le (C16.nextId_fresh y s hs) (Nat.le_max_right _ _)
    · exact Nat.lt_of_lt_of_le (h.fresh w z e s hs) (Nat.le_max_left _ _)
  · intro w w' z z' hz hz'
    rcases get?_commit hz with e | e <;> rcases get?_commit hz' with e' | e'
    · rw [e, e']; exact hy.wf.coherent
    · rw [e]; exact hyz w' z' e'
    · rw [e']; exact coh_symm (hyz w z e)
    · exact h.coherent w w' z z' e e'

/-! ## 4. every operation produces an admissible value -/

section adm
variable {σ : Store}

theorem adm_self (h : StoreInv σ) {v : Var} {x : AStr} (hx : σ.get? v = some x) : Adm σ x :=
  ⟨h.wf v x hx, fun _ hs => Or.inl ⟨v, x, hx, hs⟩⟩

theorem all_old {v : Var} {x : AStr} (hx : σ.get? v = some x) : ∀ s ∈ x.fmts.settings, Old σ s :=
  fun _ hs => ⟨v, x, hx, hs⟩

theorem adm_sub_adm {x y : AStr} (hx : Adm σ x) (hw : WF y)
    (sub : ∀ s ∈ y.fmts.settings, s ∈ x.fmts.settings) : Adm σ y :=
  ⟨hw, fun s hs => hx.prov s (sub s hs)⟩

theorem adm_slice {x : AStr} (hx : Adm σ x) (a b : Option Int) : Adm σ (x.getSlice a b) :=
  adm_sub_adm hx (C04.getSlice_wf x hx.wf a b) (getSlice_settings_sub x hx.wf a b)

/-- a value without formatting: `clear_formatting()`, the empty `AnsiString()` -/
theorem adm_plain (t : Str) : Adm σ { s := t, fmts := [] } :=
  ⟨ParseTextL.wf_plain t, fun s hs => by cases hs⟩

theorem adm_index {x y : AStr} (hx : Adm σ x) {i : Int} (h : x.getIndex i = .ok y) : Adm σ y := by
  by_cases hr : i < -(x.len : Int) ∨ i ≥ x.len
  · rw [C04.getIndex_error x i hr] at h
    cases h
  · have h1 : -(x.len : Int) ≤ i := Int.not_lt.mp fun a => hr (Or.inl a)
    have h2 : i < x.len := Int.not_le.mp fun a => hr (Or.inr a)
    rw [C04.getIndex_spec x i h1 h2] at h
    cases h
    have hen := C04.getIndex_pos x i h1 h2
    exact adm_sub_adm hx (C04.getRange_wf x hx.wf _ hen) (getRange_settings_sub x _ _)

theorem adm_iadd {a b : AStr} (ha : Adm σ a) (hb : Adm σ b) (hc : CoherentPair a b) : Adm σ (a.iadd b) :=
  ⟨C05.iadd_wf a b ha.wf hb.wf hc, fun s hs => by
    rcases mem_iadd_settings ha.wf hb.wf hs with h | h
    · exact ha.prov s h
    · exact hb.prov s h⟩

theorem adm_apply {x : AStr} (hx : Adm σ x) {n : Nat} (hn : σ.nid ≤ n) (hf : FreshFrom x n)
    (ts : List Str) (a b : Option Int) (top : Bool) :
    Adm σ (x.applyFormatting (freshSettings n ts) a b top) :=
  ⟨apply_fresh_wf hx.wf hf ts a b top, fun s hs => by
    rcases apply_fresh_settings hx.wf hf ts a b top s hs with h | h
    · exact hx.prov s h
    · exact Or.inr (Nat.le_trans hn h.1)⟩

theorem adm_applyRaw {x y : AStr} (hx : Adm σ x) {n : Nat} (hn : σ.nid ≤ n) (hf : FreshFrom x n)
    {arg : SArg} {a b : Option Int} {top : Bool} (h : x.applyRaw n arg a b top = .ok y) : Adm σ y := by
  rcases applyRaw_spec x y n arg a b top h with e | ⟨ts, -, e⟩
  · rw [e]; exact hx
  · rw [e]; exact adm_apply hx hn hf ts a b top

theorem adm_removeRaw {x y : AStr} (hx : Adm σ x) {arg : Option SArg} {a b : Option Int}
    (h : x.removeRaw arg a b = .ok y) : Adm σ y := by
  have rm : ∀ M, Adm σ (x.removeFormatting M a b) := fun M =>
    adm_sub_adm hx (remove_wf x hx.wf M a b) (ParseTextL.removeNoNewSettings x M a b hx.wf)
  rcases removeRaw_spec x arg a b y h with e | ⟨-, e⟩ | ⟨_, ts, -, -, e⟩
  · rw [e]; exact hx
  · rw [e]; exact rm _
  · rw [e]; exact rm _

theorem adm_setAnsi (t : Str) {n : Nat} (hn : σ.nid ≤ n) : Adm σ (AStr.setAnsi t n).1 :=
  ⟨C02.setAnsi_wf t n, fun s hs => Or.inr (Nat.le_trans hn ((setAnsi_ids t n).2 s hs))⟩

theorem adm_ofStr {t : Str} {ss : List SArg} {y : AStr} (h : AStr.ofStr t ss σ.nid = .ok y) : Adm σ y := by
  unfold AStr.ofStr at h
  simp only at h
  split at h
  · cases h; exact adm_setAnsi t (Nat.le_refl _)
  · exact adm_applyRaw (adm_setAnsi t (Nat.le_refl _)) (setAnsi_ids t σ.nid).1 (C02.setAnsi_fresh t σ.nid) h

theorem adm_ofAStr (hσ : StoreInv σ) {v : Var} {x y : AStr} (hx : σ.get? v = some x) {ss : List SArg}
    (h : x.ofAStr ss σ.nid = .ok y) : Adm σ y := by
  unfold AStr.ofAStr at h
  split at h
  · cases h; exact adm_self hσ hx
  · exact adm_applyRaw (adm_self hσ hx) (Nat.le_refl _) (hσ.fresh v x hx) h

theorem adm_addStr (hσ : StoreInv σ) {v : Var} {x : AStr} (hx : σ.get? v = some x) (t : Str) :
    Adm σ (x.iadd (AStr.setAnsi t σ.nid).1) :=
  adm_iadd (adm_self hσ hx) (adm_setAnsi t (Nat.le_refl _))
    (coh_disjoint (hσ.fresh v x hx) (setAnsi_ids t σ.nid).2)

theorem adm_iadd_vals (hσ : StoreInv σ) {v w : Var} {x y : AStr} (hx : σ.get? v = some x)
    (hy : σ.get? w = some y) : Adm σ (x.iadd y) :=
  adm_iadd (adm_self hσ hx) (adm_self hσ hy) (hσ.coherent v w x y hx hy)

theorem adm_ljust {x : AStr} (hx : Adm σ x) (w : Int) (c : Char) (e : Bool) : Adm σ (x.ljust w c e) :=
  adm_sub_adm hx (C12.ljust_wf hx.wf w c e) (fun s hs => by rwa [ljust_settings x hx.wf] at hs)

theorem adm_rjust {x : AStr} (hx : Adm σ x) (w : Int) (c : Char) (e : Bool) : Adm σ (x.rjust w c e) :=
  adm_sub_adm hx (C12.rjust_wf hx.wf w c e) (fun s hs => by rwa [rjust_settings x] at hs)

theorem adm_center {x : AStr} (hx : Adm σ x) (w : Int) (c : Char) (e : Bool) : Adm σ (x.center w c e) :=
  adm_sub_adm hx (C12.center_wf hx.wf w c e) (fun s hs => by rwa [center_settings x hx.wf] at hs)

theorem adm_assign {x : AStr} (hx : Adm σ x) (t : Str) : Adm σ (x.assignStr t) :=
  adm_sub_adm hx (assignStr_wf x hx.wf t) (assignStr_settings_sub x hx.wf t)

/-- `strip`, `removeprefix`, `removesuffix`: the value itself or a slice of it -/
theorem adm_ite_slice {c : Prop} [Decidable c] {x : AStr} (hx : Adm σ x) (a b : Option Int) :
    Adm σ (if c then x else x.getSlice a b) := by
  split
  · exact hx
  · exact adm_slice hx a b

/-! ### `replace`: the loop of slices and concatenations -/

/-- the replacement built from a plain `str`: parsed, then given the settings of the match's first
    character as new objects -/
theorem adm_strRep {nid : Nat} (hn : σ.nid ≤ nid) (raw : Str) (act : List Setting) :
    let r := AStr.setAnsi raw nid
    let y := r.1.applyFormatting (freshSettings r.2 (texts act)) none none true
    Adm σ y ∧ FreshFrom y (r.2 + act.length) ∧ (∀ s ∈ y.fmts.settings, nid ≤ s.id) ∧ nid ≤ r.2 := by
  intro r y
  have hid := setAnsi_ids raw nid
  have hw := C02.setAnsi_wf raw nid
  have hf := C02.setAnsi_fresh raw nid
  refine ⟨adm_apply (adm_setAnsi raw hn) (Nat.le_trans hn hid.1) hf _ _ _ _, ?_, ?_, hid.1⟩
  · have := ParseTextL.freshFrom_apply (texts act) none none true hw hf
    rwa [texts, List.length_map] at this
  · intro s hs
    rcases apply_fresh_settings hw hf (texts act) none none true s hs with h | h
    · exact hid.2 s h
    · exact Nat.le_trans hid.1 h.1

/-- The loop of `replace`.  Invariant: `obj` is admissible and all its identities are below `nid`,
    which is at or beyond the store's counter.  The replacement of an iteration is either a value
    made of the store's objects (coherent with `obj` because `obj` is admissible) or one built from
    identities `≥ nid` (coherent with `obj` because the identities are disjoint). -/
theorem replaceLoop_adm (hσ : StoreInv σ) (old : Str) (new : AStr.Repl)
    (hnew : ∀ v, new = .astr v → WF v ∧ ∀ s ∈ v.fmts.settings, Old σ s) :
    ∀ (fuel : Nat) (obj : AStr) (count : Int) (idx : Option Nat) (nid : Nat),
      σ.nid ≤ nid → Adm σ obj → FreshFrom obj nid →
      Adm σ (AStr.replaceLoop old new fuel obj count idx nid) := by
  intro fuel
  induction fuel with
  | zero => intro obj count idx nid _ ho _; exact ho
  | succ fuel ih =>
    intro obj count idx nid hn ho hf
    cases idx with
    | none => exact ho
    | some i =>
      simp only [AStr.replaceLoop]
      split
      · exact ho
      · have next : ∀ (rep : AStr) (n' : Nat), Adm σ rep → CoherentPair obj rep → FreshFrom rep n' → nid ≤ n' →
            ∀ (a b c d : Option Int) (count' : Int) (idx' : Option Nat),
              Adm σ (AStr.replaceLoop old new fuel (((obj.getSlice a b).iadd rep).iadd (obj.getSlice c d))
                count' idx' n') := by
          intro rep n' hr hc hfr hnn a b c d count' idx'
          obtain ⟨-, k1, k2⟩ := ReplaceL.splice_spec ho.wf hr.wf hc a b c d
          refine ih _ _ _ _ (Nat.le_trans hn hnn)
            ⟨k1, fun s hs => (k2 s hs).elim (ho.prov s) (hr.prov s)⟩ fun s hs => ?_
          rcases k2 s hs with h | h
          · exact Nat.lt_of_lt_of_le (hf s h) hnn
          · exact hfr s h
        cases new with
        | astr v =>
          obtain ⟨hv, hvo⟩ := hnew v rfl
          exact next v nid ⟨hv, fun s hs => Or.inl (hvo s hs)⟩ (coh_adm_old hσ ho hvo)
            (fun s hs => Nat.lt_of_lt_of_le (old_lt hσ (hvo s hs)) hn) (Nat.le_refl _) _ _ _ _ _ _
        | str raw =>
          obtain ⟨h1, h2, h3, h4⟩ := adm_strRep hn raw (obj.ansiSettingsAt i)
          exact next _ _ h1 (coh_disjoint hf h3) h2 (Nat.le_trans h4 (Nat.le_add_right _ _)) _ _ _ _ _ _

theorem adm_replace_astr (hσ : StoreInv σ) {v w : Var} {x y : AStr} (hx : σ.get? v = some x)
    (hy : σ.get? w = some y) (old : Str) (count : Int) :
    Adm σ (x.replace old (.astr y) count σ.nid) :=
  replaceLoop_adm hσ old (.astr y) (fun _ e => by cases e; exact ⟨hσ.wf w y hy, all_old hy⟩) _ _ _ _ _
    (Nat.le_refl _) (adm_self hσ hx) (hσ.fresh v x hx)

theorem adm_replace_str (hσ : StoreInv σ) {v : Var} {x : AStr} (hx : σ.get? v = some x)
    (old raw : Str) (count : Int) : Adm σ (x.replace old (.str raw) count σ.nid) :=
  replaceLoop_adm hσ old (.str raw) (fun _ e => nomatch e) _ _ _ _ _ (Nat.le_refl _) (adm_self hσ hx) (hσ.fresh v x hx)

/-! ### `join`, the matching loops, the pieces of `split`/`splitlines`/`partition` -/

theorem getAll_mem : ∀ (vs : List Var) (xs : List AStr), σ.getAll vs = some xs →
    ∀ y ∈ xs, ∃ v, σ.get? v = some y
  | [], _, h, y, hy => by cases h; cases hy
  | v :: vs, xs, h, y, hy => by
    unfold Store.getAll at h
    split at h
    next x xs' hx hxs =>
      cases h
      rcases List.mem_cons.mp hy with e | hm
      · exact ⟨v, e ▸ hx⟩
      · exact getAll_mem vs xs' hxs y hm
    next => cases h

/-- the left fold of `join`: every intermediate value is admissible — it is made of the store's
    objects, hence coherent with the next operand -/
theorem adm_foldl_iadd (hσ : StoreInv σ) : ∀ (xs : List AStr) (acc : AStr),
    (∀ y ∈ xs, ∃ v, σ.get? v = some y) → Adm σ acc → Adm σ (xs.foldl AStr.iadd acc)
  | [], _, _, ha => ha
  | y :: ys, acc, hxs, ha => by
    obtain ⟨v, hv⟩ := hxs y List.mem_cons_self
    exact adm_foldl_iadd hσ ys (acc.iadd y) (fun z hz => hxs z (List.mem_cons_of_mem _ hz))
      (adm_iadd ha (adm_self hσ hv) (coh_adm_old hσ ha (all_old hv)))

theorem adm_join (hσ : StoreInv σ) {vs : List Var} {xs : List AStr} (h : σ.getAll vs = some xs) :
    Adm σ (AStr.join xs) := by
  have hm := getAll_mem vs xs h
  cases xs with
  | nil => exact adm_plain []
  | cons x rest =>
    obtain ⟨v, hv⟩ := hm x List.mem_cons_self
    exact adm_foldl_iadd hσ rest x (fun z hz => hm z (List.mem_cons_of_mem _ hz)) (adm_self hσ hv)

/-- `format_matching`: every iteration is an `applyRaw` with identities at or beyond the store's
    counter and beyond everything the accumulator holds -/
theorem adm_fmatch (hσ : StoreInv σ) {v : Var} {x y : AStr} (hx : σ.get? v = some x) {a : SArg}
    {spans : List (Int × Int)} {count : Int} (h : x.formatMatchingFrom σ.nid a spans count = .ok y) :
    Adm σ y :=
  foldlM_inv (P := Adm σ) _
    (fun _ _ z _ hz h => adm_applyRaw hz (Nat.le_max_left _ _)
      (fun s hs => Nat.lt_of_lt_of_le (C16.nextId_fresh z s hs) (Nat.le_max_right _ _)) h)
    (adm_self hσ hx) h

/-- the facts of C16 (`matching_text`, `matching_wf`, `matching_outside`) for the loop that numbers
    from the store's counter: text kept, `WF` kept, characters outside all matches keep their settings -/
theorem formatMatchingFrom_spec (x y : AStr) (n : Nat) (a : SArg) (spans : List (Int × Int)) (count : Int)
    (h : x.formatMatchingFrom n a spans count = .ok y) :
    y.s = x.s ∧ (WF x → WF y ∧ ∀ i : Nat,
      (∀ se ∈ takeCount count spans,
        i < sliceIdx x.len (some se.1) 0 ∨ sliceIdx x.len (some se.2) x.len ≤ i) → act y i = act x i) :=
  MatchL.fold_spec (fun {x _ _} => MatchL.applyRaw_step fun s hs =>
    Nat.lt_of_lt_of_le (C16.nextId_fresh x s hs) (Nat.le_max_right _ _)) _ h

theorem adm_unfmatch (hσ : StoreInv σ) {v : Var} {x y : AStr} (hx : σ.get? v = some x) {a : Option SArg}
    {spans : List (Int × Int)} {count : Int} (h : x.unformatMatching a spans count = .ok y) : Adm σ y :=
  foldlM_inv (P := Adm σ) _ (fun _ _ _ _ hz h => adm_removeRaw hz h) (adm_self hσ hx) h

theorem adm_getElem? {x : AStr} (hx : Adm σ x) {ps : List AStr}
    (hps : ∀ p ∈ ps, ∃ a b, p = x.getSlice a b) (j : Nat) : ∀ p, ps[j]? = some p → Adm σ p := by
  intro p hp
  obtain ⟨a, b, e⟩ := hps p (List.mem_of_getElem? hp)
  rw [e]
  exact adm_slice hx a b

/-- the three components of `partition`/`rpartition`: slices of the source, or (no match) the
    source and two empty values -/
theorem adm_partPiece {x : AStr} (hx : Adm σ x) (sep : Str) (r : Bool) (j : Nat) :
    ∀ p, [(x.partitionGen sep r).1, (x.partitionGen sep r).2.1, (x.partitionGen sep r).2.2][j]? = some p →
      Adm σ p := by
  intro p hp
  have hm := List.mem_of_getElem? hp
  unfold AStr.partitionGen at hm
  split at hm
  · simp only [List.mem_cons, List.not_mem_nil, or_false] at hm
    rcases hm with e | e | e <;> rw [e] <;> exact adm_slice hx _ _
  · simp only [List.mem_cons, List.not_mem_nil, or_false] at hm
    rcases hm with e | e | e <;> rw [e]
    · exact hx
    · exact adm_plain []
    · exact adm_plain []

end adm

/-! ## 5. the error classes an operation can raise -/

open Scrub

def NoIdx {α : Type} (r : Except PyErr α) : Prop := r ≠ .error .indexError

theorem noIdx_ok {α : Type} (a : α) : NoIdx (Except.ok a : Except PyErr α) := by
  intro h; cases h

theorem noIdx_bind {α β : Type} {r : Except PyErr α} {f : α → Except PyErr β} (hr : NoIdx r)
    (hf : ∀ a, NoIdx (f a)) : NoIdx (r >>= f) := by
  cases r with
  | ok a => exact hf a
  | error e =>
    intro h
    simp only [bind, Except.bind] at h
    injection h with h
    subst h
    exact hr rfl

theorem parseRgb_noIdx (s : Str) : parseRgbString s ≠ some (.error .indexError) := by
  unfold parseRgbString
  dsimp only
  repeat' split
  all_goals exact fun h => nomatch h

theorem scrubDirective_noIdx (fmt : Str) : NoIdx (scrubDirective fmt) := by
  unfold scrubDirective
  split
  · exact noIdx_ok _
  · split
    next e he => exact fun h => parseRgb_noIdx fmt (Except.error.inj h ▸ he)
    · exact noIdx_ok _
    · repeat' split
      all_goals exact fun h => nomatch h

theorem foldlM_noIdx {α β : Type} {f : β → α → Except PyErr β} (hf : ∀ b a, NoIdx (f b a)) :
    ∀ (l : List α) (b : β), NoIdx (l.foldlM f b) := by
  intro l
  induction l with
  | nil => intro b; exact noIdx_ok b
  | cons a l ih =>
    intro b
    rw [List.foldlM_cons]
    exact noIdx_bind (hf b a) ih

theorem scrubString_noIdx (s : Str) : NoIdx (scrubString s) := by
  unfold scrubString
  split
  · exact noIdx_ok _
  · split
    · intro h; cases h
    · exact noIdx_ok _
  · exact foldlM_noIdx (fun acc fmt => noIdx_bind (scrubDirective_noIdx fmt) (fun r => noIdx_ok _)) _ _

mutual
theorem scrubItem_noIdx : ∀ a : SArg, NoIdx (scrubItem a)
  | .obj t => by rw [scrubItem]; exact noIdx_ok _
  | .str s => by rw [scrubItem]; exact scrubString_noIdx s
  | .int i => by
    rw [scrubItem]; split
    · intro h; cases h
    · exact noIdx_ok _
  | .member name => by
    rw [scrubItem]; split
    · exact noIdx_ok _
    · intro h; cases h
  | .list l => by
    rw [scrubItem]
    exact noIdx_bind (scrubItems_noIdx l) (fun r => noIdx_ok _)
  | .selfRef => by rw [scrubItem]; intro h; cases h
  | .bad _ => by rw [scrubItem]; intro h; cases h
theorem scrubItems_noIdx : ∀ l : List SArg, NoIdx (scrubItems l)
  | [] => by rw [scrubItems]; exact noIdx_ok _
  | a :: rest => by
    rw [scrubItems]
    exact noIdx_bind (scrubItem_noIdx a) (fun r => noIdx_bind (scrubItems_noIdx rest) (fun rs => noIdx_ok _))
end

theorem scrub_noIdx (a : SArg) : NoIdx (scrub a) := by
  unfold scrub
  split
  · exact noIdx_bind (scrubItems_noIdx _) (fun r => noIdx_ok _)
  · exact noIdx_bind (scrubItem_noIdx _) (fun r => noIdx_ok _)

theorem noIdx_ite {α : Type} {c : Prop} {_ : Decidable c} {a b : Except PyErr α} (ha : NoIdx a) (hb : NoIdx b) :
    NoIdx (if c then a else b) := by
  split
  · exact ha
  · exact hb

theorem applyRaw_noIdx (x : AStr) (nid : Nat) (a : SArg) (st en : Option Int) (top : Bool) :
    NoIdx (x.applyRaw nid a st en top) := by
  unfold AStr.applyRaw
  exact noIdx_ite (noIdx_ok _) (noIdx_bind (scrub_noIdx a) (fun ts => noIdx_ok _))

theorem removeRaw_noIdx (x : AStr) (a : Option SArg) (st en : Option Int) :
    NoIdx (x.removeRaw a st en) := by
  cases a with
  | none =>
    unfold AStr.removeRaw
    exact noIdx_ite (noIdx_ok _) (noIdx_ok _)
  | some a =>
    unfold AStr.removeRaw
    exact noIdx_ite (noIdx_ok _) (noIdx_bind (scrub_noIdx _) (fun ts => noIdx_ok _))

theorem findRaw_noIdx (x : AStr) (a : SArg) (st en : Option Int) (rev : Bool) :
    NoIdx (x.findRaw a st en rev) := by
  unfold AStr.findRaw
  exact noIdx_ite (noIdx_ok _) (noIdx_bind (scrub_noIdx a) (fun ts => noIdx_ok _))

theorem ofStr_noIdx (s : Str) (ss : List SArg) (nid : Nat) : NoIdx (AStr.ofStr s ss nid) := by
  unfold AStr.ofStr
  exact noIdx_ite (noIdx_ok _) (applyRaw_noIdx _ _ _ _ _ _)

theorem ofAStr_noIdx (x : AStr) (ss : List SArg) (nid : Nat) : NoIdx (x.ofAStr ss nid) := by
  unfold AStr.ofAStr
  exact noIdx_ite (noIdx_ok _) (applyRaw_noIdx _ _ _ _ _ _)

theorem applyJust_noIdx (obj : AStr) (nid : Nat) (caps : Re.Caps) (j : Render.Just) (settings : Option Str) :
    NoIdx (Render.applyJust obj nid caps j settings) := by
  have last : ∀ (c : Prop) [Decidable c] (o : AStr) (a : SArg),
      NoIdx (if c then o.applyRaw nid a none none else pure o) :=
    fun _ _ _ _ => noIdx_ite (applyRaw_noIdx _ _ _ _ _ _) (noIdx_ok _)
  unfold Render.applyJust
  -- the settings are applied before the pad or after it; `last` is the part after the pad
  exact noIdx_ite (noIdx_bind (applyRaw_noIdx _ _ _ _ _ _) fun _ => last _ _ _)
    (noIdx_bind (noIdx_ok _) fun _ => last _ _ _)

theorem applyStringFormat_noIdx (obj : AStr) (nid : Nat) (fmt : Str) (settings : Option Str) :
    NoIdx (Render.applyStringFormat obj nid fmt settings) := by
  unfold Render.applyStringFormat
  split
  · exact applyJust_noIdx _ _ _ _ _
  · split
    · exact applyJust_noIdx _ _ _ _ _
    · split
      · exact applyJust_noIdx _ _ _ _ _
      · intro h; cases h

theorem applySpec_noIdx (x : AStr) (nid : Nat) (spec : Str) : NoIdx (Render.applySpec x nid spec) := by
  unfold Render.applySpec
  refine noIdx_ite (applyStringFormat_noIdx _ _ _ _) ?_
  split
  · exact noIdx_ite (noIdx_ok _) (applyRaw_noIdx _ _ _ _ _ _)
  · exact noIdx_ok _

theorem toStr_noIdx (x : AStr) (spec : Option Str) (o rs re : Bool) (nid : Nat) :
    NoIdx (x.toStr spec o rs re nid) := by
  unfold AStr.toStr
  refine noIdx_ite (noIdx_ok _) (noIdx_ite ?_ (noIdx_ok _))
  exact noIdx_bind (applySpec_noIdx _ _ _) (fun obj => noIdx_ok _)

theorem formatMatchingFrom_noIdx (x : AStr) (nid : Nat) (a : SArg) (spans : List (Int × Int)) (count : Int) :
    NoIdx (x.formatMatchingFrom nid a spans count) :=
  foldlM_noIdx (fun _ _ => applyRaw_noIdx _ _ _ _ _ _) _ _

theorem unformatMatching_noIdx (x : AStr) (a : Option SArg) (spans : List (Int × Int)) (count : Int) :
    NoIdx (x.unformatMatching a spans count) :=
  foldlM_noIdx (fun _ _ => removeRaw_noIdx _ _ _ _) _ _

theorem splitGen_err (x : AStr) (sep : Option Str) (m : Int) (r : Bool) (e : PyErr)
    (h : x.splitGen sep m r = .error e) : e = .valueError ∧ sep = some [] := by
  unfold AStr.splitGen at h
  split at h
  · injection h with h; exact ⟨h.symm, rfl⟩
  · cases h
  · cases h

theorem splitGen_noIdx (x : AStr) (sep : Option Str) (m : Int) (r : Bool) : NoIdx (x.splitGen sep m r) :=
  fun h => nomatch (splitGen_err x sep m r _ h).1

theorem getIndex_err (x : AStr) (i : Int) (e : PyErr) (h : x.getIndex i = .error e) : e = .indexError := by
  unfold AStr.getIndex at h
  split at h
  · injection h with h; exact h.symm
  · cases h

/-! ## 6. what a step does -/

def neverFails : Op → Bool
  | .clear _ | .slice _ _ _ _ | .iadd _ _ | .add _ _ _ | .addStr _ _ _ | .assign _ _ | .simplify _
  | .strip _ _ _ _ _ | .removeprefix _ _ _ | .removesuffix _ _ _ | .replace _ _ _ _ _
  | .zfill _ _ _ | .clip _ _ _ _ | .join _ _ | .linePiece _ _ _ _ | .partPiece _ _ _ _ _
  | .expandtabs _ _ _ => true
  | _ => false

/-- what `op` may report, an unbound name apart, when it writes nothing: nothing if it never fails,
    and `IndexError` only if it is the integer index -/
def Reports (op : Op) (o : Outcome) : Prop :=
  neverFails op = false ∧ (o = .err .indexError → ∃ d s i, op = .index d s i)

theorem NoIdx.reports {α : Type} {r : Except PyErr α} (hr : NoIdx r) {op : Op} (hop : neverFails op = false)
    (e : PyErr) (he : r = .error e) : Reports op (.err e) :=
  ⟨hop, fun h => absurd (he.trans (congrArg _ (Outcome.err.inj h))) hr⟩

/-- Every operation either writes one value to a variable of `writes` — a value that is admissible
    if the store satisfies the invariant — or leaves the store alone and reports an unbound name or
    one of the outcomes `Reports` allows it. -/
theorem step_spec (σ : Store) (op : Op) :
    σ.Effect op.writes (fun y => StoreInv σ → Adm σ y) (Reports op) (σ.step op) := by
  cases op with
  | new d s ss =>
    exact .fromExcept (.head _) (fun y hy _ => adm_ofStr hy) ((ofStr_noIdx _ _ _).reports rfl)
  | copy d src ss =>
    exact .withVal fun x hx =>
      .fromExcept (.head _) (fun y hy h => adm_ofAStr h hx hy) ((ofAStr_noIdx _ _ _).reports rfl)
  | apply v a st en top =>
    exact .withVal fun x hx => .fromExcept (.head _)
      (fun y hy h => adm_applyRaw (adm_self h hx) (Nat.le_refl _) (h.fresh v x hx) hy)
      ((applyRaw_noIdx _ _ _ _ _ _).reports rfl)
  | remove v a st en =>
    exact .withVal fun x hx => .fromExcept (.head _) (fun y hy h => adm_removeRaw (adm_self h hx) hy)
      ((removeRaw_noIdx _ _ _ _).reports rfl)
  | clear v => exact .withVal fun x _ => .commit (.head _) fun _ => adm_plain x.s
  | slice d src a b | clip d src a b =>
    exact .withVal fun x hx => .commit (.head _) fun h => adm_slice (adm_self h hx) a b
  | index d src i =>
    exact .withVal fun x hx => .fromExcept (.head _) (fun y hy h => adm_index (adm_self h hx) hy)
      (fun _ _ => ⟨rfl, fun _ => ⟨d, src, i, rfl⟩⟩)
  | iadd v u | add d v u =>
    exact .withVal fun x hx => .withVal fun y hy => .commit (.head _) fun h => adm_iadd_vals h hx hy
  | addStr d v t => exact .withVal fun x hx => .commit (.head _) fun h => adm_addStr h hx t
  | ljust d src wd fill e =>
    exact .withVal fun x hx => .pad1 (.head _) (fun c h => adm_ljust (adm_self h hx) wd c e)
      ⟨rfl, fun h => nomatch h⟩
  | rjust d src wd fill e =>
    exact .withVal fun x hx => .pad1 (.head _) (fun c h => adm_rjust (adm_self h hx) wd c e)
      ⟨rfl, fun h => nomatch h⟩
  | center d src wd fill e =>
    exact .withVal fun x hx => .pad1 (.head _) (fun c h => adm_center (adm_self h hx) wd c e)
      ⟨rfl, fun h => nomatch h⟩
  | assign v t => exact .withVal fun x hx => .commit (.head _) fun h => adm_assign (adm_self h hx) t
  | simplify v => exact .withVal fun x _ => .commit (.head _) fun _ => adm_setAnsi _ (Nat.le_refl _)
  | strip d src cs l r =>
    exact .withVal fun x hx => .commit (.head _) fun h => by
      unfold AStr.stripGen
      exact adm_ite_slice (adm_self h hx) _ _
  | removeprefix d src p | removesuffix d src p =>
    exact .withVal fun x hx => .commit (.head _) fun h => adm_ite_slice (adm_self h hx) _ _
  | replace d src old new count =>
    cases new with
    | inr t => exact .withVal fun x hx => .commit (.head _) fun h => adm_replace_str h hx old t count
    | inl u =>
      exact .withVal fun x hx => .withVal fun y hy => .commit (.head _) fun h =>
        adm_replace_astr h hx hy old count
  | render src spec o rs re =>
    refine .withVal fun x _ => ?_
    split
    · exact .skip ⟨rfl, fun h => nomatch h⟩
    · exact .skip ((toStr_noIdx x spec o rs re σ.nid).reports rfl _ ‹_›)
  | find src a st en rev =>
    refine .withVal fun x _ => ?_
    split
    · exact .skip ⟨rfl, fun h => nomatch h⟩
    · exact .skip ((findRaw_noIdx x a st en rev).reports rfl _ ‹_›)
  | zfill d src wd => exact .withVal fun x hx => .commit (.head _) fun h => adm_rjust (adm_self h hx) wd '0' true
  | join d vs =>
    show Store.Effect _ _ _ _ (match σ.getAll vs with | some xs => _ | none => _)
    split
    · exact .commit (.head _) fun h => adm_join h ‹_›
    · exact .unbound
  | fmatch v a spans count =>
    exact .withVal fun x hx => .fromExcept (.head _) (fun y hy h => adm_fmatch h hx hy)
      ((formatMatchingFrom_noIdx _ _ _ _ _).reports rfl)
  | unfmatch v a spans count =>
    exact .withVal fun x hx => .fromExcept (.head _) (fun y hy h => adm_unfmatch h hx hy)
      ((unformatMatching_noIdx _ _ _ _).reports rfl)
  | splitPiece d src sep m r j =>
    refine .withVal fun x hx => ?_
    split
    · exact .piece (.head _) fun p hp h =>
        adm_getElem? (adm_self h hx) (PiecesL.splitGen_slices ‹_›) j p hp
    · exact .skip ((splitGen_noIdx x sep m r).reports rfl _ ‹_›)
  | linePiece d src ke j =>
    exact .withVal fun x hx => .piece (.head _) fun p hp h =>
      adm_getElem? (adm_self h hx) (PiecesL.piecesAt_slices x _) j p hp
  | partPiece d src sep r j =>
    exact .withVal fun x hx => .piece (.head _) fun p hp h => adm_partPiece (adm_self h hx) sep r j p hp
  | expandtabs d src k => exact .withVal fun x hx => .commit (.head _) fun h => adm_replace_str h hx _ _ _

theorem inv_step {σ : Store} (h : StoreInv σ) (op : Op) : StoreInv (σ.step op).1 := by
  generalize σ.step op = r, step_spec σ op = e
  cases e with
  | commit _ hx => exact inv_commit h (hx h) _
  | unbound => exact h
  | skip _ => exact h

theorem inv_init : StoreInv {} :=
  ⟨fun v x hx => by simp [Store.get?] at hx, fun v x hx => by simp [Store.get?] at hx,
   fun v w x y hx => by simp [Store.get?] at hx⟩

theorem inv_run {σ : Store} (h : StoreInv σ) (ops : List Op) : StoreInv (σ.run ops) := by
  unfold Store.run
  induction ops generalizing σ with
  | nil => exact h
  | cons op rest ih => exact ih (inv_step h op)

theorem step_outcome (σ : Store) (op : Op) :
    (σ.step op).2 = .ok ∨ (σ.step op).2 = .unbound ∨ Reports op (σ.step op).2 :=
  (step_spec σ op).outcome

end StoreL
