import AnsiProofs.Props.C01
import AnsiProofs.Props.C04
import AnsiProofs.Props.C05
import AnsiProofs.Props.C06
/-
  For C06b (what `apply_formatting` shows on a terminal) and C05b (`s[:k] + s[k:]`).  `touches l g`: some
  setting of `l` sets or clears effect group `g` (a reset touches every group).  In `eff (l ++ m)` the later
  list decides the groups it touches, the others keep what the earlier list gave them (`eff_append`).
-/
open Term Eff RenderL

namespace DisplayL

/-! ## which groups a setting touches -/

/-- does SGR parameter `c` set or clear group `g`?  (`0`, the reset, clears every group) -/
def codeTouches (c : Nat) (g : Group) : Bool :=
  match specEffect c with
  | some .reset => true
  | some (.set g') => g' == g
  | some (.clear g') => g' == g
  | some (.ext g') => g' == g
  | none => false

def headTouches (vals : List Nat) (g : Group) : Bool :=
  match vals with
  | c :: _ => codeTouches c g
  | [] => false

/-- does the setting text `t` (one SGR parameter group) set or clear group `g`?  Decided by its
    first parameter: `1` → boldness, `22` → boldness, `38;5;n` → fg, `0` → every group -/
def txtTouches (t : Str) (g : Group) : Bool :=
  match (Term.params t).head? with
  | some (some c) => codeTouches c g
  | _ => false

def touches (l : List Setting) (g : Group) : Prop := ∃ s ∈ l, txtTouches s.txt g = true

instance (l : List Setting) (g : Group) : Decidable (touches l g) := by
  unfold touches; infer_instance

theorem touches_nil (g : Group) : ¬ touches [] g := by
  rintro ⟨s, hs, _⟩; cases hs

theorem touches_cons {s : Setting} {l : List Setting} {g : Group} :
    touches (s :: l) g ↔ txtTouches s.txt g = true ∨ touches l g := by
  simp [touches]

theorem touches_append {l m : List Setting} {g : Group} :
    touches (l ++ m) g ↔ touches l g ∨ touches m g := by
  simp only [touches, List.mem_append]
  constructor
  · rintro ⟨s, hs | hs, h⟩
    · exact .inl ⟨s, hs, h⟩
    · exact .inr ⟨s, hs, h⟩
  · rintro (⟨s, hs, h⟩ | ⟨s, hs, h⟩)
    · exact ⟨s, .inl hs, h⟩
    · exact ⟨s, .inr hs, h⟩

theorem txtTouches_zero (g : Group) : txtTouches ['0'] g = true := by
  cases g <;> decide

theorem txtTouches_eq {t : Str} (h : isGroupTxt t = true) (g : Group) :
    txtTouches t g = headTouches (valsOf t) g := by
  unfold txtTouches headTouches
  rw [params_of_digits (isGroupTxt_spec h).1]
  cases valsOf t <;> rfl

/-! ## one complete group, one setting text, a list of settings -/

theorem put_apply (t : TState) (g' g : Group) (v : Val) :
    t.put g' v g = if g' = g then some v else t g := by
  unfold TState.put
  by_cases e : g' = g
  · simp [e]
  · simp [e, Ne.symm e]

theorem drop_apply (t : TState) (g' g : Group) : t.drop g' g = if g' = g then none else t g := by
  unfold TState.drop
  by_cases e : g' = g
  · simp [e]
  · simp [e, Ne.symm e]

theorem groupEffect_apply (vals : List Nat) (g : Group) (st : TState) :
    groupEffect st vals g = if headTouches vals g then groupEffect Term.default vals g else st g := by
  cases vals with
  | nil => rfl
  | cons c l =>
    unfold groupEffect headTouches codeTouches
    rw [List.head?_cons, Option.bind_some]
    cases hs : specEffect c with
    | none => simp [hs]
    | some act =>
      cases act with
      | reset => simp [hs]
      | set g' => by_cases e : g' = g <;> simp [hs, put_apply, e]
      | clear g' => by_cases e : g' = g <;> simp [hs, drop_apply, e]
      | ext g' => by_cases e : g' = g <;> simp [hs, put_apply, e]

theorem feed_txt {t : Str} (h : isGroupTxt t = true) (g : Group) (st : TState) :
    feed st (Term.params t) g =
      if txtTouches t g then feed Term.default (Term.params t) g else st g := by
  obtain ⟨h1, h2⟩ := isGroupTxt_spec h
  rw [txtTouches_eq h, params_of_digits h1, feed_group_nil h2, feed_group_nil h2]
  exact groupEffect_apply _ g st

theorem feed_settings {m : List Setting} (hm : ∀ s ∈ m, isGroupTxt s.txt = true) (g : Group)
    (st : TState) :
    feed st (codesOf m) g = if touches m g then feed Term.default (codesOf m) g else st g := by
  induction m generalizing st with
  | nil => rw [if_neg (touches_nil g), codesOf_nil, feed_nil]
  | cons s m ih =>
    have hs := hm s (by simp)
    have ih := ih (fun x hx => hm x (by simp [hx]))
    rw [codesOf_cons, feed_groupTxt hs, feed_groupTxt hs, ih, ih (feed Term.default _), feed_txt hs]
    by_cases h' : touches m g <;> by_cases h'' : txtTouches s.txt g = true <;> simp [touches_cons, h', h'']

theorem eff_append {l m : List Setting} (h : ∀ s ∈ l ++ m, isGroupTxt s.txt = true) (g : Group) :
    eff (l ++ m) g = if touches m g then eff m g else eff l g := by
  unfold eff
  rw [feed_codesOf_append (fun s hs => h s (by simp [hs])), feed_settings (fun s hs => h s (by simp [hs]))]

theorem eff_append_right {l m : List Setting} (h : ∀ s ∈ l ++ m, isGroupTxt s.txt = true) {g : Group}
    (ht : touches m g) : eff (l ++ m) g = eff m g :=
  (eff_append h g).trans (if_pos ht)

theorem eff_append_left {l m : List Setting} (h : ∀ s ∈ l ++ m, isGroupTxt s.txt = true) {g : Group}
    (ht : ¬ touches m g) : eff (l ++ m) g = eff l g :=
  (eff_append h g).trans (if_neg ht)

theorem eff_notouch {l : List Setting} (h : ∀ s ∈ l, isGroupTxt s.txt = true) {g : Group}
    (ht : ¬ touches l g) : eff l g = none := by
  unfold eff; rw [feed_settings h, if_neg ht]; rfl

theorem eff_congr_texts {l l' : List Setting} (h : texts l = texts l') : eff l = eff l' := by
  unfold eff
  rw [← codesT_texts l, ← codesT_texts l', h]

/-! ## the settings a character reports are settings of the table -/

theorem mem_act {x : AStr} {i : Nat} {s : Setting} (h : s ∈ act x i) : s ∈ x.fmts.settings :=
  activeFrom_sub (· ∈ x.fmts.settings) x.fmts [] i (fun _ h => nomatch h) (fun _ h => h) s h

theorem act_group {x : AStr} (hg : GroupSettings x) (i : Nat) : ∀ s ∈ act x i, isGroupTxt s.txt = true :=
  fun s hs => hg s (mem_act hs)

theorem group_both {x : AStr} {N : List Setting} (hg : GroupSettings x)
    (hN : ∀ s ∈ N, isGroupTxt s.txt = true) (i : Nat) :
    (∀ s ∈ N ++ act x i, isGroupTxt s.txt = true) ∧ (∀ s ∈ act x i ++ N, isGroupTxt s.txt = true) :=
  ⟨fun s hs => (List.mem_append.1 hs).elim (hN s) (act_group hg i s),
   fun s hs => (List.mem_append.1 hs).elim (act_group hg i s) (hN s)⟩

/-! ## `map` over `zipIdx`, pointwise on the valid indices -/

theorem zipIdx_map_congr {α β : Type} (l : List α) (f g : α × Nat → β)
    (h : ∀ c i, i < l.length → f (c, i) = g (c, i)) : l.zipIdx.map f = l.zipIdx.map g := by
  apply List.map_congr_left
  rintro ⟨c, i⟩ hm
  have := List.snd_lt_of_mem_zipIdx hm
  exact h c i (by simpa using this)

end DisplayL
