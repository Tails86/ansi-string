import AnsiProofs.Props.C02
import AnsiProofs.Props.C04
import AnsiProofs.Props.C05
import AnsiProofs.Props.C06
import AnsiProofs.Lemmas.Pieces
/-
  Helper lemmas for property C11, `replace` / `expandtabs` clause (the SETTINGS of the result; its
  text is property C10).

  `styled y` is the text of `y` with the setting texts each character reports.  It turns
  concatenation into `++` (`styled_iadd`) and slicing into `take`/`drop` (`styled_getSlice`), so one
  iteration of the loop of `replace`, `obj[:i] + rep + obj[i+n:]`, is a splice of styled lists
  (`step_styled`).  The loop is compared with ANY function `R` on styled lists that satisfies the
  three "first occurrence" equations (`replaceLoop_styled`); `astr_step` and `str_step` supply the
  iteration (`StepOk`) for the two kinds of replacement value.
-/

namespace ReplaceL

open StrLikeL ConcatL PiecesL

/-- a character together with the setting texts it reports (lowest precedence first) -/
abbrev SChar := Char × List Str

/-! ## styled lists -/

def styled (y : AStr) : List SChar := y.s.zipIdx.map (fun (c, i) => (c, texts (act y i)))

theorem styled_getElem? (y : AStr) (k : Nat) :
    (styled y)[k]? = (y.s[k]?).map (fun c => (c, texts (act y k))) := by
  unfold styled
  rw [List.getElem?_map, List.getElem?_zipIdx, Option.map_map, Nat.zero_add]
  rfl

theorem styled_snd {y : AStr} {k : Nat} {m : SChar} (h : (styled y)[k]? = some m) :
    m.2 = texts (act y k) := by
  rw [styled_getElem?] at h
  obtain ⟨c, -, rfl⟩ := Option.map_eq_some_iff.mp h
  rfl

theorem styled_map_fst (y : AStr) : (styled y).map (·.1) = y.s := by
  unfold styled
  rw [List.map_map]
  exact List.zipIdx_map_fst 0 y.s

theorem styled_length (y : AStr) : (styled y).length = y.len := by
  unfold styled
  rw [List.length_map, List.length_zipIdx]
  rfl

theorem styled_iadd {a b : AStr} (ha : WF a) (hb : WF b) :
    styled (a.iadd b) = styled a ++ styled b := by
  have hl : a.s.length = a.len := rfl
  apply List.ext_getElem?
  intro k
  rw [styled_getElem?, C05.iadd_text]
  rcases Nat.lt_or_ge k a.len with hk | hk
  · rw [List.getElem?_append_left hk, List.getElem?_append_left (by rw [styled_length]; exact hk),
      styled_getElem?, C05.iadd_left a b ha hb hk]
  · obtain ⟨q, rfl⟩ := Nat.exists_eq_add_of_le hk
    rw [List.getElem?_append_right hk, List.getElem?_append_right (by rw [styled_length]; exact hk),
      styled_length, hl, Nat.add_sub_cancel_left, styled_getElem?]
    cases hq : b.s[q]? with
    | none => rfl
    | some c =>
      rw [Option.map_some, Option.map_some, C05.iadd_right a b ha hb (List.getElem?_eq_some_iff.mp hq).1]

theorem styled_getSlice (x : AStr) (h : WF x) (a b : Option Int) :
    styled (x.getSlice a b) =
      ((styled x).take (sliceIdx x.len b x.len)).drop (sliceIdx x.len a 0) := by
  apply List.ext_getElem?
  intro k
  rw [styled_getElem?, C04.getSlice_text, C04.pySlice_spec, List.getElem?_drop, List.getElem?_take]
  by_cases hk : sliceIdx x.len a 0 + k < sliceIdx x.len b x.len
  · rw [if_pos hk, if_pos hk, styled_getElem?, C04.getSlice_settings x h a b (by omega)]
  · rw [if_neg hk, if_neg hk]
    rfl

theorem styled_head (x : AStr) (h : WF x) {i : Nat} (hi : i ≤ x.len) :
    styled (x.getSlice none (some (i : Int))) = (styled x).take i := by
  rw [styled_getSlice x h, sliceIdx_ofNat, Nat.min_eq_left hi]
  rfl

theorem styled_tail (x : AStr) (h : WF x) {j : Nat} (hj : j ≤ x.len) :
    styled (x.getSlice (some (j : Int)) none) = (styled x).drop j := by
  rw [styled_getSlice x h, sliceIdx_ofNat, Nat.min_eq_left hj]
  show ((styled x).take x.len).drop j = _
  rw [List.take_of_length_le (by rw [styled_length]; exact Nat.le_refl _)]

/-! ## slicing and `apply_formatting` bring in no settings but the fresh ones -/

theorem getSlice_settings_sub (x : AStr) (h : WF x) (a b : Option Int) :
    ∀ s ∈ (x.getSlice a b).fmts.settings, s ∈ x.fmts.settings :=
  getRange_settings_sub x _ _

theorem apply_fresh_settings {x : AStr} (h : WF x) {n : Nat} (hf : FreshFrom x n) (ts : List Str)
    (a b : Option Int) (top : Bool) :
    ∀ s ∈ (x.applyFormatting (freshSettings n ts) a b top).fmts.settings,
      s ∈ x.fmts.settings ∨ (n ≤ s.id ∧ s.id < n + ts.length) := by
  intro s hs
  rcases ParseTextL.apply_settings_sub a b top h (freshSettings_fresh x n ts hf) s hs with h1 | h1
  · have h2 : s.id ∈ (freshSettings n ts).map (·.id) := List.mem_map.mpr ⟨s, h1, rfl⟩
    rw [freshSettings_ids, List.mem_range'_1] at h2
    exact Or.inr h2
  · exact Or.inl h1

theorem apply_fresh_wf {x : AStr} (h : WF x) {n : Nat} (hf : FreshFrom x n) (ts : List Str)
    (a b : Option Int) (top : Bool) : WF (x.applyFormatting (freshSettings n ts) a b top) :=
  apply_wf x _ a b top h (freshSettings_fresh x n ts hf)

/-! ## one iteration of the loop -/

theorem splice_spec {obj rep : AStr} (hw : WF obj) (hr : WF rep) (hc : CoherentPair obj rep)
    (a b c d : Option Int) :
    WF ((obj.getSlice a b).iadd rep) ∧ WF (((obj.getSlice a b).iadd rep).iadd (obj.getSlice c d)) ∧
      ∀ s ∈ (((obj.getSlice a b).iadd rep).iadd (obj.getSlice c d)).fmts.settings,
        s ∈ obj.fmts.settings ∨ s ∈ rep.fmts.settings := by
  have w1 := C04.getSlice_wf obj hw a b
  have w2 := C04.getSlice_wf obj hw c d
  have sub1 := getSlice_settings_sub obj hw a b
  have sub2 := getSlice_settings_sub obj hw c d
  have wT : WF ((obj.getSlice a b).iadd rep) :=
    C05.iadd_wf _ _ w1 hr fun s hs t ht e => hc s (sub1 s hs) t ht e
  have subT : ∀ s ∈ ((obj.getSlice a b).iadd rep).fmts.settings,
      s ∈ obj.fmts.settings ∨ s ∈ rep.fmts.settings :=
    fun s hs => (mem_iadd_settings w1 hr hs).imp_left (sub1 s)
  refine ⟨wT, C05.iadd_wf _ _ wT w2 fun s hs t ht e => ?_, fun s hs => ?_⟩
  · rcases subT s hs with h | h
    · exact hw.coherent s h t (sub2 t ht) e
    · exact (hc t (sub2 t ht) s h e.symm).symm
  · rcases mem_iadd_settings wT w2 hs with h | h
    · exact subT s h
    · exact Or.inl (sub2 s h)

/-- `obj[:i] + rep + obj[i+n:]` -/
def stepObj (obj rep : AStr) (i n : Nat) : AStr :=
  ((obj.getSlice none (some (i : Int))).iadd rep).iadd (obj.getSlice (some ((i + n : Nat) : Int)) none)

theorem head_len (obj : AStr) {i : Nat} (hi : i ≤ obj.len) :
    (obj.getSlice none (some (i : Int))).len = i := by
  unfold AStr.len at *
  rw [getSlice_to_s, List.length_take]; omega

theorem tail_len (obj : AStr) (j : Nat) :
    (obj.getSlice (some (j : Int)) none).len = obj.len - j := by
  unfold AStr.len
  rw [getSlice_from_s, List.length_drop]

theorem head_wf {obj rep : AStr} (hw : WF obj) (hr : WF rep) (hc : CoherentPair obj rep) (i : Nat) :
    WF ((obj.getSlice none (some (i : Int))).iadd rep) :=
  (splice_spec hw hr hc _ _ none none).1

theorem step_settings_sub {obj rep : AStr} (hw : WF obj) (hr : WF rep) (hc : CoherentPair obj rep)
    (i n : Nat) : ∀ s ∈ (stepObj obj rep i n).fmts.settings, s ∈ obj.fmts.settings ∨ s ∈ rep.fmts.settings :=
  (splice_spec hw hr hc ..).2.2

theorem step_wf {obj rep : AStr} (hw : WF obj) (hr : WF rep) (hc : CoherentPair obj rep) (i n : Nat) :
    WF (stepObj obj rep i n) :=
  (splice_spec hw hr hc ..).2.1

theorem step_act {obj rep : AStr} (hw : WF obj) (hr : WF rep) (hc : CoherentPair obj rep)
    {i : Nat} (n : Nat) (hi : i ≤ obj.len) :
    (∀ k, k < i → act (stepObj obj rep i n) k = act obj k) ∧
    (∀ q, q < rep.len → texts (act (stepObj obj rep i n) (i + q)) = texts (act rep q)) ∧
    (∀ k, i + n + k < obj.len →
      texts (act (stepObj obj rep i n) (i + rep.len + k)) = texts (act obj (i + n + k))) := by
  have hA := C04.getSlice_wf obj hw none (some (i : Int))
  have hT := C04.getSlice_wf obj hw (some ((i + n : Nat) : Int)) none
  have hH := head_wf hw hr hc i
  have hl := head_len obj hi
  unfold stepObj
  refine ⟨fun k hk => ?_, fun q hq => ?_, fun k hk => ?_⟩
  · rw [C05.iadd_left _ _ hH hT (by rw [iadd_len, hl]; omega),
      C05.iadd_left _ _ hA hr (by rw [hl]; exact hk), getSlice_to_act obj hw _ (by rw [hl]; exact hk)]
  · rw [C05.iadd_left _ _ hH hT (by rw [iadd_len, hl]; omega)]
    have := C05.iadd_right _ _ hA hr hq
    rwa [hl] at this
  · have hk' : k < (obj.getSlice (some ((i + n : Nat) : Int)) none).len := by rw [tail_len]; omega
    have h1 := C05.iadd_right _ _ hH hT hk'
    rw [iadd_len, hl] at h1
    rw [h1, getSlice_from_act obj hw _ none hk']

theorem step_styled {obj rep : AStr} (hw : WF obj) (hr : WF rep) (hc : CoherentPair obj rep)
    {i n : Nat} (hi : i + n ≤ obj.len) :
    styled (stepObj obj rep i n) = (styled obj).take i ++ styled rep ++ (styled obj).drop (i + n) := by
  unfold stepObj
  rw [styled_iadd (head_wf hw hr hc i) (C04.getSlice_wf obj hw _ _),
    styled_iadd (C04.getSlice_wf obj hw _ _) hr, styled_head obj hw (by omega),
    styled_tail obj hw hi]

/-! ## the value inserted for a plain-`str` replacement -/

/-- `AnsiString(raw, settings)` for a `raw` without ESC: the plain text with fresh copies of the
    settings `ts` applied over all of it -/
def strRep (raw : Str) (nid : Nat) (ts : List Str) : AStr :=
  ({ s := raw, fmts := [] } : AStr).applyFormatting (freshSettings nid ts) none none true

theorem repOf_str (raw : Str) (h : '\x1b' ∉ raw) (obj : AStr) {i : Nat} (hi : i < obj.len) (nid : Nat) :
    repOf (.str raw) obj i nid = (strRep raw nid (texts (act obj i)), nid + (act obj i).length) := by
  have ha : obj.ansiSettingsAt (i : Int) = act obj i := by
    unfold AStr.ansiSettingsAt act
    have : (0 : Int) ≤ (i : Int) ∧ (i : Int) < (obj.len : Int) := by omega
    rw [if_pos this]
    rfl
  unfold repOf
  simp only [C02.parse_plain raw nid h, ha]
  rfl

theorem strRep_wf (raw : Str) (nid : Nat) (ts : List Str) : WF (strRep raw nid ts) :=
  apply_fresh_wf (ParseTextL.wf_plain raw) (ParseTextL.freshFrom_plain raw nid) ts none none true

theorem strRep_s (raw : Str) (nid : Nat) (ts : List Str) : (strRep raw nid ts).s = raw :=
  apply_text _ _ _ _ _

theorem strRep_ids (raw : Str) (nid : Nat) (ts : List Str) :
    ∀ s ∈ (strRep raw nid ts).fmts.settings, nid ≤ s.id ∧ s.id < nid + ts.length := by
  intro s hs
  rcases apply_fresh_settings (ParseTextL.wf_plain raw) (ParseTextL.freshFrom_plain raw nid) ts
    none none true s hs with h | h
  · cases h
  · exact h

theorem strRep_coherent {obj : AStr} {nid : Nat} (hf : FreshFrom obj nid) (raw : Str) (ts : List Str) :
    CoherentPair obj (strRep raw nid ts) :=
  fun s hs t ht e => absurd (e ▸ hf s hs) (Nat.not_lt.mpr (strRep_ids raw nid ts t ht).1)

theorem strRep_act (raw : Str) (nid : Nat) (ts : List Str) {q : Nat} (hq : q < raw.length) :
    act (strRep raw nid ts) q = freshSettings nid ts := by
  have := apply_top_until { s := raw, fmts := [] } (freshSettings nid ts) none none
    (st := 0) (en := raw.length) rfl rfl (ParseTextL.wf_plain raw)
    (freshSettings_fresh _ nid ts (ParseTextL.freshFrom_plain raw nid)) q (Nat.zero_le _) hq
    (by show 0 < raw.length; omega) (fun k _ _ => by simp [Fmts.getD, Fmts.get?])
  unfold strRep
  rw [this]
  simp [act, active, activeFrom]

theorem strRep_styled (raw : Str) (nid : Nat) (ts : List Str) :
    styled (strRep raw nid ts) = raw.map (fun c => (c, ts)) := by
  apply List.ext_getElem?
  intro k
  rw [styled_getElem?, strRep_s, List.getElem?_map]
  cases hc : raw[k]? with
  | none => rfl
  | some c =>
    rw [strRep_act raw nid ts (List.getElem?_eq_some_iff.mp hc).1, texts_freshSettings]

/-! ## the loop -/

theorem replaceLoop_succ' (old : Str) (new : AStr.Repl) (fuel : Nat) (obj : AStr) (count : Int)
    (i nid : Nat) :
    AStr.replaceLoop old new (fuel + 1) obj count (some i) nid =
      if count = 0 then obj
      else
        AStr.replaceLoop old new fuel (stepObj obj (repOf new obj i nid).1 i old.length)
          (if count > 0 then count - 1 else count)
          (Py.find (stepObj obj (repOf new obj i nid).1 i old.length).s old
            (i + new.advance + (if old.isEmpty then 1 else 0)))
          (repOf new obj i nid).2 :=
  replaceLoop_succ old new fuel obj count i nid

/-- What one iteration has to do for the loop to follow a specification on styled lists: keep the
    invariant `Inv` of the loop state `(obj, nid)`, and put `newf st` in the place of the match at `i`,
    `st` being the texts its first character reports. -/
def StepOk (old : Str) (new : AStr.Repl) (newf : List Str → List SChar) (Inv : AStr → Nat → Prop) : Prop :=
  ∀ obj nid i, Inv obj nid → i + old.length ≤ obj.len →
    Inv (stepObj obj (repOf new obj i nid).1 i old.length) (repOf new obj i nid).2 ∧
    styled (stepObj obj (repOf new obj i nid).1 i old.length) =
      (styled obj).take i ++ newf (texts (act obj i)) ++ (styled obj).drop (i + old.length)

theorem occ_split (rest : List SChar) (old : Str) (k : Nat)
    (hocc : old.isPrefixOf ((rest.map (·.1)).drop k) = true) :
    ∃ pre mid post, rest = pre ++ mid ++ post ∧ pre.length = min k rest.length ∧
      mid.map (·.1) = old := by
  obtain ⟨t, ht⟩ := List.isPrefixOf_iff_prefix.mp hocc
  refine ⟨rest.take k, (rest.drop k).take old.length, rest.drop (k + old.length), ?_,
    List.length_take, ?_⟩
  · rw [List.append_assoc, ← List.drop_drop, List.take_append_drop, List.take_append_drop]
  · rw [List.map_take, List.map_drop, ← ht]
    exact List.take_left' rfl

/-- The loop of `replace` for a non-empty `old` on STYLED lists, against any function `R` that
    satisfies the three "first occurrence" equations, for any invariant `Inv` of the loop state
    `(obj, nid)` that one iteration preserves.  `newf st` is the styled replacement inserted for a
    match whose first character reports the texts `st`.  The state of the induction: `done` is the
    part of `styled obj` the scan has passed, `rest` what it still has to search. -/
theorem replaceLoop_styled (old : Str) (hold : old ≠ []) (new : AStr.Repl)
    (newf : List Str → List SChar) (Inv : AStr → Nat → Prop)
    (hadv : ∀ st, (newf st).length = new.advance)
    (hstep : StepOk old new newf Inv)
    (R : List SChar → Int → List SChar)
    (E1 : ∀ s c, (∀ j, j ≤ s.length → old.isPrefixOf ((s.map (·.1)).drop j) = false) → R s c = s)
    (E2 : ∀ s, R s 0 = s)
    (E3 : ∀ pre m mid post c, c ≠ 0 → (m :: mid).map (·.1) = old →
        (∀ j, j < pre.length →
          old.isPrefixOf (((pre ++ (m :: mid) ++ post).map (·.1)).drop j) = false) →
        R (pre ++ (m :: mid) ++ post) c = pre ++ newf m.2 ++ R post (if c > 0 then c - 1 else c))
    (fuel : Nat) : ∀ (obj : AStr) (count : Int) (nid : Nat) (done rest : List SChar),
      Inv obj nid → styled obj = done ++ rest → rest.length + 1 ≤ fuel →
      (∃ nid', Inv (AStr.replaceLoop old new fuel obj count
        ((Py.find (rest.map (·.1)) old 0).map (· + done.length)) nid) nid') ∧
      styled (AStr.replaceLoop old new fuel obj count
        ((Py.find (rest.map (·.1)) old 0).map (· + done.length)) nid) = done ++ R rest count := by
  induction fuel with
  | zero => intro _ _ _ _ rest _ _ h; omega
  | succ fuel ih =>
    intro obj count nid done rest hinv hobj hfuel
    cases hf : Py.find (rest.map (·.1)) old 0 with
    | none =>
      rw [Option.map_none, replaceLoop_none]
      refine ⟨⟨nid, hinv⟩, ?_⟩
      rw [hobj, E1 rest count (fun j hj =>
        (find_none_iff _ _ _).mp hf j (by rw [List.length_map]; exact hj) (Nat.zero_le _))]
    | some k =>
      obtain ⟨hk, -, hocc, hfirst⟩ := (find_some_iff _ _ _ _).mp hf
      rw [Option.map_some, replaceLoop_succ']
      by_cases hc : count = 0
      · rw [if_pos hc]
        exact ⟨⟨nid, hinv⟩, by rw [hobj, hc, E2]⟩
      · rw [if_neg hc]
        obtain ⟨pre, mid, post, rfl, hpre, hmid⟩ := occ_split rest old k hocc
        rw [List.length_map] at hk
        rw [Nat.min_eq_left hk] at hpre
        subst hpre
        cases mid with
        | nil => exact absurd hmid.symm hold
        | cons m mid =>
          have hol : old.length = (m :: mid).length := by rw [← hmid, List.length_map]
          have hobj' : styled obj = (done ++ pre) ++ ((m :: mid) ++ post) := by
            rw [hobj, List.append_assoc, List.append_assoc]
          have hi : pre.length + done.length = (done ++ pre).length := by
            rw [List.length_append, Nat.add_comm]
          -- the first matched character carries the texts it reports in `obj`
          have hm : m.2 = texts (act obj (pre.length + done.length)) := styled_snd (by
            rw [hobj', hi, List.getElem?_append_right (Nat.le_refl _), Nat.sub_self]
            rfl)
          obtain ⟨hinv', hsty⟩ := hstep obj nid (pre.length + done.length) hinv (by
            rw [← styled_length, hobj', hi, hol]
            simp only [List.length_append]
            omega)
          replace hsty := hsty.trans (show _ = (done ++ pre ++ newf m.2) ++ post by
            rw [← hm, hobj', hi, List.take_left, hol, ← List.length_append, ← List.append_assoc,
              List.drop_left])
          have hfrom : pre.length + done.length + new.advance + (if old.isEmpty = true then 1 else 0) =
              ((done ++ pre ++ newf m.2).map (·.1)).length + 0 := by
            have : old.isEmpty = false := by
              cases old with
              | nil => exact absurd rfl hold
              | cons _ _ => rfl
            rw [this, ← hadv m.2]
            simp only [List.length_map, List.length_append, Bool.false_eq_true, if_false]
            omega
          rw [← styled_map_fst, hsty, List.map_append, hfrom, find_append_skip, List.length_map]
          obtain ⟨hI, hS⟩ := ih _ (if count > 0 then count - 1 else count) _ (done ++ pre ++ newf m.2)
            post hinv' hsty (by simp only [List.length_append, List.length_cons] at hfuel; omega)
          refine ⟨hI, ?_⟩
          rw [hS, E3 pre m mid post count hc hmid (fun j hj => hfirst j hj (Nat.zero_le _)),
            List.append_assoc, List.append_assoc, List.append_assoc]

/-! ### the two kinds of replacement value -/

/-- loop invariant for an AnsiString/AnsiStr replacement `v` -/
def InvA (v : AStr) (obj : AStr) (_nid : Nat) : Prop := WF obj ∧ CoherentPair obj v

/-- loop invariant for a plain-`str` replacement: all identities of `obj` are below the counter -/
def InvS (obj : AStr) (nid : Nat) : Prop := WF obj ∧ FreshFrom obj nid

theorem astr_step (old : Str) (v : AStr) (hv : WF v) :
    StepOk old (.astr v) (fun _ => styled v) (InvA v) := by
  intro obj nid i ⟨hw, hc⟩ hi
  show InvA v (stepObj obj v i old.length) nid ∧ styled (stepObj obj v i old.length) = _
  refine ⟨⟨step_wf hw hv hc i _, ?_⟩, step_styled hw hv hc hi⟩
  intro s hs t ht e
  rcases step_settings_sub hw hv hc i _ s hs with h | h
  · exact hc s h t ht e
  · exact hv.coherent s h t ht e

theorem str_step (old : Str) (hold : old ≠ []) (raw : Str) (hraw : '\x1b' ∉ raw) :
    StepOk old (.str raw) (fun st => raw.map (fun c => (c, st))) InvS := by
  intro obj nid i ⟨hw, hfr⟩ hi
  have hol : 0 < old.length := List.length_pos_iff.mpr hold
  rw [repOf_str raw hraw obj (by omega) nid]
  simp only
  have hr := strRep_wf raw nid (texts (act obj i))
  have hids := strRep_ids raw nid (texts (act obj i))
  have hc := strRep_coherent hfr raw (texts (act obj i))
  refine ⟨⟨step_wf hw hr hc i _, ?_⟩, ?_⟩
  · intro s hs
    rcases step_settings_sub hw hr hc i _ s hs with h | h
    · have := hfr s h; omega
    · have := (hids s h).2
      simp only [texts, List.length_map] at this
      exact this
  · rw [step_styled hw hr hc hi, strRep_styled]

end ReplaceL
