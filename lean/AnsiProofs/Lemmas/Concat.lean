import AnsiProofs.Lemmas.Basic
/-
  For property C05 (`__iadd__`, `__add__`, `join`).  `retarget` computes a `map`/`filter`; the fold of
  `iaddStep` read through `Fmts.toFun` gives the table of `a` below the seam, `seamPoint a b` at it, and beyond
  it the change points of `b` with their stop markers re-targeted by the pairs `seamPend a b` still pending
  (`pendAt`); then induction on the character index with a relation (`RInv`) between the active lists of
  `a.iadd b` and of `b`.
-/

namespace ConcatL

open Fmts

/-! ## `retarget` computes a `map` and a `filter` -/

/-- the pairs `(find[i], repl[i])` of `__iadd__`: an object of `b` that was merged away at the seam and the
    object of `a` that stands for it, for as long as the stop marker of the former is still to come -/
abbrev Pend := List (Setting × Setting)

/-- a stop marker of `b` after re-targeting: the object of `a` if `r` is pending, else `r` itself -/
def subst (P : Pend) (r : Setting) : Setting :=
  match P.find? (fun p => p.1.id == r.id) with
  | some p => p.2
  | none => r

/-- what is still pending behind a point with the stop markers `rem`: a pair is used up by its stop marker -/
def pendFilter (P : Pend) (rem : List Setting) : Pend := P.filter (fun p => !hasId rem p.1.id)

/-- the positions of identity `i` in `inl`: one row of `_find_settings_references` (`findRefs_cons`) -/
def matchIdx (inl : List Setting) (i : Nat) : List Nat :=
  (inl.zipIdx.filter (fun p => p.1.id == i)).map (·.2)

theorem findRefs_nil (inl : List Setting) : findRefs [] inl = [] := rfl

theorem findRefs_cons (f : Setting) (find inl : List Setting) :
    findRefs (f :: find) inl =
      (matchIdx inl f.id).map (fun i2 => (0, i2)) ++ (findRefs find inl).map (fun p => (p.1 + 1, p.2)) := by
  unfold findRefs matchIdx
  rw [List.zipIdx_cons, List.map_cons, List.flatten_cons, List.zipIdx_succ]
  simp only [List.map_map, List.map_flatten]
  congr 2
  apply List.map_congr_left
  intro x _
  simp [Function.comp, List.map_map]

/-- the body of `for find_idx, add_idx in reversed(finds)`: the stop marker at `add_idx` becomes
    `repl[find_idx]`, and pair `find_idx` leaves both lists -/
def rtStep (acc : List Setting × List Setting × List Setting) (fa : Nat × Nat) :
    List Setting × List Setting × List Setting :=
  match acc.2.2[fa.1]? with
  | some r => (acc.1.set fa.2 r, acc.2.1.eraseIdx fa.1, acc.2.2.eraseIdx fa.1)
  | none => acc

theorem retarget_def (rem find repl : List Setting) (finds : List (Nat × Nat)) :
    retarget rem find repl finds = finds.reverse.foldl rtStep (rem, find, repl) := rfl

theorem rtStep_succ (rem find repl : List Setting) (f r : Setting) (p : Nat × Nat) :
    rtStep (rem, f :: find, r :: repl) (p.1 + 1, p.2) =
      ((rtStep (rem, find, repl) p).1, f :: (rtStep (rem, find, repl) p).2.1,
        r :: (rtStep (rem, find, repl) p).2.2) := by
  simp only [rtStep, List.getElem?_cons_succ]
  cases repl[p.1]? <;> simp

theorem rtStep_shift (L : List (Nat × Nat)) (rem find repl : List Setting) (f r : Setting) :
    (L.map (fun p => (p.1 + 1, p.2))).foldl rtStep (rem, f :: find, r :: repl) =
      ((L.foldl rtStep (rem, find, repl)).1, f :: (L.foldl rtStep (rem, find, repl)).2.1,
        r :: (L.foldl rtStep (rem, find, repl)).2.2) := by
  induction L generalizing rem find repl with
  | nil => rfl
  | cons p L ih => rw [List.map_cons, List.foldl_cons, rtStep_succ, ih, List.foldl_cons]

theorem filter_zipIdx_none (off : Nat) (l : List Setting) (i : Nat) (h : ∀ x ∈ l, x.id ≠ i) :
    (l.zipIdx off).filter (fun p => p.1.id == i) = [] :=
  List.filter_eq_nil_iff.mpr fun p hp => by simpa using h p.1 (List.fst_mem_of_mem_zipIdx hp)

/-- so the inner loop of `retarget` runs at most once per pending pair -/
theorem matchIdx_cases (inl : List Setting) (i : Nat) (hn : (inl.map (·.id)).Nodup) :
    (matchIdx inl i = [] ∧ ∀ x ∈ inl, x.id ≠ i) ∨
    (∃ l1 x l2, inl = l1 ++ x :: l2 ∧ x.id = i ∧ (∀ y ∈ l1, y.id ≠ i) ∧ (∀ y ∈ l2, y.id ≠ i) ∧
      matchIdx inl i = [l1.length]) := by
  by_cases h : ∀ x ∈ inl, x.id ≠ i
  · left
    refine ⟨?_, h⟩
    rw [matchIdx, filter_zipIdx_none 0 inl i h]
    rfl
  · right
    obtain ⟨x, hx, hxi⟩ : ∃ x ∈ inl, x.id = i := by simpa using h
    obtain ⟨l1, l2, rfl⟩ := List.append_of_mem hx
    rw [List.map_append, List.map_cons] at hn
    obtain ⟨_, hn2, hn3⟩ := List.nodup_append.mp hn
    have h1 : ∀ y ∈ l1, y.id ≠ i := fun y hy e =>
      hn3 y.id (List.mem_map_of_mem hy) x.id List.mem_cons_self (e.trans hxi.symm)
    have h2 : ∀ y ∈ l2, y.id ≠ i := fun y hy e =>
      (List.nodup_cons.mp hn2).1 (by rw [hxi, ← e]; exact List.mem_map_of_mem hy)
    refine ⟨l1, x, l2, rfl, hxi, h1, h2, ?_⟩
    have hx' : (x.id == i) = true := by simpa using hxi
    rw [matchIdx, List.zipIdx_append, List.filter_append, filter_zipIdx_none 0 l1 i h1, List.zipIdx_cons,
      List.filter_cons, if_pos hx', filter_zipIdx_none _ l2 i h2, Nat.zero_add]
    rfl

theorem subst_nil (r : Setting) : subst [] r = r := rfl

theorem subst_cons_ne (f r : Setting) (P : Pend) (x : Setting) (h : x.id ≠ f.id) :
    subst ((f, r) :: P) x = subst P x := by
  have : ¬ (f.id == x.id) = true := by simpa using fun e => h e.symm
  simp [subst, this]

theorem map_subst_cons_ne (f r : Setting) (P : Pend) (l : List Setting) (h : ∀ y ∈ l, y.id ≠ f.id) :
    l.map (subst ((f, r) :: P)) = l.map (subst P) :=
  List.map_congr_left fun y hy => subst_cons_ne f r P y (h y hy)

theorem subst_cons_eq (f r : Setting) (P : Pend) (x : Setting) (h : x.id = f.id) :
    subst ((f, r) :: P) x = r := by
  simp [subst, h]

/-- processing `finds` in reverse keeps the indices of the pairs not yet deleted valid -/
theorem retarget_eq (rem find repl : List Setting) (hl : find.length = repl.length)
    (hn : (rem.map (·.id)).Nodup) :
    retarget rem find repl (findRefs find rem) =
      (rem.map (subst (find.zip repl)), (pendFilter (find.zip repl) rem).map (·.1),
        (pendFilter (find.zip repl) rem).map (·.2)) := by
  induction find generalizing repl with
  | nil =>
    cases repl with
    | nil =>
      have : subst [] = id := funext fun _ => rfl
      simp [retarget_def, findRefs_nil, pendFilter, this]
    | cons _ _ => simp at hl
  | cons f find ih =>
    cases repl with
    | nil => simp at hl
    | cons r repl =>
      have hl' : find.length = repl.length := by simpa using hl
      have ih' := ih repl hl'
      rw [retarget_def] at ih'
      rw [retarget_def, findRefs_cons, List.reverse_append, List.foldl_append, ← List.map_reverse,
        rtStep_shift, ih', List.zip_cons_cons]
      rcases matchIdx_cases rem f.id hn with ⟨h1, h2⟩ | ⟨l1, x, l2, e, hx, h1, h2, h3⟩
      · rw [h1]
        have hno : hasId rem f.id = false := hasId_false_iff.mpr h2
        simp only [List.map_nil, List.reverse_nil, List.foldl_nil, pendFilter, List.filter_cons, hno]
        simp only [Bool.not_false, if_true, List.map_cons]
        rw [map_subst_cons_ne f r _ rem h2]
      · rw [h3]
        have hyes : hasId rem f.id = true := hasId_iff.mpr ⟨x, by simp [e], hx⟩
        simp only [List.map_cons, List.map_nil, List.reverse_cons, List.reverse_nil, List.nil_append,
          List.foldl_cons, List.foldl_nil, pendFilter, List.filter_cons, hyes]
        simp only [rtStep, List.getElem?_cons_zero, List.eraseIdx_cons_zero, Bool.not_true]
        simp only [Bool.false_eq_true, if_false]
        subst e
        rw [List.map_append, List.map_append, List.map_cons, List.map_cons, subst_cons_eq f r _ x hx,
          map_subst_cons_ne f r _ l1 h1, map_subst_cons_ne f r _ l2 h2]
        simp

/-! ## the loop of `__iadd__` in the function representation -/

namespace Fmts
theorem toFun_nil (k : Nat) : toFun [] k = {} := rfl
end Fmts

theorem pendFilter_nil (P : Pend) : pendFilter P [] = P := by
  simp [pendFilter, hasId]

/-- pending pairs after the keys `< k` of `g` have been processed -/
def pendAt (g : Nat → Point) (P : Pend) : Nat → Pend
  | 0 => P
  | k + 1 => pendFilter (pendAt g P k) (g k).rem

theorem pendAt_skip (g : Nat → Point) (P : Pend) {lo k : Nat} (hle : lo ≤ k)
    (h : ∀ j, lo ≤ j → j < k → (g j).rem = []) : pendAt g P k = pendAt g P lo := by
  induction hle with
  | refl => rfl
  | @step k hk ih =>
    show pendFilter (pendAt g P k) (g k).rem = _
    rw [h k hk (Nat.lt_succ_self k), pendFilter_nil, ih (fun j h1 h2 => h j h1 (Nat.lt_succ_of_lt h2))]

theorem pendAt_one {g : Nat → Point} (P : Pend) (h : (g 0).rem = []) : pendAt g P 1 = P := by
  show pendFilter P (g 0).rem = P
  rw [h, pendFilter_nil]

theorem zip_map_fst_snd {α β : Type} (l : List (α × β)) : (l.map (·.1)).zip (l.map (·.2)) = l := by
  induction l with
  | nil => rfl
  | cons x l ih => simp [ih]

theorem iaddStep_none (n : Nat) (actPrev later : List Setting) (f : Fmts) (P : Pend) (k : Nat) (p : Point)
    (hnone : f.get? (k + n) = none) (hn : (p.rem.map (·.id)).Nodup) :
    iaddStep n actPrev later { f := f, find := P.map (·.1), repl := P.map (·.2) } (k, p) =
      { f := f.set (k + n) { add := p.add, rem := p.rem.map (subst P) },
        find := (pendFilter P p.rem).map (·.1), repl := (pendFilter P p.rem).map (·.2) } := by
  simp only [iaddStep, hnone]
  rw [retarget_eq _ _ _ (by simp) hn, zip_map_fst_snd]

/-- The loop over the keys `≥ lo` of the incoming table, none of which is in the table yet.  `g` is the
    whole incoming table as a function and `P0` the pairs pending after its key 0, so that the state and
    the result are expressed by `pendAt g P0` whatever part `L` of the table is still to come. -/
theorem iadd_fold_tail (n : Nat) (actPrev later : List Setting) (g : Nat → Point) (P0 : Pend) (L : Fmts) :
    ∀ (lo : Nat) (f : Fmts), SortedKeys L → Fmts.LB lo L → (∀ k, lo ≤ k → Fmts.toFun L k = g k) →
      (∀ kp ∈ L, (kp.2.rem.map (·.id)).Nodup) → SortedKeys f → Fmts.UB (lo + n) f →
      ∀ r, r = (L.foldl (iaddStep n actPrev later)
          { f := f, find := (pendAt g P0 lo).map (·.1), repl := (pendAt g P0 lo).map (·.2) }).f →
      SortedKeys r ∧
      (∀ j, j < lo + n → Fmts.toFun r j = Fmts.toFun f j) ∧
      (∀ k, lo ≤ k → Fmts.toFun r (k + n) =
        { add := (g k).add, rem := (g k).rem.map (subst (pendAt g P0 k)) }) ∧
      (∀ kp ∈ r, kp ∈ f ∨ ∃ kp' ∈ L, kp.1 = kp'.1 + n) := by
  induction L with
  | nil =>
    intro lo f _ _ hg _ hs hub r hr
    subst hr
    refine ⟨hs, fun _ _ => rfl, ?_, fun kp h => Or.inl h⟩
    intro k hk
    rw [← hg k hk]
    exact Fmts.toFun_of_UB hub (by omega)
  | cons kp L ih =>
    intro lo f hsL hlb hg hrem hs hub r hr
    obtain ⟨k1, p1⟩ := kp
    have hk1 : lo ≤ k1 := hlb (k1, p1) (by simp)
    have hgk1 : g k1 = p1 := by rw [← hg k1 hk1, Fmts.toFun_cons_self]
    have hgap : ∀ j, lo ≤ j → j < k1 → g j = {} := by
      intro j h1 h2
      rw [← hg j h1, Fmts.toFun_cons_lt _ _ h2]
    have hpend : pendAt g P0 lo = pendAt g P0 k1 :=
      (pendAt_skip g P0 hk1 (fun j h1 h2 => by rw [hgap j h1 h2])).symm
    have hnext : pendFilter (pendAt g P0 k1) p1.rem = pendAt g P0 (k1 + 1) := by rw [← hgk1]; rfl
    rw [List.foldl_cons, hpend, iaddStep_none n actPrev later f _ k1 p1 (Fmts.get?_of_UB hub (by omega))
      (hrem (k1, p1) (by simp)), hnext] at hr
    obtain ⟨r1, r2, r3, r4⟩ := ih (k1 + 1) _ (Fmts.sorted_tail hsL) (Fmts.LB_tail_of_sorted hsL)
      (fun k hk => by rw [← hg k (by omega), Fmts.toFun_cons_gt _ _ hk])
      (fun kp h => hrem kp (by simp [h])) (Fmts.sorted_set hs _ _)
      (Fmts.UB_set (Fmts.UB_mono hub (by omega)) (by omega) _) r hr
    refine ⟨r1, ?_, ?_, ?_⟩
    · intro j hj
      rw [r2 j (by omega), Fmts.toFun_set hs, if_neg (by omega)]
    · intro k hk
      by_cases hlt : k < k1
      · rw [r2 (k + n) (by omega), Fmts.toFun_set hs, if_neg (by omega), Fmts.toFun_of_UB hub (by omega),
          hgap k hk hlt]
        rfl
      · by_cases he : k = k1
        · rw [he, r2 (k1 + n) (by omega), Fmts.toFun_set hs, if_pos rfl, hgk1]
        · exact r3 k (by omega)
    · intro kp hkp
      rcases r4 kp hkp with h | ⟨kp', h1, h2⟩
      · rcases Fmts.mem_set h with e | e
        · right; exact ⟨(k1, p1), by simp, by rw [e]⟩
        · left; exact e
      · right; exact ⟨kp', by simp [h1], h2⟩

/-! ## the seam step -/

/-- the seam-merge test of `__iadd__` (without the `key == shift` conjunct) -/
def mergeCond (actPrev later : List Setting) (mine : Point) (add : List Setting) : Bool :=
  !add.isEmpty && (texts (mine.rem.take add.length) == texts add) &&
    sameRefs (actPrev.filter (fun s => hasId (mine.rem.take add.length) s.id)) (mine.rem.take add.length) &&
    !((mine.rem.take add.length).any (fun s => hasId later s.id))

theorem iaddStep_some (n : Nat) (actPrev later : List Setting) (st : IaddSt) (k : Nat) (p mine : Point)
    (hget : st.f.get? (k + n) = some mine) :
    iaddStep n actPrev later st (k, p) =
      if k = 0 ∧ mergeCond actPrev later mine p.add = true then
        (if (!({ mine with rem := mine.rem.drop p.add.length } : Point).nonEmpty) = true ∧ p.rem.isEmpty = true then
          { f := st.f.erase (k + n), find := p.add, repl := mine.rem.take p.add.length }
        else
          { f := st.f.set (k + n) { add := mine.add, rem := mine.rem.drop p.add.length ++ p.rem },
            find := p.add, repl := mine.rem.take p.add.length })
      else { st with f := st.f.set (k + n) { add := mine.add ++ p.add, rem := mine.rem ++ p.rem } } := by
  simp only [iaddStep, hget]
  have e : k + n = n ↔ k = 0 := by omega
  simp only [mergeCond, Bool.and_eq_true, e, and_assoc]

theorem mergeCond_empty (actPrev later add : List Setting) : mergeCond actPrev later {} add = false := by
  cases add with
  | nil => simp [mergeCond]
  | cons x l => simp [mergeCond, texts]

theorem mergeCond_length {actPrev later : List Setting} {mine : Point} {add : List Setting}
    (h : mergeCond actPrev later mine add = true) : (mine.rem.take add.length).length = add.length := by
  simp only [mergeCond, Bool.and_eq_true] at h
  have h2 := h.1.1.2
  have := congrArg List.length (eq_of_beq h2)
  simpa [texts] using this

/-- `self.ansi_settings_at(shift - 1)` -/
def seamPrev (a : AStr) : List Setting := if a.len = 0 then [] else active a.fmts (a.len - 1)

/-- start markers of `b` at keys other than 0 -/
def laterAdds (b : AStr) : List Setting :=
  (b.fmts.filter (fun kp => kp.1 != 0)).flatMap (fun kp => kp.2.add)

abbrev seamMerges (a b : AStr) : Bool :=
  mergeCond (seamPrev a) (laterAdds b) (Fmts.toFun a.fmts a.len) (Fmts.toFun b.fmts 0).add

/-- the pairs (start marker of `b` at 0, stop marker of `a` at its end that takes its place) the seam leaves -/
def seamPend (a b : AStr) : Pend :=
  if seamMerges a b then
    (Fmts.toFun b.fmts 0).add.zip ((Fmts.toFun a.fmts a.len).rem.take (Fmts.toFun b.fmts 0).add.length)
  else []

def seamPoint (a b : AStr) : Point :=
  if seamMerges a b then
    { add := [], rem := (Fmts.toFun a.fmts a.len).rem.drop (Fmts.toFun b.fmts 0).add.length }
  else { add := (Fmts.toFun b.fmts 0).add, rem := (Fmts.toFun a.fmts a.len).rem }

theorem seam_merged {a b : AStr} (h : seamMerges a b = true) :
    seamPend a b = (Fmts.toFun b.fmts 0).add.zip
      ((Fmts.toFun a.fmts a.len).rem.take (Fmts.toFun b.fmts 0).add.length) ∧
    seamPoint a b = { add := [], rem := (Fmts.toFun a.fmts a.len).rem.drop (Fmts.toFun b.fmts 0).add.length } := by
  unfold seamPend seamPoint
  rw [if_pos h, if_pos h]
  exact ⟨rfl, rfl⟩

theorem seam_unmerged {a b : AStr} (h : seamMerges a b = false) :
    seamPend a b = [] ∧
    seamPoint a b = { add := (Fmts.toFun b.fmts 0).add, rem := (Fmts.toFun a.fmts a.len).rem } := by
  unfold seamPend seamPoint
  rw [h]
  exact ⟨rfl, rfl⟩

theorem mem_seamPoint {a b : AStr} {s : Setting} :
    (s ∈ (seamPoint a b).add → s ∈ (Fmts.toFun b.fmts 0).add) ∧
    (s ∈ (seamPoint a b).rem → s ∈ (Fmts.toFun a.fmts a.len).rem) := by
  unfold seamPoint
  split
  · exact ⟨fun h => (nomatch h), List.mem_of_mem_drop⟩
  · exact ⟨id, id⟩

/-- a table after `d[n] = q`, or after `del d[n]` (read `q = {}`) -/
theorem Fmts.upd_facts {f0 f1 : Fmts} (hs : SortedKeys f0) {hi n : Nat} (hub : Fmts.UB hi f0) (hn : n < hi)
    {q : Point} (h : f1 = f0.set n q ∨ (f1 = f0.erase n ∧ q = {})) :
    SortedKeys f1 ∧ Fmts.UB hi f1 ∧ (∀ j, Fmts.toFun f1 j = if j = n then q else Fmts.toFun f0 j) ∧
      (∀ kp ∈ f1, kp ∈ f0 ∨ kp.1 = n) := by
  rcases h with rfl | ⟨rfl, rfl⟩
  · exact ⟨Fmts.sorted_set hs _ _, Fmts.UB_set hub hn _, Fmts.toFun_set hs _ _,
      fun kp h => (Fmts.mem_set h).elim (fun e => Or.inr (by rw [e])) Or.inl⟩
  · exact ⟨Fmts.sorted_erase hs _, Fmts.UB_erase hub _, Fmts.toFun_erase hs _,
      fun kp h => Or.inl (Fmts.mem_erase h)⟩

/-- the round of the incoming key 0: it leaves `seamPoint` at the seam and `seamPend` pending -/
theorem seam_step (a b : AStr) (hrem : (Fmts.toFun b.fmts 0).rem = [])
    (hadd : (Fmts.toFun a.fmts a.len).add = []) :
    ∃ f1, iaddStep a.len (seamPrev a) (laterAdds b) { f := a.fmts, find := [], repl := [] }
        (0, Fmts.toFun b.fmts 0) =
        { f := f1, find := (seamPend a b).map (·.1), repl := (seamPend a b).map (·.2) } ∧
      (f1 = a.fmts.set a.len (seamPoint a b) ∨ (f1 = a.fmts.erase a.len ∧ seamPoint a b = {})) := by
  generalize hp0 : Fmts.toFun b.fmts 0 = p0 at hrem
  obtain ⟨add0, rem0⟩ := p0
  simp only at hrem
  subst hrem
  have hm0 : seamMerges a b = mergeCond (seamPrev a) (laterAdds b) (Fmts.toFun a.fmts a.len) add0 := by
    unfold seamMerges; rw [hp0]
  cases hget : a.fmts.get? (0 + a.len) with
  | none =>
    rw [Nat.zero_add] at hget
    have hA : Fmts.toFun a.fmts a.len = {} := Fmts.toFun_of_get?_none hget
    rw [hA, mergeCond_empty] at hm0
    obtain ⟨e1, e2⟩ := seam_unmerged hm0
    rw [hp0, hA] at e2
    refine ⟨a.fmts.set a.len ⟨add0, []⟩, ?_, Or.inl (by rw [e2])⟩
    rw [e1]
    simp [iaddStep, hget, findRefs_nil, retarget]
  | some mine =>
    have hA : Fmts.toFun a.fmts a.len = mine := Fmts.toFun_of_get?_some (by simpa using hget)
    rw [hA] at hadd hm0
    rw [iaddStep_some _ _ _ _ _ _ mine hget]
    simp only [true_and, Nat.zero_add, List.isEmpty_nil, and_true, List.append_nil]
    cases hm : mergeCond (seamPrev a) (laterAdds b) mine add0 with
    | false =>
      obtain ⟨e1, e2⟩ := seam_unmerged (hm0.trans hm)
      rw [hp0, hA] at e2
      rw [if_neg Bool.false_ne_true, e1]
      refine ⟨_, rfl, Or.inl ?_⟩
      rw [e2, hadd, List.nil_append]
    | true =>
      obtain ⟨e1, e2⟩ := seam_merged (hm0.trans hm)
      rw [hp0, hA] at e1 e2
      simp only at e1 e2
      have hlen : (mine.rem.take add0.length).length = add0.length := mergeCond_length hm
      have hP : (seamPend a b).map (·.1) = add0 ∧ (seamPend a b).map (·.2) = mine.rem.take add0.length := by
        rw [e1]
        exact ⟨List.map_fst_zip (by omega), List.map_snd_zip (by omega)⟩
      rw [if_pos rfl, hP.1, hP.2]
      split
      · rename_i hc
        refine ⟨_, rfl, Or.inr ⟨rfl, ?_⟩⟩
        have : mine.rem.drop add0.length = [] := by simpa [Point.nonEmpty, hadd] using hc
        rw [e2, this]
      · refine ⟨_, rfl, Or.inl ?_⟩
        rw [e2, hadd]

/-! ## characterisation of `AStr.iadd` -/

theorem iadd_fmts (a b : AStr) :
    (a.iadd b).fmts =
      (b.fmts.foldl (iaddStep a.len (seamPrev a) (laterAdds b)) { f := a.fmts, find := [], repl := [] }).f := by
  have : ({ a with s := a.s ++ b.s } : AStr).ansiSettingsAt ((a.len : Int) - 1) = seamPrev a := by
    unfold seamPrev
    by_cases h : a.len = 0
    · simp [AStr.ansiSettingsAt, h]
    · rw [if_neg h, show (a.len : Int) - 1 = ((a.len - 1 : Nat) : Int) by omega]
      exact ansiSettingsAt_nat _ _ (by simp only [AStr.len, List.length_append] at h ⊢; omega)
  exact congrArg (fun A => (b.fmts.foldl (iaddStep a.len A (laterAdds b)) ⟨a.fmts, [], []⟩).f) this

theorem LB_one_or_head {f : Fmts} (hs : SortedKeys f) : Fmts.LB 1 f ∨ ∃ p rest, f = (0, p) :: rest := by
  match f with
  | [] => exact .inl fun _ h => nomatch h
  | (0, p) :: rest => exact .inr ⟨p, rest, rfl⟩
  | (k + 1, p) :: rest =>
    refine .inl fun x hx => ?_
    rcases List.mem_cons.mp hx with rfl | e
    · exact Nat.succ_pos k
    · exact Nat.le_trans (Nat.succ_pos k) (Nat.le_of_lt (Fmts.sorted_head_lt hs x e))

theorem iadd_char (a b : AStr) (hsa : SortedKeys a.fmts) (hba : ∀ kp ∈ a.fmts, kp.1 ≤ a.len)
    (hAn : (Fmts.toFun a.fmts a.len).add = []) (hsb : SortedKeys b.fmts)
    (hremb : ∀ kp ∈ b.fmts, (kp.2.rem.map (·.id)).Nodup) (hB0 : (Fmts.toFun b.fmts 0).rem = []) :
    SortedKeys (a.iadd b).fmts ∧
    (∀ j, j < a.len → Fmts.toFun (a.iadd b).fmts j = Fmts.toFun a.fmts j) ∧
    Fmts.toFun (a.iadd b).fmts a.len = seamPoint a b ∧
    (∀ k, 1 ≤ k → Fmts.toFun (a.iadd b).fmts (k + a.len) =
      { add := (Fmts.toFun b.fmts k).add,
        rem := (Fmts.toFun b.fmts k).rem.map (subst (pendAt (Fmts.toFun b.fmts) (seamPend a b) k)) }) ∧
    (∀ kp ∈ (a.iadd b).fmts, kp ∈ a.fmts ∨ ∃ kp' ∈ b.fmts, kp.1 = kp'.1 + a.len) := by
  have hub : Fmts.UB (1 + a.len) a.fmts := fun kp h => by have := hba kp h; omega
  have hp1 := pendAt_one (seamPend a b) hB0
  rcases LB_one_or_head hsb with hlb | ⟨p0, rest, hb⟩
  · -- no point of `b` at key 0: no round at the seam
    have hB : Fmts.toFun b.fmts 0 = {} := Fmts.toFun_of_LB hlb (by omega)
    have hm : seamMerges a b = false := by unfold seamMerges; rw [hB]; rfl
    obtain ⟨e1, e2⟩ := seam_unmerged hm
    obtain ⟨r1, r2, r3, r4⟩ := iadd_fold_tail a.len (seamPrev a) (laterAdds b) (Fmts.toFun b.fmts)
      (seamPend a b) b.fmts 1 a.fmts hsb hlb (fun _ _ => rfl) hremb hsa hub (a.iadd b).fmts
      (by rw [iadd_fmts, hp1, e1]; rfl)
    refine ⟨r1, fun j hj => r2 j (by omega), ?_, r3, r4⟩
    rw [r2 a.len (by omega), e2, hB, ← hAn]
  · have hsb' := hsb
    rw [hb] at hsb'
    have hB : Fmts.toFun b.fmts 0 = p0 := by rw [hb, Fmts.toFun_cons_self]
    obtain ⟨f1, hst, hf1⟩ := seam_step a b hB0 hAn
    obtain ⟨s1, s2, s3, s4⟩ := Fmts.upd_facts hsa hub (by omega) hf1
    obtain ⟨r1, r2, r3, r4⟩ := iadd_fold_tail a.len (seamPrev a) (laterAdds b) (Fmts.toFun b.fmts)
      (seamPend a b) rest 1 f1 (Fmts.sorted_tail hsb') (Fmts.LB_tail_of_sorted hsb')
      (fun k hk => by rw [hb, Fmts.toFun_cons_gt _ _ hk])
      (fun kp h => hremb kp (by rw [hb]; simp [h])) s1 s2 (a.iadd b).fmts
      (by rw [iadd_fmts, hp1, ← hst, hB, hb, List.foldl_cons])
    refine ⟨r1, ?_, ?_, r3, ?_⟩
    · intro j hj
      rw [r2 j (by omega), s3, if_neg (by omega)]
    · rw [r2 a.len (by omega), s3, if_pos rfl]
    · intro kp hkp
      rcases r4 kp hkp with h | ⟨kp', h1, h2⟩
      · rcases s4 kp h with h' | h'
        · left; exact h'
        · right; exact ⟨(0, p0), by rw [hb]; simp, by simp [h']⟩
      · right; exact ⟨kp', by rw [hb]; simp [h1], h2⟩

/-! ## erasing under an identity-compatible relabelling -/

abbrev ids (l : List Setting) : List Nat := l.map (·.id)

theorem subst_id_congr (Q : Pend) {y r : Setting} (h : y.id = r.id) : (subst Q y).id = (subst Q r).id := by
  unfold subst
  rw [h]
  cases List.find? (fun p => p.1.id == r.id) Q with
  | none => exact h
  | some p => rfl

theorem subst_of_not_mem (Q : Pend) (t : Setting) (h : ∀ p ∈ Q, p.1.id ≠ t.id) : subst Q t = t := by
  unfold subst
  have : List.find? (fun p => p.1.id == t.id) Q = none := by
    rw [List.find?_eq_none]
    intro p hp; simpa using h p hp
  rw [this]

theorem subst_cases (Q : Pend) (y : Setting) :
    subst Q y = y ∨ ∃ p ∈ Q, p.1.id = y.id ∧ subst Q y = p.2 := by
  unfold subst
  cases h : List.find? (fun p => p.1.id == y.id) Q with
  | none => left; rfl
  | some p =>
    right
    refine ⟨p, List.mem_of_find?_eq_some h, ?_, rfl⟩
    simpa using List.find?_some h

theorem subst_pendFilter (Q : Pend) (rem : List Setting) (y : Setting) (h : hasId rem y.id = false) :
    subst (pendFilter Q rem) y = subst Q y := by
  have : (pendFilter Q rem).find? (fun p => p.1.id == y.id) = Q.find? (fun p => p.1.id == y.id) := by
    rw [pendFilter, List.find?_filter]
    congr 1
    funext p
    by_cases e : p.1.id = y.id
    · simp [e, h]
    · simp [e]
  unfold subst
  rw [this]

theorem mem_pendFilter {Q : Pend} {rem : List Setting} {p : Setting × Setting} :
    p ∈ pendFilter Q rem ↔ p ∈ Q ∧ hasId rem p.1.id = false := by
  simp [pendFilter, List.mem_filter]

theorem eraseId_map (σ : Setting → Setting) (r : Setting) (Y : List Setting)
    (hσ : ∀ y, y.id = r.id → (σ y).id = (σ r).id)
    (hn : (ids (Y.map σ)).Nodup) (hh : hasId Y r.id = true) :
    eraseId (Y.map σ) (σ r).id = (eraseId Y r.id).map σ := by
  induction Y with
  | nil => simp [hasId] at hh
  | cons y0 Y ih =>
    have hn' : (σ y0).id ∉ ids (Y.map σ) ∧ (ids (Y.map σ)).Nodup := by
      simpa [ids] using hn
    rw [List.map_cons, eraseId_cons, eraseId_cons]
    by_cases h0 : y0.id = r.id
    · simp [h0, hσ y0 h0]
    · have hh' : hasId Y r.id = true := by
        rcases hasId_iff.mp hh with ⟨x, hx, hxi⟩
        rcases List.mem_cons.mp hx with e | e
        · subst e; exact absurd hxi h0
        · exact hasId_iff.mpr ⟨x, e, hxi⟩
      have h1 : ¬ (σ y0).id = (σ r).id := by
        intro e
        rcases hasId_iff.mp hh' with ⟨x, hx, hxi⟩
        apply hn'.1
        refine List.mem_map.mpr ⟨σ x, List.mem_map.mpr ⟨x, hx, rfl⟩, ?_⟩
        rw [e, hσ x hxi]
      simp only [h0, h1, if_false, List.map_cons]
      rw [ih hn'.2 hh']

theorem foldl_eraseId_map (σ : Setting → Setting) (hσ : ∀ y r : Setting, y.id = r.id → (σ y).id = (σ r).id)
    (rem : List Setting) : ∀ (Y : List Setting), (ids (Y.map σ)).Nodup → stepOk Y rem = true →
      eraseAll (Y.map σ) (rem.map σ) = (eraseAll Y rem).map σ ∧
      stepOk (Y.map σ) (rem.map σ) = true := by
  induction rem with
  | nil => intro Y _ _; exact ⟨rfl, rfl⟩
  | cons r rem ih =>
    intro Y hn hok
    rw [stepOk_cons, Bool.and_eq_true] at hok
    have e := eraseId_map σ r Y (fun y h => hσ y r h) hn hok.1
    have hn' : (ids ((eraseId Y r.id).map σ)).Nodup :=
      nodup_sublist ((eraseId_sublist Y r.id).map σ) hn
    obtain ⟨i1, i2⟩ := ih (eraseId Y r.id) hn' hok.2
    refine ⟨?_, ?_⟩
    · rw [List.map_cons, eraseAll_cons, e, i1, eraseAll_cons]
    · rw [List.map_cons, stepOk_cons, Bool.and_eq_true, e]
      refine ⟨?_, i2⟩
      rcases hasId_iff.mp hok.1 with ⟨x, hx, hxi⟩
      exact hasId_iff.mpr ⟨σ x, List.mem_map.mpr ⟨x, hx, rfl⟩, hσ x r hxi⟩

theorem step_rel (Q : Pend) (Y : List Setting) (p : Point)
    (hYn : (ids Y).Nodup)
    (hY' : (ids (stepPoint Y p)).Nodup)
    (hok : stepOk Y p.rem = true)
    (hXn : (ids (Y.map (subst Q))).Nodup)
    (hact : ∀ q ∈ Q, hasId Y q.1.id = true)
    (hadd : ∀ q ∈ Q, ∀ t ∈ p.add, q.2.id ≠ t.id) :
    stepPoint (Y.map (subst Q)) ⟨p.add, p.rem.map (subst Q)⟩ =
        (stepPoint Y p).map (subst (pendFilter Q p.rem)) ∧
      (ids ((stepPoint Y p).map (subst (pendFilter Q p.rem)))).Nodup ∧
      (∀ q ∈ pendFilter Q p.rem, hasId (stepPoint Y p) q.1.id = true) ∧
      stepOk (Y.map (subst Q)) (p.rem.map (subst Q)) = true := by
  obtain ⟨add, rem⟩ := p
  obtain ⟨e1, e2⟩ := foldl_eraseId_map (subst Q) (fun y r h => subst_id_congr Q h) rem Y hXn hok
  simp only [stepPoint_def] at hY' ⊢
  rw [e1]
  generalize hY2 : eraseAll Y rem = Y2 at hY' ⊢
  have hmem : ∀ y, y ∈ Y2 ↔ y ∈ Y ∧ hasId rem y.id = false := fun y => hY2 ▸ mem_eraseAll hYn
  obtain ⟨_, hadn, _, hdis⟩ := nodup_append hY'
  -- pending pairs stay active
  have hact' : ∀ q ∈ pendFilter Q rem, ∃ x ∈ Y2, x.id = q.1.id := by
    intro q hq
    obtain ⟨hqQ, hqr⟩ := mem_pendFilter.mp hq
    obtain ⟨x, hx, hxi⟩ := hasId_iff.mp (hact q hqQ)
    exact ⟨x, (hmem x).mpr ⟨hx, hxi ▸ hqr⟩, hxi⟩
  have hm1 : Y2.map (subst Q) = Y2.map (subst (pendFilter Q rem)) :=
    List.map_congr_left (fun y hy => (subst_pendFilter Q rem y ((hmem y).mp hy).2).symm)
  have hm2 : add.map (subst (pendFilter Q rem)) = add := by
    have : ∀ t ∈ add, subst (pendFilter Q rem) t = t := by
      intro t ht
      apply subst_of_not_mem
      intro q hq e
      obtain ⟨x, hx, hxi⟩ := hact' q hq
      exact hasId_false_iff.mp (hdis t ht) x hx (hxi.trans e)
    exact (List.map_congr_left this).trans (List.map_id' add)
  have hfinal : (Y2 ++ add).map (subst (pendFilter Q rem)) = Y2.map (subst Q) ++ add := by
    rw [List.map_append, hm2, hm1]
  refine ⟨hfinal.symm, ?_, ?_, e2⟩
  · rw [hfinal]
    refine nodup_append_of (nodup_sublist ((hY2 ▸ eraseAll_sublist Y rem).map _) hXn) hadn fun t ht => ?_
    refine hasId_false_iff.mpr fun x hx e => ?_
    obtain ⟨y, hy, rfl⟩ := List.mem_map.mp hx
    -- a re-targeted object of `a` does not start again in `b`; the others are as in `b`
    rcases subst_cases Q y with h | ⟨q, hq, _, h⟩
    · rw [h] at e
      exact hasId_false_iff.mp (hdis t ht) y hy e
    · rw [h] at e
      exact hadd q hq t ht e
  · intro q hq
    obtain ⟨x, hx, hxi⟩ := hact' q hq
    exact hasId_iff.mpr ⟨x, List.mem_append_left _ hx, hxi⟩

/-! ## the replay in the function representation -/

def prevAct (g : Nat → Point) (k : Nat) : List Setting := runFrom g [] 0 k

theorem prevAct_eq_before : prevAct = before := rfl

theorem prevAct_succ (g : Nat → Point) (k : Nat) : prevAct g (k + 1) = stepPoint (prevAct g k) (g k) :=
  before_succ g k

theorem prevAct_congr {g g' : Nat → Point} (k : Nat) (h : ∀ j, j < k → g j = g' j) :
    prevAct g k = prevAct g' k :=
  before_congr k h

theorem prevAct_succ_eq_activeFn (g : Nat → Point) (k : Nat) : prevAct g (k + 1) = activeFn g k := rfl

theorem toFun_mem_of_ne {f : Fmts} {k : Nat} (h : Fmts.toFun f k ≠ {}) : (k, Fmts.toFun f k) ∈ f := by
  cases hg : f.get? k with
  | none => exact absurd (Fmts.toFun_of_get?_none hg) h
  | some p =>
    rw [Fmts.toFun_of_get?_some hg]
    exact Fmts.mem_of_get?_eq_some hg

theorem mem_laterAdds {b : AStr} {k : Nat} {t : Setting} (hk : k ≠ 0)
    (ht : t ∈ (Fmts.toFun b.fmts k).add) : t ∈ laterAdds b := by
  have hne : Fmts.toFun b.fmts k ≠ {} := by
    intro e; rw [e] at ht; simp at ht
  unfold laterAdds
  rw [List.mem_flatMap]
  refine ⟨(k, Fmts.toFun b.fmts k), ?_, ht⟩
  rw [List.mem_filter]
  exact ⟨toFun_mem_of_ne hne, by simpa using hk⟩

theorem stepOk_nil_cur {rem : List Setting} (h : stepOk [] rem = true) : rem = [] := by
  cases rem with
  | nil => rfl
  | cons r rest => simp [stepOk_cons, hasId] at h

/-! ### pointwise consequences of `WF` -/

theorem wf_act {x : AStr} (h : WF x) (i : Nat) : active x.fmts i = prevAct (Fmts.toFun x.fmts) (i + 1) :=
  active_eq_activeFn x.fmts h.sorted i

theorem wf_ok_at {x : AStr} (h : WF x) (j : Nat) :
    stepOk (prevAct (Fmts.toFun x.fmts) j) (Fmts.toFun x.fmts j).rem = true :=
  (replayOk_iff h.sorted).mp h.ok j

theorem wf_nodup_prev {x : AStr} (h : WF x) (j : Nat) : (ids (prevAct (Fmts.toFun x.fmts) j)).Nodup := by
  cases j with
  | zero => exact List.nodup_nil
  | succ j => rw [← wf_act h j]; exact h.nodup j

theorem wf_active_ge {a : AStr} (ha : WF a) {j : Nat} (hj : a.len ≤ j) : active a.fmts j = [] := by
  rw [active, activeFrom_of_bound ha.bound hj]
  exact ha.closed

theorem wf_closed_ge {x : AStr} (h : WF x) (j : Nat) (hj : x.len ≤ j) :
    prevAct (Fmts.toFun x.fmts) (j + 1) = [] := by
  rw [← wf_act h j]
  exact wf_active_ge h hj

theorem wf_rem0 {x : AStr} (h : WF x) : (Fmts.toFun x.fmts 0).rem = [] :=
  stepOk_nil_cur (wf_ok_at h 0)

theorem wf_rem_nodup {x : AStr} (h : WF x) (j : Nat) : (ids (Fmts.toFun x.fmts j).rem).Nodup :=
  ((stepOk_iff (wf_nodup_prev h j) _).mp (wf_ok_at h j)).2

theorem wf_rem_nodup_mem {x : AStr} (h : WF x) : ∀ kp ∈ x.fmts, (kp.2.rem.map (·.id)).Nodup := by
  intro kp hkp
  rw [← Fmts.toFun_of_mem h.sorted (show (kp.1, kp.2) ∈ x.fmts from hkp)]
  exact wf_rem_nodup h kp.1

theorem wf_addEnd {x : AStr} (h : WF x) : (Fmts.toFun x.fmts x.len).add = [] := by
  cases hg : x.fmts.get? x.len with
  | none => rw [Fmts.toFun_of_get?_none hg]
  | some p =>
    rw [Fmts.toFun_of_get?_some hg]
    exact h.noAddEnd (x.len, p) (Fmts.mem_of_get?_eq_some hg) rfl

theorem wf_mem_prev_settings {x : AStr} {j : Nat} {y : Setting}
    (hy : y ∈ prevAct (Fmts.toFun x.fmts) j) : y ∈ x.fmts.settings := by
  obtain ⟨i, hi⟩ := mem_before hy
  exact Fmts.mem_settings_of_toFun (Or.inl hi)

/-! ## list lemmas for the seam -/

theorem seam_filter (S R : List Setting) (k : Nat) (hn : (ids S).Nodup) (hok : stepOk S R = true)
    (hcl : eraseAll S R = []) :
    eraseAll S (R.drop k) = S.filter (fun s => hasId (R.take k) s.id) := by
  rw [eraseAll_eq_filter hn]
  rw [eraseAll_eq_filter hn] at hcl
  have hall : ∀ s ∈ S, hasId R s.id = true := by
    intro s hs
    have := List.filter_eq_nil_iff.mp hcl s hs
    simpa using this
  obtain ⟨_, _, hdis, _⟩ := nodup_append (l₁ := R.take k) (l₂ := R.drop k)
    (by rw [List.take_append_drop]; exact ((stepOk_iff hn R).mp hok).2)
  apply List.filter_congr
  intro s hs
  have h1 := hall s hs
  rw [← List.take_append_drop k R, hasId_append] at h1
  cases hH : hasId (R.take k) s.id with
  | true =>
    obtain ⟨x, hx, hxi⟩ := hasId_iff.mp hH
    rw [← hxi, hdis x hx]
    rfl
  | false =>
    rw [hH, Bool.false_or] at h1
    rw [h1]
    rfl

theorem eq_of_ids_eq : ∀ (l1 l2 : List Setting), ids l1 = ids l2 →
    (∀ s ∈ l1, ∀ t ∈ l2, s.id = t.id → s.txt = t.txt) → l1 = l2
  | [], [], _, _ => rfl
  | [], _ :: _, h, _ => nomatch h
  | _ :: _, [], h, _ => nomatch h
  | ⟨i, t⟩ :: l1, ⟨i', t'⟩ :: l2, h, hc => by
    injection h with h1 h2
    have h3 : t = t' := hc _ (by simp) _ (by simp) h1
    rw [show i = i' from h1, h3, eq_of_ids_eq l1 l2 h2 (fun s hs t ht => hc s (by simp [hs]) t (by simp [ht]))]

theorem map_subst_zip : ∀ (l h : List Setting), (ids l).Nodup → l.length = h.length →
    l.map (subst (l.zip h)) = h
  | [], [], _, _ => rfl
  | [], _ :: _, _, hl => by simp at hl
  | _ :: _, [], _, hl => by simp at hl
  | x :: l, y :: h, hn, hl => by
    have hn' : x.id ∉ ids l ∧ (ids l).Nodup := by simpa [ids] using hn
    rw [List.zip_cons_cons, List.map_cons, subst_cons_eq x y _ x rfl,
      map_subst_cons_ne x y _ l (fun z hz e => hn'.1 (e ▸ List.mem_map_of_mem hz)),
      map_subst_zip l h hn'.2 (by simpa using hl)]

theorem zip_txt : ∀ (l h : List Setting), texts h = texts l → ∀ p ∈ l.zip h, p.1.txt = p.2.txt
  | [], _, _, p, hp => by simp at hp
  | _ :: _, [], _, p, hp => by simp at hp
  | x :: l, y :: h, ht, p, hp => by
    simp only [texts, List.map_cons, List.cons.injEq] at ht
    rw [List.zip_cons_cons] at hp
    rcases List.mem_cons.mp hp with e | e
    · rw [e]; exact ht.1.symm
    · exact zip_txt l h ht.2 p e

theorem mem_seamPend {a b : AStr} {p : Setting × Setting} (hp : p ∈ seamPend a b) :
    p.1.txt = p.2.txt ∧ p.1 ∈ (Fmts.toFun b.fmts 0).add ∧
      p.2 ∈ (Fmts.toFun a.fmts a.len).rem ∧ hasId (laterAdds b) p.2.id = false := by
  unfold seamPend at hp
  split at hp
  · rename_i hm
    simp only [seamMerges, mergeCond, Bool.and_eq_true] at hm
    obtain ⟨⟨⟨_, ht⟩, _⟩, hlater⟩ := hm
    have hp2 := (List.of_mem_zip hp).2
    refine ⟨zip_txt _ _ (eq_of_beq ht) p hp, (List.of_mem_zip hp).1, List.mem_of_mem_take hp2, ?_⟩
    rw [Bool.not_eq_true', List.any_eq_false] at hlater
    simpa using hlater p.2 hp2
  · cases hp

theorem pendAt_subset {g : Nat → Point} {P : Pend} {k : Nat} {p : Setting × Setting}
    (h : p ∈ pendAt g P k) : p ∈ P := by
  induction k with
  | zero => exact h
  | succ k ih => exact ih (mem_pendFilter.mp h).1

theorem texts_map_subst (Q : Pend) (Y : List Setting)
    (h : ∀ p ∈ Q, ∀ y ∈ Y, p.1.id = y.id → p.2.txt = y.txt) : texts (Y.map (subst Q)) = texts Y := by
  unfold texts
  rw [List.map_map]
  apply List.map_congr_left
  intro y hy
  rcases subst_cases Q y with e | ⟨p, hp, hpi, e⟩
  · simp [e]
  · simp only [Function.comp, e]
    exact h p hp y hy hpi

/-! ## the relation between the replays of `a.iadd b` and `b` -/

/-- relation between the replay of `a.iadd b` just before key `a.len + m` and that of `b` before `m` -/
structure RInv (B : Nat → Point) (P0 : Pend) (X : List Setting) (m : Nat) : Prop where
  eq    : X = (prevAct B m).map (subst (pendAt B P0 m))
  nodup : (ids X).Nodup
  act   : ∀ p ∈ pendAt B P0 m, hasId (prevAct B m) p.1.id = true

theorem seamPrev_eq {a : AStr} (ha : WF a) : seamPrev a = prevAct (Fmts.toFun a.fmts) a.len := by
  unfold seamPrev
  by_cases h : a.len = 0
  · rw [if_pos h, h]; rfl
  · rw [if_neg h, wf_act ha]
    congr 1
    omega

theorem seam_facts {a : AStr} (ha : WF a) :
    (ids (seamPrev a)).Nodup ∧
    stepOk (seamPrev a) (Fmts.toFun a.fmts a.len).rem = true ∧
    eraseAll (seamPrev a) (Fmts.toFun a.fmts a.len).rem = [] := by
  rw [seamPrev_eq ha]
  refine ⟨wf_nodup_prev ha _, wf_ok_at ha _, ?_⟩
  have := wf_closed_ge ha a.len (Nat.le_refl _)
  rw [prevAct_succ, stepPoint_def, wf_addEnd ha, List.append_nil] at this
  exact this

/-- if the merge happens, `a`'s objects stay active in the place of the start markers of `b` with the same
    text, and these pairs are pending -/
theorem seam_base {a b : AStr} (ha : WF a) (hb : WF b) :
    RInv (Fmts.toFun b.fmts) (seamPend a b) (stepPoint (seamPrev a) (seamPoint a b)) 1 ∧
    stepOk (seamPrev a) (seamPoint a b).rem = true := by
  obtain ⟨hSn, hSok, hScl⟩ := seam_facts ha
  have hrem0 := wf_rem0 hb
  have hprev1 : prevAct (Fmts.toFun b.fmts) 1 = (Fmts.toFun b.fmts 0).add := by
    rw [prevAct_succ, stepPoint_def, hrem0]; rfl
  have hinv1 : ∀ X, X = (Fmts.toFun b.fmts 0).add.map (subst (seamPend a b)) → (ids X).Nodup →
      RInv (Fmts.toFun b.fmts) (seamPend a b) X 1 := by
    intro X h1 h2
    have hpend1 := pendAt_one (seamPend a b) hrem0
    refine ⟨?_, h2, ?_⟩
    · rw [hpend1, hprev1]; exact h1
    · rw [hpend1, hprev1]
      exact fun p hp => hasId_iff.mpr ⟨p.1, (mem_seamPend hp).2.1, rfl⟩
  have hadd0n : (ids (Fmts.toFun b.fmts 0).add).Nodup := by
    rw [← hprev1]; exact wf_nodup_prev hb 1
  have hS : ∀ s ∈ seamPrev a, s ∈ a.fmts.settings := by
    intro s hs
    rw [seamPrev_eq ha] at hs
    exact wf_mem_prev_settings hs
  have hR : ∀ t ∈ (Fmts.toFun a.fmts a.len).rem, t ∈ a.fmts.settings :=
    fun t ht => Fmts.mem_settings_of_toFun (Or.inr ht)
  cases hm : seamMerges a b with
  | true =>
    obtain ⟨hP0, hCn⟩ := seam_merged hm
    rw [hP0] at hinv1 ⊢
    rw [hCn]
    have hlen := mergeCond_length hm
    simp only [seamMerges, mergeCond, Bool.and_eq_true] at hm
    obtain ⟨⟨_, href⟩, _⟩ := hm
    generalize seamPrev a = S at *
    generalize (Fmts.toFun a.fmts a.len).rem = R at *
    generalize (Fmts.toFun b.fmts 0).add = add0 at *
    have hfilt : S.filter (fun s => hasId (R.take add0.length) s.id) = R.take add0.length :=
      eq_of_ids_eq _ _ (eq_of_beq href) fun s hs t ht e =>
        ha.coherent s (hS s (List.mem_filter.mp hs).1) t (hR t (List.mem_of_mem_take ht)) e
    have hX : stepPoint S ⟨[], R.drop add0.length⟩ = R.take add0.length := by
      rw [stepPoint_def, List.append_nil, seam_filter S R add0.length hSn hSok hScl, hfilt]
    rw [hX]
    refine ⟨hinv1 _ ?_ ?_, ?_⟩
    · rw [map_subst_zip _ _ hadd0n hlen.symm]
    · rw [← hfilt]
      exact List.Nodup.sublist (List.filter_sublist.map _) hSn
    · obtain ⟨o1, o2⟩ := (stepOk_iff hSn R).mp hSok
      exact (stepOk_iff hSn _).mpr ⟨fun r hr => o1 r (List.mem_of_mem_drop hr),
        List.Nodup.sublist ((List.drop_sublist _ _).map _) o2⟩
  | false =>
    obtain ⟨hP0, hCn⟩ := seam_unmerged hm
    rw [hP0] at hinv1 ⊢
    rw [hCn]
    have hX : stepPoint (seamPrev a) ⟨(Fmts.toFun b.fmts 0).add, (Fmts.toFun a.fmts a.len).rem⟩ =
        (Fmts.toFun b.fmts 0).add := by
      rw [stepPoint_def, hScl]; rfl
    rw [hX]
    have : subst [] = id := funext fun _ => rfl
    exact ⟨hinv1 _ (by rw [this, List.map_id]) hadd0n, hSok⟩

theorem rinv_step {b : AStr} (hb : WF b) (P0 : Pend)
    (hlater : ∀ p ∈ P0, hasId (laterAdds b) p.2.id = false) (m : Nat) (hm : 1 ≤ m)
    (X : List Setting) (h : RInv (Fmts.toFun b.fmts) P0 X m) :
    RInv (Fmts.toFun b.fmts) P0
      (stepPoint X { add := (Fmts.toFun b.fmts m).add,
                     rem := (Fmts.toFun b.fmts m).rem.map (subst (pendAt (Fmts.toFun b.fmts) P0 m)) }) (m + 1) ∧
    stepOk X ((Fmts.toFun b.fmts m).rem.map (subst (pendAt (Fmts.toFun b.fmts) P0 m))) = true := by
  have hadd : ∀ p ∈ pendAt (Fmts.toFun b.fmts) P0 m, ∀ t ∈ (Fmts.toFun b.fmts m).add, p.2.id ≠ t.id := by
    intro p hp t ht e
    have h1 := hlater p (pendAt_subset hp)
    rw [hasId_false_iff] at h1
    exact h1 t (mem_laterAdds (by omega) ht) e.symm
  obtain ⟨s1, s2, s3, s4⟩ := step_rel (pendAt (Fmts.toFun b.fmts) P0 m) (prevAct (Fmts.toFun b.fmts) m)
    (Fmts.toFun b.fmts m) (wf_nodup_prev hb m) (by rw [← prevAct_succ]; exact wf_nodup_prev hb _)
    (wf_ok_at hb m) (h.eq ▸ h.nodup) h.act hadd
  rw [← prevAct_succ] at s1 s2 s3
  rw [← h.eq] at s1 s4
  exact ⟨⟨s1, s1 ▸ s2, s3⟩, s4⟩

/-- all that C05 reads off `a.iadd b` -/
theorem iadd_sem {a b : AStr} (ha : WF a) (hb : WF b) :
    ∃ P0 : Pend,
      SortedKeys (a.iadd b).fmts ∧
      (∀ j, j < a.len → Fmts.toFun (a.iadd b).fmts j = Fmts.toFun a.fmts j) ∧
      (∀ kp ∈ (a.iadd b).fmts, kp ∈ a.fmts ∨ ∃ kp' ∈ b.fmts, kp.1 = kp'.1 + a.len) ∧
      (∀ s ∈ (Fmts.toFun (a.iadd b).fmts a.len).add, s ∈ (Fmts.toFun b.fmts 0).add) ∧
      (∀ s ∈ (Fmts.toFun (a.iadd b).fmts a.len).rem, s ∈ (Fmts.toFun a.fmts a.len).rem) ∧
      (∀ k, 1 ≤ k → Fmts.toFun (a.iadd b).fmts (k + a.len) =
        { add := (Fmts.toFun b.fmts k).add,
          rem := (Fmts.toFun b.fmts k).rem.map (subst (pendAt (Fmts.toFun b.fmts) P0 k)) }) ∧
      (∀ p ∈ P0, p.1.txt = p.2.txt ∧ p.1 ∈ (Fmts.toFun b.fmts 0).add ∧
        p.2 ∈ (Fmts.toFun a.fmts a.len).rem ∧ hasId (laterAdds b) p.2.id = false) ∧
      (∀ m, 1 ≤ m → RInv (Fmts.toFun b.fmts) P0 (prevAct (Fmts.toFun (a.iadd b).fmts) (a.len + m)) m) ∧
      (∀ j, stepOk (prevAct (Fmts.toFun (a.iadd b).fmts) j) (Fmts.toFun (a.iadd b).fmts j).rem = true) := by
  obtain ⟨c1, c2, cs, c3, c4⟩ := iadd_char a b ha.sorted ha.bound (wf_addEnd ha) hb.sorted
    (wf_rem_nodup_mem hb) (wf_rem0 hb)
  have hprevn : prevAct (Fmts.toFun (a.iadd b).fmts) a.len = seamPrev a := by
    rw [seamPrev_eq ha]; exact prevAct_congr _ c2
  obtain ⟨b1, b2⟩ := seam_base ha hb
  have hlater : ∀ p ∈ seamPend a b, hasId (laterAdds b) p.2.id = false := fun p hp => (mem_seamPend hp).2.2.2
  rw [← cs] at b1 b2
  have hinv : ∀ m, 1 ≤ m →
      RInv (Fmts.toFun b.fmts) (seamPend a b) (prevAct (Fmts.toFun (a.iadd b).fmts) (a.len + m)) m := by
    intro m hm
    obtain ⟨d, rfl⟩ := Nat.exists_eq_add_of_le' hm
    induction d with
    | zero => rw [Nat.zero_add, prevAct_succ, hprevn]; exact b1
    | succ d ih =>
      have := (rinv_step hb _ hlater (d + 1) (by omega) _ (ih (by omega))).1
      rw [← c3 (d + 1) (by omega), Nat.add_comm (d + 1) a.len, ← prevAct_succ] at this
      exact this
  refine ⟨seamPend a b, c1, c2, c4, ?_, ?_, c3, fun p => mem_seamPend, hinv, ?_⟩
  · intro s hs
    rw [cs] at hs
    exact mem_seamPoint.1 hs
  · intro s hs
    rw [cs] at hs
    exact mem_seamPoint.2 hs
  · intro j
    rcases Nat.lt_trichotomy j a.len with hj | rfl | hj
    · rw [prevAct_congr j (fun i hi => c2 i (by omega)), c2 j hj]
      exact wf_ok_at ha j
    · rw [hprevn]; exact b2
    · obtain ⟨m, rfl⟩ := Nat.exists_eq_add_of_lt hj
      rw [Nat.add_assoc, Nat.add_comm a.len, c3 _ (by omega), Nat.add_comm (m + 1)]
      exact (rinv_step hb _ hlater (m + 1) (by omega) _ (hinv _ (by omega))).2

def CoherentPair (a b : AStr) : Prop :=
  ∀ s ∈ a.fmts.settings, ∀ t ∈ b.fmts.settings, s.id = t.id → s.txt = t.txt

instance (a b : AStr) : Decidable (CoherentPair a b) := by unfold CoherentPair; infer_instance

theorem iadd_len (a b : AStr) : (a.iadd b).len = a.len + b.len := by
  simp [AStr.iadd, AStr.len]

theorem mem_iadd_settings {a b : AStr} (ha : WF a) (hb : WF b) {s : Setting}
    (hs : s ∈ (a.iadd b).fmts.settings) : s ∈ a.fmts.settings ∨ s ∈ b.fmts.settings := by
  obtain ⟨P0, c1, c2, _, c4, c5, c6, c7, _, _⟩ := iadd_sem ha hb
  obtain ⟨k, hk⟩ := (Fmts.mem_settings_iff c1 s).mp hs
  by_cases h1 : k < a.len
  · rw [c2 k h1] at hk
    exact Or.inl (Fmts.mem_settings_of_toFun hk)
  · by_cases h2 : k = a.len
    · subst h2
      rcases hk with hk | hk
      · exact Or.inr (Fmts.mem_settings_of_toFun (Or.inl (c4 s hk)))
      · exact Or.inl (Fmts.mem_settings_of_toFun (Or.inr (c5 s hk)))
    · have e : k = (k - a.len) + a.len := by omega
      rw [e, c6 _ (by omega)] at hk
      rcases hk with hk | hk
      · exact Or.inr (Fmts.mem_settings_of_toFun (Or.inl hk))
      · simp only [List.mem_map] at hk
        obtain ⟨r, hr, hrs⟩ := hk
        rcases subst_cases (pendAt (Fmts.toFun b.fmts) P0 (k - a.len)) r with h | ⟨p, hp, _, h⟩
        · rw [h] at hrs; rw [← hrs]
          exact Or.inr (Fmts.mem_settings_of_toFun (Or.inr hr))
        · rw [h] at hrs; rw [← hrs]
          exact Or.inl (Fmts.mem_settings_of_toFun (Or.inr (c7 p (pendAt_subset hp)).2.2.1))

end ConcatL
