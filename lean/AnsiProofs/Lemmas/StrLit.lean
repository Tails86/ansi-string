import Lean.Elab.Tactic.Simproc
/-
  String literals in the kernel.  The model's text type is `List Char` and its literals are written
  `"…".toList`.  Evaluating `String.toList` on a literal in the kernel decodes UTF-8, which is slow; the
  kernel's own reading of a literal is `String.ofList [chars]`, so the simproc rewrites with
  `String.toList_ofList` and gets the character list without any evaluation.
-/

open Lean Meta Simp in
simproc strLitToList (String.toList _) := fun e => do
  let_expr String.toList s := e | return .continue
  let .lit (.strVal str) := s | return .continue
  let listExpr := toExpr str.toList
  let pf := mkApp (mkConst ``String.toList_ofList) listExpr
  return .done { expr := listExpr, proof? := some pf }
