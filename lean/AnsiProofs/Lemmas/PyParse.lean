import AnsiProofs.Lemmas.Obj
import AnsiModel.Generated.Methods.ParsePrims
/-
  Beside `Lemmas/Obj.lean`, for the `*_is_code` theorems over the translated parser, setting and tokenizer
  methods (`harness/pyparse.py`): what the primitives of `Generated/Methods/ParsePrims.lean` do on the table's
  separator and on a `while`.
-/

namespace PyParseL

/-- `fn.setup_seq[0]` -/
theorem getIdx_head (m : Nat) (ms : List Nat) : Py.getIdx ((m :: ms).map Int.ofNat) (0 : Int) = .ok (m : Int) :=
  ObjL.getIdx_zero _ _

theorem split_sep (s : Str) : PyParse.split s Gen.ansiSep = .ok (Py.splitOnChar ';' s) := by
  rw [ansiSep_eq]; rfl

theorem split1_sep (s : Str) : PyParse.split1 s Gen.ansiSep = .ok (PyParse.splitFirst ';' s) := by
  rw [ansiSep_eq]; rfl

section while_
variable {σ : Type} {cond : σ → Except Exc Bool} {body : σ → Except Exc σ} {st st' : σ}

theorem while_done (h : cond st = .ok false) (fuel : Nat) : PyParse.whileM fuel cond body st = .ok st := by
  cases fuel <;> simp [PyParse.whileM, h, ObjL.bind_ok]

theorem while_step (hc : cond st = .ok true) (hb : body st = .ok st') (fuel : Nat) :
    PyParse.whileM (fuel + 1) cond body st = PyParse.whileM fuel cond body st' := by
  simp [PyParse.whileM, hc, hb, ObjL.bind_ok]

end while_

end PyParseL
