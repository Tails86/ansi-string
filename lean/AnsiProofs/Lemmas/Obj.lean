import AnsiProofs.Lemmas.Basic
import AnsiModel.Obj
/-
  What the primitives of `AnsiModel/Obj.lean` (the target language of the statement translators
  `harness/pyobj.py` / `pyparse.py`) do where the Python `int` they are given is a natural number:
  dictionary access in terms of `Fmts.get?`, list access in terms of `l[i]?`, slices in terms of
  `take`/`drop`; and the shapes every translated loop has.  The `*_is_code` theorems of `Props/`
  rewrite with these and never unfold a primitive.
-/

namespace ObjL

theorem bind_ok {ε α β : Type} (a : α) (f : α → Except ε β) : (Except.ok a).bind f = f a := rfl

theorem bind_error {ε α β : Type} (e : ε) (f : α → Except ε β) :
    (Except.error e : Except ε α).bind f = .error e := rfl

theorem ite_ok {ε α : Type} (c : Prop) [Decidable c] (a b : α) :
    (if c then (Except.ok a : Except ε α) else .ok b) = .ok (if c then a else b) := by
  split <;> rfl

theorem bind_of_ok {ε α β : Type} {e : Except ε α} {a : α} {k : α → Except ε β} (h : e = .ok a) :
    e.bind k = k a := by subst h; rfl

theorem bind_pure {ε α : Type} (x : Except ε α) : x.bind (fun a => .ok a) = x := by
  cases x <;> rfl

/-- `if not b: A else: B` -/
theorem ite_bnot {α : Type} (b : Bool) (a c : α) :
    (if (!b) = true then a else c) = if b = true then c else a := by
  cases b <;> rfl

theorem ite_astr (c : Prop) [Decidable c] (s : Str) (A B : Fmts) :
    (if c then ({ s := s, fmts := A } : AStr) else { s := s, fmts := B }) =
      { s := s, fmts := if c then A else B } := by
  split <;> rfl

/-! A method that returns `v` or raises `e`, a Boolean deciding which: the three ways of saying so. -/

section outcome
variable {ε α : Type} {r : Except ε α} {b : Bool} {v : α} {e : ε}

theorem outcome_cases (h : r = if b then .ok v else .error e) : r = .ok v ∨ r = .error e := by
  cases b <;> simp [h]

theorem outcome_sound (h : r = .ok v ∨ r = .error e) {y : α} (hy : r = .ok y) : y = v := by
  rcases h with h | h <;> simp_all

theorem outcome_iff (h : r = if b then .ok v else .error e) : r = .ok v ↔ b = true := by
  cases b <;> simp [h]

/-- a loop of that kind followed by statements that end normally and look at one component of its state only -/
theorem bind_of_map {σ β : Type} {l : Except ε σ} {f : σ → α} (h : l.map f = if b then .ok v else .error e)
    {k : σ → Except ε β} {g : α → β} (hk : ∀ x, k x = .ok (g (f x))) :
    l.bind k = if b then .ok (g v) else .error e := by
  cases l <;> cases b <;> simp_all [Except.map, Except.bind]

end outcome

theorem foldlM_ok {ε σ α : Type} {step : σ → α → Except ε σ} {g : σ → α → σ}
    (h : ∀ s a, step s a = .ok (g s a)) (l : List α) (s : σ) :
    List.foldlM step s l = .ok (l.foldl g s) := by
  induction l generalizing s with
  | nil => rfl
  | cons a l ih => rw [List.foldlM_cons, h, List.foldl_cons]; exact ih _

/-- a state the body leaves alone (Python's `break` has been executed) is what the loop ends with -/
theorem foldlM_fixed {ε σ α : Type} {step : σ → α → Except ε σ} {s : σ} (h : ∀ a, step s a = .ok s)
    (l : List α) : List.foldlM step s l = .ok s := by
  induction l with
  | nil => rfl
  | cons a l ih => rw [List.foldlM_cons, h a]; exact ih

theorem foldl_fixed {σ α : Type} {g : σ → α → σ} {s : σ} (h : ∀ a, g s a = s) (l : List α) :
    l.foldl g s = s := by
  induction l with
  | nil => rfl
  | cons a l ih => rw [List.foldl_cons, h a]; exact ih

theorem foldlM_append {ε α β : Type} {step : List β → α → Except ε (List β)} {R : α → List β} {l : List α}
    (h : ∀ acc, ∀ a ∈ l, step acc a = .ok (acc ++ R a)) (acc : List β) :
    List.foldlM step acc l = .ok (acc ++ l.flatMap R) := by
  induction l generalizing acc with
  | nil => simp [pure, Except.pure]
  | cons a l ih =>
    rw [List.foldlM_cons, h acc a List.mem_cons_self, List.flatMap_cons, ← List.append_assoc]
    exact ih (fun acc b hb => h acc b (List.mem_cons_of_mem a hb)) _

theorem foldlM_filter_map {ε α β γ : Type} (c : α → Bool) (g : α → β) (pr : γ → α) (l : List γ) (acc : List β) :
    List.foldlM (m := Except ε) (fun acc a => if c a = true then .ok (acc ++ [g a]) else .ok acc) acc (l.map pr) =
      .ok (acc ++ (l.filter (fun kv => c (pr kv))).map (fun kv => g (pr kv))) := by
  induction l generalizing acc with
  | nil => simp [pure, Except.pure]
  | cons a l ih =>
    rw [List.map_cons, List.foldlM_cons, List.filter_cons]
    cases h : c (pr a) with
    | true => exact (ih _).trans (by simp)
    | false => exact ih _

theorem foldlM_filter {ε α : Type} (c : α → Bool) (l : List α) (acc : List α) :
    List.foldlM (m := Except ε) (fun acc a => if c a = true then .ok (acc ++ [a]) else .ok acc) acc l =
      .ok (acc ++ l.filter c) := by
  simpa using foldlM_filter_map (ε := ε) c id id l acc

/-! ## The dictionary `_fmts` under a key that is a natural number -/

section dict
variable {f : Fmts} {k : Nat} {p : Point}

theorem has_nat (f : Fmts) (k : Nat) : Obj.has f (k : Int) = f.contains k := by
  simp [Obj.has]

theorem set_nat (f : Fmts) (k : Nat) (p : Point) : Obj.set f (k : Int) p = .ok (f.set k p) := by
  simp [Obj.set]

theorem set_zero (f : Fmts) (p : Point) : Obj.set f (0 : Int) p = .ok (f.set 0 p) := set_nat f 0 p

/-- `d[idx - st] = p` where `st ≤ idx` -/
theorem set_sub (f : Fmts) (k st : Nat) (p : Point) (h : st ≤ k) :
    Obj.set f ((k : Int) - (st : Int)) p = .ok (f.set (k - st) p) := by
  rw [← Int.ofNat_sub h]
  exact set_nat f (k - st) p

theorem has_of_get? (h : f.get? k = some p) : Obj.has f (k : Int) = true := by
  simp [Obj.has, Fmts.contains, h]

theorem has_of_none (h : f.get? k = none) : Obj.has f (k : Int) = false := by
  simp [Obj.has, Fmts.contains, h]

theorem get_of_get? (h : f.get? k = some p) : Obj.get f (k : Int) = .ok p := by
  simp [Obj.get, h]

theorem get_of_none (h : f.get? k = none) : Obj.get f (k : Int) = .error .key := by
  simp [Obj.get, h]

theorem modifyAt_of_get? (g : Point → Point) (h : f.get? k = some p) :
    Obj.modifyAt f (k : Int) g = .ok (f.modify k g) := by
  simp [Obj.modifyAt, h]

theorem get_nat (h : f.contains k = true) : Obj.get f (k : Int) = .ok (f.getD k) := by
  obtain ⟨p, hp⟩ := Option.isSome_iff_exists.mp h
  rw [get_of_get? hp, Fmts.getD, hp, Option.getD_some]

theorem modifyAt_nat (g : Point → Point) (h : f.contains k = true) :
    Obj.modifyAt f (k : Int) g = .ok (f.modify k g) := by
  obtain ⟨p, hp⟩ := Option.isSome_iff_exists.mp h
  exact modifyAt_of_get? g hp

theorem pop_of_get? (h : f.get? k = some p) : Obj.pop f (k : Int) = .ok (p, f.erase k) := by
  simp [Obj.pop, h]

theorem del_of_get? (h : f.get? k = some p) : Obj.del f (k : Int) = .ok (f.erase k) := by
  simp [Obj.del, h]

end dict

/-! ## The table as a dictionary, whatever the order of its keys

`get?`, `set`, `modify` and `erase` walk the association list the same way up to the key. -/

theorem set_set (f : Fmts) (k : Nat) (p q : Point) : (f.set k p).set k q = f.set k q := by
  induction f with
  | nil => simp [Fmts.set]
  | cons kp rest ih =>
    obtain ⟨k', p'⟩ := kp
    unfold Fmts.set
    by_cases h1 : k' = k
    · simp [h1, Fmts.set]
    · by_cases h2 : k < k'
      · simp [h1, h2, Fmts.set]
      · simp only [h1, h2, if_false]
        rw [Fmts.set]
        simp only [h1, h2, if_false, ih]

theorem modify_eq_set {f : Fmts} {k : Nat} {p : Point} (g : Point → Point) (h : f.get? k = some p) :
    f.modify k g = f.set k (g p) := by
  induction f with
  | nil => simp [Fmts.get?] at h
  | cons kp rest ih =>
    obtain ⟨k', p'⟩ := kp
    rw [Fmts.get?_cons] at h
    unfold Fmts.modify Fmts.set
    by_cases h1 : k' = k
    · simp only [h1, if_true] at h ⊢
      injection h with h
      rw [h]
    · by_cases h2 : k < k'
      · simp [h1, h2] at h
      · simp only [h1, h2, if_false] at h ⊢
        rw [ih h]

theorem erase_set {f : Fmts} {k : Nat} {p : Point} (q : Point) (h : f.get? k = some p) :
    (f.set k q).erase k = f.erase k := by
  induction f with
  | nil => simp [Fmts.get?] at h
  | cons kp rest ih =>
    obtain ⟨k', p'⟩ := kp
    rw [Fmts.get?_cons] at h
    unfold Fmts.set
    by_cases h1 : k' = k
    · simp [h1, Fmts.erase]
    · by_cases h2 : k < k'
      · simp [h1, h2] at h
      · simp only [h1, h2, if_false] at h ⊢
        unfold Fmts.erase
        simp only [h1, if_false]
        rw [ih h]

/-- `d[k].x = …` at a key that is present -/
theorem modifyAt_set {f : Fmts} {k : Nat} {p : Point} (g : Point → Point) (h : f.get? k = some p) :
    Obj.modifyAt f (k : Int) g = .ok (f.set k (g p)) := by
  rw [modifyAt_of_get? g h, modify_eq_set g h]

/-- `d[k]` read after `d[k] = p` -/
theorem get_set_self (f : Fmts) (k : Nat) (p : Point) : Obj.get (f.set k p) (k : Int) = .ok p :=
  get_of_get? (Fmts.get?_set_self f k p)

/-- `d[k].x = …` after `d[k] = p` -/
theorem modifyAt_set_self (f : Fmts) (k : Nat) (p : Point) (g : Point → Point) :
    Obj.modifyAt (f.set k p) (k : Int) g = .ok (f.set k (g p)) := by
  rw [modifyAt_set g (Fmts.get?_set_self f k p), set_set]

/-- `del d[k]` after `d[k] = q` at a key that was present -/
theorem del_set_self {f : Fmts} {k : Nat} {p : Point} (q : Point) (h : f.get? k = some p) :
    Obj.del (f.set k q) (k : Int) = .ok (f.erase k) := by
  rw [del_of_get? (Fmts.get?_set_self f k q), erase_set q h]

theorem get?_mid {A : Fmts} {k : Nat} (p : Point) (D : Fmts) (hA : ∀ x ∈ A, x.1 < k) :
    Fmts.get? (A ++ (k, p) :: D) k = some p := by
  induction A with
  | nil => simp [Fmts.get?]
  | cons a A ih =>
    have h := hA a (by simp)
    rw [List.cons_append, Fmts.get?_cons, if_neg (by omega), if_neg (by omega)]
    exact ih (fun x hx => hA x (List.mem_cons_of_mem _ hx))

theorem modify_mid {A : Fmts} {k : Nat} (p : Point) (D : Fmts) (g : Point → Point)
    (hA : ∀ x ∈ A, x.1 < k) : Fmts.modify (A ++ (k, p) :: D) k g = A ++ (k, g p) :: D := by
  induction A with
  | nil => simp [Fmts.modify]
  | cons a A ih =>
    have h := hA a (by simp)
    rw [List.cons_append, Fmts.modify, if_neg (by omega), ih (fun x hx => hA x (List.mem_cons_of_mem _ hx))]
    rfl

/-- `for key in sorted(d.keys())` / `for idx, point, current in _AnsiSettingsIterator(d)`.  The loop
    state `σ` of the code is an encoding `e` of a state `τ` of one's choosing.  A body that, on a key of
    the table, ends normally with `round` of the entry is the fold of `round` over the entries.
    Ascending keys are needed because the body looks the key up again. -/
theorem foldlM_keysAsc_enc {σ τ : Type} {fm : Fmts} (hs : SortedKeys fm) {step : σ → Int → Except Exc σ}
    (e : τ → σ) {round : τ → Nat × Point → τ}
    (hstep : ∀ t (k : Nat) p, fm.get? k = some p → step (e t) (k : Int) = .ok (e (round t (k, p))))
    (t : τ) : List.foldlM step (e t) (Obj.keysAsc fm) = .ok (e (fm.foldl round t)) := by
  have aux : ∀ (B A : Fmts), fm = A ++ B → ∀ t : τ,
      List.foldlM step (e t) (B.map (fun kp => (kp.1 : Int))) = .ok (e (B.foldl round t)) := by
    intro B
    induction B with
    | nil => intro A _ t; rfl
    | cons kp B ih =>
      intro A hfm t
      obtain ⟨k, p⟩ := kp
      have hA : ∀ x ∈ A, x.1 < k := fun x hx =>
        (List.pairwise_append.mp (hfm ▸ hs)).2.2 x hx (k, p) (by simp)
      rw [List.map_cons, List.foldlM_cons, hstep t k p (hfm ▸ get?_mid p B hA)]
      exact ih (A ++ [(k, p)]) (by simp [hfm]) _
  simpa [Obj.keysAsc, Fmts.keys, Function.comp_def] using aux fm [] rfl t

theorem foldlM_keysAsc {σ : Type} {fm : Fmts} (hs : SortedKeys fm) {step : σ → Int → Except Exc σ}
    {round : σ → Nat × Point → σ}
    (hstep : ∀ s (k : Nat) p, fm.get? k = some p → step s (k : Int) = .ok (round s (k, p))) (s : σ) :
    List.foldlM step s (Obj.keysAsc fm) = .ok (fm.foldl round s) :=
  foldlM_keysAsc_enc hs id hstep s

/-! ## Lists under an index that is a natural number -/

section list
variable {α : Type} {l : List α} {i : Nat}

theorem getIdx_nat {a : α} (h : l[i]? = some a) : Py.getIdx l (i : Int) = .ok a := by
  have hi : ¬ ((i : Int) < 0) := by omega
  simp [Py.getIdx, hi, h]

theorem getIdx_out (h : l[i]? = none) : Py.getIdx l (i : Int) = .error (.py .indexError) := by
  have hi : ¬ ((i : Int) < 0) := by omega
  simp [Py.getIdx, hi, h]

theorem setIdx_nat (v : α) (h : i < l.length) : Py.setIdx l (i : Int) v = .ok (l.set i v) := by
  have hi : ¬ ((i : Int) ≥ l.length) := by omega
  simp only [Py.setIdx, show ¬ ((i : Int) < 0) by omega, if_false, hi, false_or, Int.toNat_natCast]

theorem delIdx_nat (h : i < l.length) : Py.delIdx l (i : Int) = .ok (l.eraseIdx i) := by
  have hi : 0 ≤ (i : Int) ∧ (i : Int) < l.length := by omega
  simp only [Py.delIdx, hi, and_self, if_true, Int.toNat_natCast]

theorem lt_of_getElem? {a : α} (h : l[i]? = some a) : i < l.length :=
  (List.getElem?_eq_some_iff.mp h).1

theorem setIdx_out (v : α) (h : ¬ i < l.length) : Py.setIdx l (i : Int) v = .error (.py .indexError) := by
  have hi : (i : Int) ≥ l.length := by omega
  simp only [Py.setIdx, show ¬ ((i : Int) < 0) by omega, if_false, hi, false_or, if_true]

theorem delIdx_out (h : ¬ i < l.length) : Py.delIdx l (i : Int) = .error (.py .indexError) := by
  have h1 : ¬ ((0 : Int) ≤ (i : Int) ∧ (i : Int) < (l.length : Int)) := by omega
  have h2 : ¬ ((i : Int) < 0 ∧ -(l.length : Int) ≤ (i : Int)) := by omega
  rw [Py.delIdx, if_neg h1, if_neg h2]

/-- `while c(l[0]): del l[0]`: IndexError when every element satisfies `c`, else `dropWhile` -/
theorem dropWhileHead_eq (c : α → Bool) (l : List α) :
    Py.dropWhileHead c l = if l.all c then .error (.py .indexError) else .ok (l.dropWhile c) := by
  induction l with
  | nil => rfl
  | cons a l ih =>
    unfold Py.dropWhileHead
    cases h : c a with
    | true => simp [h, ih]
    | false => simp [h]

theorem rangeDesc_succ (n : Nat) : Py.rangeDesc ((n + 1 : Nat) : Int) = (n : Int) :: Py.rangeDesc (n : Int) := by
  simp [Py.rangeDesc, List.range_succ]

/-- `for i in reversed(range(len(l))): a = l[i]; if del(t, a): del l[i]; t = upd(t, a)`: the loop state `σ`
    of the code holds the list `l` and the rest `t`.  Walking from the back, the indices still to come are
    not moved by a deletion, so the loop is a `foldr` over the list. -/
theorem foldlM_rangeDesc_del {σ τ : Type} (e : List α → τ → σ) {step : σ → Int → Except Exc σ}
    (del : τ → α → Bool) (upd : τ → α → τ)
    (h : ∀ l t (i : Nat) a, l[i]? = some a →
      step (e l t) (i : Int) = .ok (if del t a then e (l.eraseIdx i) (upd t a) else e l t))
    (l : List α) (t : τ) :
    List.foldlM step (e l t) (Py.rangeDesc (l.length : Int)) =
      .ok (e (l.foldr (fun a r => if del r.2 a then (r.1, upd r.2 a) else (a :: r.1, r.2)) ([], t)).1
             (l.foldr (fun a r => if del r.2 a then (r.1, upd r.2 a) else (a :: r.1, r.2)) ([], t)).2) := by
  have aux : ∀ (rp kept : List α) (t : τ),
      List.foldlM step (e (rp.reverse ++ kept) t) (Py.rangeDesc (rp.length : Int)) =
        .ok (e (rp.reverse.foldr (fun a r => if del r.2 a then (r.1, upd r.2 a) else (a :: r.1, r.2)) (kept, t)).1
               (rp.reverse.foldr (fun a r => if del r.2 a then (r.1, upd r.2 a) else (a :: r.1, r.2)) (kept, t)).2) := by
    intro rp
    induction rp with
    | nil => intro kept t; rfl
    | cons a rp ih =>
      intro kept t
      have hget : (rp.reverse ++ [a] ++ kept)[rp.length]? = some a := by simp
      have herase : (rp.reverse ++ [a] ++ kept).eraseIdx rp.length = rp.reverse ++ kept := by
        rw [List.append_assoc, List.eraseIdx_append_of_length_le (by simp)]
        simp
      rw [List.length_cons, rangeDesc_succ, List.foldlM_cons, List.reverse_cons, List.foldr_append, List.foldr_cons,
        List.foldr_nil, h _ _ _ _ hget, herase]
      cases del t a with
      | true => exact ih kept (upd t a)
      | false => rw [List.append_assoc]; exact ih (a :: kept) t
  simpa using aux l.reverse [] t

theorem listIdx_nat (n i : Nat) : Py.listIdx n (i : Int) = min i n := by
  simp only [Py.listIdx, show ¬ ((i : Int) < 0) by omega, if_false, Int.toNat_natCast]

theorem listSlice_nat (l : List α) (a b : Nat) :
    Py.listSlice l (some (a : Int)) (some (b : Int)) = (l.take b).drop a := by
  simp only [Py.listSlice, listIdx_nat]
  rw [← List.take_eq_take_min]
  by_cases h : a ≤ l.length
  · rw [Nat.min_eq_left h]
  · rw [List.drop_eq_nil_of_le (by simp; omega), List.drop_eq_nil_of_le (by simp; omega)]

theorem listSlice_from (l : List α) (a : Nat) : Py.listSlice l (some (a : Int)) none = l.drop a := by
  simp only [Py.listSlice, listIdx_nat, List.take_length]
  by_cases h : a ≤ l.length
  · rw [Nat.min_eq_left h]
  · rw [List.drop_eq_nil_of_le (by omega), List.drop_eq_nil_of_le (by omega)]

theorem listSlice_to (l : List α) (b : Nat) : Py.listSlice l none (some (b : Int)) = l.take b := by
  simp only [Py.listSlice, listIdx_nat, List.drop_zero]
  exact (List.take_eq_take_min ..).symm

/-- `l[k:k] = P` for `k ≥ 0` -/
theorem sliceAssign_nat (l : List α) (k : Nat) (P : List α) :
    Py.sliceAssign l (k : Int) (k : Int) P = l.take k ++ P ++ l.drop k := by
  simp only [Py.sliceAssign, listIdx_nat, Nat.max_self]
  rw [← List.take_eq_take_min]
  by_cases h : k ≤ l.length
  · rw [Nat.min_eq_left h]
  · rw [List.drop_eq_nil_of_le (by omega), List.drop_eq_nil_of_le (by omega)]

theorem sliceAssign_zero (l P : List α) : Py.sliceAssign l 0 0 P = P ++ l := by
  simpa using sliceAssign_nat l 0 P

end list

/-! ## A list at the position under a cursor -/

section cursor
variable {α : Type} (A : List α) (c : α) (B : List α)

theorem getIdx_zero : Py.getIdx (c :: B) (0 : Int) = .ok c :=
  getIdx_nat (i := 0) rfl

theorem getIdx_mid : Py.getIdx (A ++ c :: B) (A.length : Int) = .ok c :=
  getIdx_nat (by simp)

theorem setIdx_mid (x : α) : Py.setIdx (A ++ c :: B) (A.length : Int) x = .ok (A ++ x :: B) := by
  rw [setIdx_nat x (by simp), List.set_append_right _ _ (Nat.le_refl _), Nat.sub_self, List.set_cons_zero]

theorem slice_mid_from : Py.listSlice (A ++ B) (some (A.length : Int)) none = B := by
  rw [listSlice_from, List.drop_left]

/-- `s[i:i+k]` -/
theorem slice_mid (k : Nat) :
    Py.listSlice (A ++ B) (some (A.length : Int)) (some ((A.length : Int) + (k : Int))) = B.take k := by
  rw [← Int.natCast_add, listSlice_nat, List.take_append, List.take_of_length_le (Nat.le_add_right _ _),
    Nat.add_sub_cancel_left, List.drop_left]

end cursor

/-! ## Integers that are lengths -/

theorem natCast_beq (a b : Nat) : ((a : Int) == (b : Int)) = (a == b) := by
  rw [Bool.eq_iff_iff]
  simp only [beq_iff_eq]
  omega

theorem natCast_beq_one (a : Nat) : ((a : Int) == (1 : Int)) = (a == 1) := natCast_beq a 1

theorem natCast_not_neg (v : Nat) : ¬ ((v : Int) < 0) := by omega

theorem rangeAsc_nat (n : Nat) : Py.rangeAsc (n : Int) = (List.range' 0 n).map Int.ofNat := by
  simp [Py.rangeAsc, List.range_eq_range']

/-! ## Local dictionaries -/

theorem assocGet_mem {β : Type} {I : List (Int × β)} (hI : I.Pairwise (fun a b => a.1 < b.1)) {kv : Int × β}
    (h : kv ∈ I) : Py.assocGet I kv.1 = .ok kv.2 := by
  have : I.find? (fun x => x.1 == kv.1) = some kv := by
    induction I with
    | nil => cases h
    | cons a I ih =>
      rw [List.pairwise_cons] at hI
      rcases List.mem_cons.mp h with e | hin
      · subst e; simp
      · have := hI.1 kv hin
        rw [List.find?_cons, beq_eq_false_iff_ne.mpr (by omega)]
        exact ih hI.2 hin
  rw [Py.assocGet, this]

/-- `sorted(l, reverse=r)` of a list that ascends already -/
theorem sortedInts_asc {l : List Int} (h : l.Pairwise (· < ·)) (r : Bool) :
    Py.sortedInts l r = if r then l.reverse else l := by
  have : l.mergeSort (fun a b => decide (a ≤ b)) = l :=
    List.mergeSort_of_pairwise (h.imp (fun h => by simp only [decide_eq_true_eq]; omega))
  simp only [Py.sortedInts, this]

/-- `k not in d or d[k] != v` with the model's lookup -/
theorem dictNe_eq (d : PyDict) (k : Nat) (v : Setting) :
    Py.dictNe d k v = (match d.get? k with | none => true | some o => o.txt != v.txt) := by
  unfold Py.dictNe PyDict.get?
  cases d.find? (fun kv => kv.1 == k) <;> rfl

end ObjL
