import AnsiProofs.Lemmas.Basic
/-
  For property C06 (`apply_formatting`).  How a block `N` of new objects travels through `stepPoint`
  (`eraseAll_around`) and how its own stop markers take it out again (`eraseAll_block`); `BlockUpd`, what
  both values of `topmost` do to the table read as a function, with its instances `TopUpd`, `BotUpd`; then
  `applyFormatting` case by case: the table it builds is such an update, and `WF` is kept.
-/

def FreshN (x : AStr) (N : List Setting) : Prop :=
  (∀ s ∈ N, ∀ t ∈ x.fmts.settings, s.id ≠ t.id) ∧ (N.map (·.id)).Nodup

/-! ## block insertion -/

theorem toFun_nil (j : Nat) : Fmts.toFun [] j = {} := rfl

def NotIn (N : List Setting) (i : Nat) : Prop := ∀ t ∈ N, t.id ≠ i

/-- Each stop marker deletes in `p` or else in `q`; the block stays whole between what is left of the two. -/
theorem eraseAll_around {N r : List Setting} (hr : ∀ s ∈ r, NotIn N s.id) (p q : List Setting) :
    ∃ p' q', p'.Sublist p ∧ q'.Sublist q ∧ eraseAll (p ++ q) r = p' ++ q' ∧
      eraseAll (p ++ N ++ q) r = p' ++ N ++ q' ∧ stepOk (p ++ N ++ q) r = stepOk (p ++ q) r := by
  induction r generalizing p q with
  | nil => exact ⟨p, q, .refl _, .refl _, rfl, rfl, by rw [stepOk_nil, stepOk_nil]⟩
  | cons s r ih =>
    have hN := hasId_false_iff.mpr (hr s (by simp))
    have hh : hasId (p ++ N ++ q) s.id = hasId (p ++ q) s.id := by simp [hasId_append, hN]
    have hr' : ∀ t ∈ r, NotIn N t.id := fun t ht => hr t (by simp [ht])
    simp only [eraseAll_cons, stepOk_cons, hh]
    cases hp : hasId p s.id with
    | true =>
      have e : eraseId (p ++ N ++ q) s.id = eraseId p s.id ++ N ++ q := by
        rw [List.append_assoc, eraseId_append_left hp, List.append_assoc]
      obtain ⟨p', q', h1, h2, h3, h4, h5⟩ := ih hr' (eraseId p s.id) q
      rw [e, eraseId_append_left hp, h5]
      exact ⟨p', q', h1.trans (eraseId_sublist p _), h2, h3, h4, rfl⟩
    | false =>
      have e : eraseId (p ++ N ++ q) s.id = p ++ N ++ eraseId q s.id := by
        rw [List.append_assoc, eraseId_append_right hp, eraseId_append_right hN, List.append_assoc]
      obtain ⟨p', q', h1, h2, h3, h4, h5⟩ := ih hr' p (eraseId q s.id)
      rw [e, eraseId_append_right hp, h5]
      exact ⟨p', q', h1, h2.trans (eraseId_sublist q _), h3, h4, rfl⟩

theorem eraseAll_suffix {N c r : List Setting} (hr : ∀ s ∈ r, NotIn N s.id) :
    eraseAll (c ++ N) r = eraseAll c r ++ N := by
  obtain ⟨p', q', -, hq, h1, h2, -⟩ := eraseAll_around hr c []
  simp only [List.sublist_nil.mp hq, List.append_nil] at h1 h2
  rw [h1, h2]

theorem eraseAll_prefix {N c r : List Setting} (hr : ∀ s ∈ r, NotIn N s.id) :
    eraseAll (N ++ c) r = N ++ eraseAll c r ∧ stepOk (N ++ c) r = stepOk c r := by
  obtain ⟨p', q', hp, -, h1, h2, h3⟩ := eraseAll_around hr [] c
  simp only [List.sublist_nil.mp hp, List.nil_append] at h1 h2 h3
  rw [h1, h2]
  exact ⟨rfl, h3⟩

def Ins (N c c' : List Setting) : Prop := ∃ p q, c = p ++ q ∧ c' = p ++ N ++ q

theorem Ins.eraseAll {N c c' : List Setting} (h : Ins N c c') {r : List Setting}
    (hr : ∀ s ∈ r, NotIn N s.id) :
    Ins N (eraseAll c r) (eraseAll c' r) ∧ stepOk c' r = stepOk c r := by
  obtain ⟨p, q, rfl, rfl⟩ := h
  obtain ⟨p', q', -, -, h1, h2, h3⟩ := eraseAll_around hr p q
  exact ⟨⟨p', q', h1, h2⟩, h3⟩

theorem Ins.stepPoint {N c c' : List Setting} (h : Ins N c c') {pt : Point}
    (hr : ∀ s ∈ pt.rem, NotIn N s.id) : Ins N (stepPoint c pt) (stepPoint c' pt) := by
  obtain ⟨p, q, h1, h2⟩ := (h.eraseAll hr).1
  exact ⟨p, q ++ pt.add, by rw [stepPoint_def, h1, List.append_assoc],
    by rw [stepPoint_def, h2, List.append_assoc]⟩

theorem eraseAll_block {N : List Setting} (p q : List Setting) (hp : ∀ t ∈ N, NotIn p t.id) :
    eraseAll (p ++ N ++ q) N = p ++ q ∧ stepOk (p ++ N ++ q) N = true := by
  induction N with
  | nil => simp [eraseAll_nil, stepOk_nil]
  | cons a M ih =>
    have hpa := hasId_false_iff.mpr (hp a (by simp))
    have he : eraseId (p ++ a :: M ++ q) a.id = p ++ M ++ q := by
      rw [List.append_assoc, eraseId_append_right hpa]
      simp [eraseId, List.append_assoc]
    have hh : hasId (p ++ a :: M ++ q) a.id = true := by simp [hasId]
    rw [eraseAll_cons, stepOk_cons, he, hh]
    simpa using ih (fun t ht => hp t (by simp [ht]))

theorem eraseAll_self (c : List Setting) : eraseAll c c = [] ∧ stepOk c c = true := by
  simpa using eraseAll_block (N := c) [] [] (fun _ _ _ h => by cases h)

theorem eraseAll_of_ins {N c c' r r' : List Setting} (hc : Ins N c c') (hr : Ins N r r')
    (hfr : ∀ s ∈ r, NotIn N s.id) (hfc : ∀ s ∈ c, NotIn N s.id) :
    eraseAll c' r' = eraseAll c r ∧ stepOk c' r' = stepOk c r := by
  obtain ⟨r1, r2, rfl, rfl⟩ := hr
  obtain ⟨⟨p, q, e1, e2⟩, e3⟩ := hc.eraseAll (fun s hs => hfr s (List.mem_append_left _ hs))
  have hb := eraseAll_block (N := N) p q (fun t ht u hu hut =>
    hfc u ((eraseAll_sublist c r1).subset (e1 ▸ List.mem_append_left _ hu)) t ht hut.symm)
  simp only [eraseAll_append, stepOk_append, e2, hb.1, hb.2, e3, e1, Bool.and_true, and_self]

theorem nodup_ins {N p q : List Setting} (hN : (N.map (·.id)).Nodup)
    (hpq : ((p ++ q).map (·.id)).Nodup) (hfr : ∀ t ∈ N, NotIn (p ++ q) t.id) :
    ((p ++ N ++ q).map (·.id)).Nodup := by
  have hperm : (p ++ N ++ q).Perm (N ++ (p ++ q)) := by
    rw [List.append_assoc]
    exact (List.perm_append_comm_assoc p N q)
  rw [(hperm.map _).nodup_iff, List.map_append, List.nodup_append]
  refine ⟨hN, hpq, ?_⟩
  intro a ha b hb hab
  obtain ⟨t, ht, rfl⟩ := List.mem_map.mp ha
  obtain ⟨u, hu, rfl⟩ := List.mem_map.mp hb
  exact hfr t ht u hu hab.symm

/-! ## the update in function form -/

def FreshG (g : Nat → Point) (N : List Setting) : Prop :=
  ∀ k s, (s ∈ (g k).add ∨ s ∈ (g k).rem) → NotIn N s.id

theorem FreshG.before {g : Nat → Point} {N : List Setting} (hf : FreshG g N) {k : Nat} {s : Setting}
    (h : s ∈ before g k) : NotIn N s.id := by
  obtain ⟨j, hj⟩ := mem_before h
  exact hf j s (Or.inl hj)

theorem FreshG.rem {g : Nat → Point} {N : List Setting} (hf : FreshG g N) (k : Nat) :
    ∀ s ∈ (g k).rem, NotIn N s.id := fun s hs => hf k s (Or.inr hs)

/-- What both forms of `apply_formatting` do to the table: only the points at `st` and `en` change;
    the point at `st` puts the block `N` of new objects somewhere into the active list and keeps the
    self-check intact, the point at `en` stops `N` together with what it stopped before. -/
structure BlockUpd (g g' : Nat → Point) (N : List Setting) (st en : Nat) : Prop where
  lt : st < en
  oth : ∀ j, j ≠ st → j ≠ en → g' j = g j
  fresh : FreshG g N
  nd : (N.map (·.id)).Nodup
  stOk : stepOk (before g st) (g st).rem = true → stepOk (before g st) (g' st).rem = true
  stIns : Ins N (stepPoint (before g st) (g st)) (stepPoint (before g st) (g' st))
  enAdd : (g' en).add = (g en).add
  enRem : Ins N (g en).rem (g' en).rem

namespace BlockUpd
variable {g g' : Nat → Point} {N : List Setting} {st en : Nat}

theorem before_le (h : BlockUpd g g' N st en) {k : Nat} (hk : k ≤ st) : before g' k = before g k :=
  before_congr k (fun j hj => h.oth j (Nat.ne_of_lt (Nat.lt_of_lt_of_le hj hk))
    (Nat.ne_of_lt (Nat.lt_trans (Nat.lt_of_lt_of_le hj hk) h.lt)))

theorem ins (h : BlockUpd g g' N st en) {k : Nat} (h1 : st < k) (h2 : k ≤ en) :
    Ins N (before g k) (before g' k) := by
  refine before_rel (a := st + 1) ?_ (fun j j1 j2 c c' hc => ?_) h1 h2
  · rw [before_succ, before_succ, h.before_le (Nat.le_refl _)]
    exact h.stIns
  · rw [h.oth j (Nat.ne_of_gt j1) (Nat.ne_of_lt j2)]
    exact hc.stepPoint (h.fresh.rem j)

theorem at_en (h : BlockUpd g g' N st en) :
    before g' (en + 1) = before g (en + 1) ∧
      stepOk (before g' en) (g' en).rem = stepOk (before g en) (g en).rem := by
  have hb := eraseAll_of_ins (h.ins h.lt (Nat.le_refl _)) h.enRem (h.fresh.rem en)
    (fun s hs => h.fresh.before hs)
  exact ⟨by rw [before_succ, before_succ, stepPoint_def, stepPoint_def, hb.1, h.enAdd], hb.2⟩

theorem before_gt (h : BlockUpd g g' N st en) {k : Nat} (hk : en < k) : before g' k = before g k :=
  before_rel (R := fun c c' => c' = c) (a := en + 1) h.at_en.1
    (fun j j1 _ c c' hc => by rw [hc, h.oth j (Nat.ne_of_gt (Nat.lt_trans h.lt j1)) (Nat.ne_of_gt j1)])
    hk (Nat.le_refl _)

theorem ok (h : BlockUpd g g' N st en) (hok : ∀ k, stepOk (before g k) (g k).rem = true) (k : Nat) :
    stepOk (before g' k) (g' k).rem = true := by
  rcases Nat.lt_trichotomy k st with c | c | c
  · rw [h.oth k (Nat.ne_of_lt c) (Nat.ne_of_lt (Nat.lt_trans c h.lt)), h.before_le (Nat.le_of_lt c)]
    exact hok k
  · rw [c, h.before_le (Nat.le_refl _)]
    exact h.stOk (hok st)
  · rcases Nat.lt_trichotomy k en with d | d | d
    · rw [h.oth k (Nat.ne_of_gt c) (Nat.ne_of_lt d), ((h.ins c (Nat.le_of_lt d)).eraseAll (h.fresh.rem k)).2]
      exact hok k
    · rw [d, h.at_en.2]
      exact hok en
    · rw [h.oth k (Nat.ne_of_gt c) (Nat.ne_of_gt d), h.before_gt d]
      exact hok k

theorem nodup (h : BlockUpd g g' N st en) (hnd : ∀ k, ((before g k).map (·.id)).Nodup) (k : Nat) :
    ((before g' k).map (·.id)).Nodup := by
  by_cases c1 : k ≤ st
  · rw [h.before_le c1]; exact hnd k
  by_cases c2 : k ≤ en
  · obtain ⟨p, q, e1, e2⟩ := h.ins (Nat.lt_of_not_le c1) c2
    rw [e2]
    exact nodup_ins h.nd (e1 ▸ hnd k) (fun t ht u hu hut => h.fresh.before (e1 ▸ hu) t ht hut.symm)
  · rw [h.before_gt (Nat.lt_of_not_le c2)]; exact hnd k

end BlockUpd

/-- `apply_formatting(..., topmost=True)` in function form -/
structure TopUpd (g g' : Nat → Point) (N : List Setting) (st en : Nat) : Prop where
  lt : st < en
  oth : ∀ j, j ≠ st → j ≠ en → g' j = g j
  atSt : g' st = { rem := (g st).rem, add := (g st).add ++ N }
  atEn : g' en = { rem := (g en).rem ++ N, add := (g en).add }
  fresh : FreshG g N
  nd : (N.map (·.id)).Nodup

namespace TopUpd
variable {g g' : Nat → Point} {N : List Setting} {st en : Nat}

theorem stepPoint_st (h : TopUpd g g' N st en) (c : List Setting) :
    stepPoint c (g' st) = stepPoint c (g st) ++ N := by
  rw [h.atSt, stepPoint_def, stepPoint_def, List.append_assoc]

theorem toBlock (h : TopUpd g g' N st en) : BlockUpd g g' N st en where
  lt := h.lt
  oth := h.oth
  fresh := h.fresh
  nd := h.nd
  stOk := by rw [h.atSt]; exact id
  stIns := ⟨_, [], (List.append_nil _).symm, by rw [h.stepPoint_st, List.append_nil]⟩
  enAdd := by rw [h.atEn]
  enRem := ⟨_, [], (List.append_nil _).symm, by rw [h.atEn, List.append_nil]⟩

theorem before_st (h : TopUpd g g' N st en) : before g' (st + 1) = before g (st + 1) ++ N := by
  rw [before_succ, before_succ, h.toBlock.before_le (Nat.le_refl _), h.stepPoint_st]

theorem upto (h : TopUpd g g' N st en) {k : Nat} (h1 : st < k) (h2 : k ≤ en)
    (hadd : ∀ j, st < j → j < k → (g j).add = []) : before g' k = before g k ++ N := by
  refine before_rel (R := fun c c' => c' = c ++ N) (a := st + 1) h.before_st
    (fun j j1 j2 c c' hc => ?_) h1 (Nat.le_refl k)
  rw [hc, h.oth j (Nat.ne_of_gt j1) (Nat.ne_of_lt (Nat.lt_of_lt_of_le j2 h2)), stepPoint_def, stepPoint_def,
    hadd j j1 j2,
    eraseAll_suffix (h.fresh.rem j), List.append_nil, List.append_nil]

theorem mem_new (h : TopUpd g g' N st en)
    {k : Nat} {s : Setting} (hs : s ∈ (g' k).add ∨ s ∈ (g' k).rem) :
    s ∈ N ∨ ∃ j, s ∈ (g j).add ∨ s ∈ (g j).rem := by
  by_cases c1 : k = st
  · rw [c1, h.atSt] at hs
    simp only [List.mem_append] at hs
    rcases hs with (hs | hs) | hs
    · exact Or.inr ⟨st, Or.inl hs⟩
    · exact Or.inl hs
    · exact Or.inr ⟨st, Or.inr hs⟩
  by_cases c2 : k = en
  · rw [c2, h.atEn] at hs
    simp only [List.mem_append] at hs
    rcases hs with hs | hs | hs
    · exact Or.inr ⟨en, Or.inl hs⟩
    · exact Or.inr ⟨en, Or.inr hs⟩
    · exact Or.inl hs
  · rw [h.oth k c1 c2] at hs
    exact Or.inr ⟨k, hs⟩

end TopUpd

/-- `apply_formatting(..., topmost=False)` in function form: whatever is active when `st` is reached
    (and not stopped there) is stopped and started again right behind the new objects -/
structure BotUpd (g g' : Nat → Point) (N : List Setting) (st en : Nat) : Prop where
  lt : st < en
  oth : ∀ j, j ≠ st → j ≠ en → g' j = g j
  atSt : g' st = { rem := (g st).rem ++ eraseAll (before g st) (g st).rem,
                   add := N ++ eraseAll (before g st) (g st).rem ++ (g st).add }
  atEn : g' en = { rem := N ++ (g en).rem, add := (g en).add }
  fresh : FreshG g N
  nd : (N.map (·.id)).Nodup

namespace BotUpd
variable {g g' : Nat → Point} {N : List Setting} {st en : Nat}

theorem stepPoint_st (h : BotUpd g g' N st en) :
    stepPoint (before g st) (g' st) = N ++ stepPoint (before g st) (g st) := by
  rw [h.atSt, stepPoint_def, stepPoint_def]
  simp only [eraseAll_append, (eraseAll_self _).1, List.nil_append, List.append_assoc]

theorem toBlock (h : BotUpd g g' N st en) : BlockUpd g g' N st en where
  lt := h.lt
  oth := h.oth
  fresh := h.fresh
  nd := h.nd
  stOk := fun hok => by rw [h.atSt, stepOk_append, hok, (eraseAll_self _).2]; rfl
  stIns := ⟨[], stepPoint (before g st) (g st), rfl, by rw [h.stepPoint_st, List.nil_append]⟩
  enAdd := by rw [h.atEn]
  enRem := ⟨[], (g en).rem, rfl, by rw [h.atEn, List.nil_append]⟩

theorem inside (h : BotUpd g g' N st en) {k : Nat} (h1 : st < k) (h2 : k ≤ en) :
    before g' k = N ++ before g k := by
  refine before_rel (R := fun c c' => c' = N ++ c) (a := st + 1) ?_ (fun j j1 j2 c c' hc => ?_) h1 h2
  · rw [before_succ, before_succ, h.toBlock.before_le (Nat.le_refl _), h.stepPoint_st]
  · rw [hc, h.oth j (Nat.ne_of_gt j1) (Nat.ne_of_lt j2), stepPoint_def, stepPoint_def,
      (eraseAll_prefix (h.fresh.rem j)).1, List.append_assoc]

theorem mem_new (h : BotUpd g g' N st en)
    {k : Nat} {s : Setting} (hs : s ∈ (g' k).add ∨ s ∈ (g' k).rem) :
    s ∈ N ∨ ∃ j, s ∈ (g j).add ∨ s ∈ (g j).rem := by
  have hA : s ∈ eraseAll (before g st) (g st).rem → ∃ j, s ∈ (g j).add ∨ s ∈ (g j).rem := fun hs =>
    (mem_before ((eraseAll_sublist _ _).subset hs)).imp fun _ => Or.inl
  by_cases c1 : k = st
  · rw [c1, h.atSt] at hs
    simp only [List.mem_append] at hs
    rcases hs with ((hs | hs) | hs) | hs | hs
    · exact Or.inl hs
    · exact Or.inr (hA hs)
    · exact Or.inr ⟨st, Or.inl hs⟩
    · exact Or.inr ⟨st, Or.inr hs⟩
    · exact Or.inr (hA hs)
  by_cases c2 : k = en
  · rw [c2, h.atEn] at hs
    simp only [List.mem_append] at hs
    rcases hs with hs | hs | hs
    · exact Or.inr ⟨en, Or.inl hs⟩
    · exact Or.inl hs
    · exact Or.inr ⟨en, Or.inr hs⟩
  · rw [h.oth k c1 c2] at hs
    exact Or.inr ⟨k, hs⟩

end BotUpd

/-! ## the table built by `applyFormatting` -/

namespace Fmts

theorem modify_modify (f : Fmts) (k : Nat) (g g' : Point → Point) :
    (f.modify k g).modify k g' = f.modify k (fun p => g' (g p)) := by
  induction f with
  | nil => rfl
  | cons kp rest ih =>
    obtain ⟨k', p'⟩ := kp
    by_cases h1 : k' = k
    · simp [Fmts.modify, h1]
    · simp [Fmts.modify, h1, ih]

/-- `if k not in d: d[k] = Point()` followed by an update of `d[k]` -/
def em (f : Fmts) (k : Nat) (h : Point → Point) : Fmts := (f.ensure k).modify k h

theorem sorted_em {f : Fmts} (hs : SortedKeys f) (k : Nat) (h : Point → Point) : SortedKeys (f.em k h) :=
  sorted_modify (sorted_ensure hs k) k h

theorem toFun_em {f : Fmts} (hs : SortedKeys f) (k : Nat) (h : Point → Point) (j : Nat) :
    toFun (f.em k h) j = if j = k then h (toFun f k) else toFun f j := by
  unfold em
  rw [toFun_modify _ _ _ (contains_ensure_self f k), toFun_ensure hs, toFun_ensure hs]

theorem keys_em_le {f : Fmts} {k n : Nat} (hf : ∀ kp ∈ f, kp.1 ≤ n) (hk : k ≤ n) (h : Point → Point) :
    ∀ kp ∈ f.em k h, kp.1 ≤ n := by
  intro kp hkp
  have hm : kp.1 ∈ (f.ensure k).map (·.1) := keys_modify _ k h ▸ List.mem_map_of_mem hkp
  obtain ⟨kp', hkp', e⟩ := List.mem_map.mp hm
  unfold Fmts.ensure at hkp'
  split at hkp'
  · exact e ▸ hf kp' hkp'
  · rcases mem_set hkp' with rfl | h'
    · exact e ▸ hk
    · exact e ▸ hf kp' h'

theorem toFun_em_em {f : Fmts} (hs : SortedKeys f) {st en : Nat} (hne : st ≠ en) (a r : Point → Point)
    (j : Nat) :
    toFun ((f.em st a).em en r) j =
      if j = en then r (toFun f en) else if j = st then a (toFun f st) else toFun f j := by
  rw [toFun_em (sorted_em hs st a), toFun_em hs, toFun_em hs, if_neg (Ne.symm hne)]

end Fmts

theorem applyFormatting_skip (x : AStr) (N : List Setting) (start end_ : Option Int) (top : Bool)
    (h : sliceIdx x.len start 0 ≥ x.len ∨ sliceIdx x.len end_ x.len ≤ sliceIdx x.len start 0) :
    x.applyFormatting N start end_ top = x := by
  unfold AStr.applyFormatting
  exact if_pos h

theorem applyFormatting_nil (x : AStr) (start end_ : Option Int) (top : Bool) :
    x.applyFormatting [] start end_ top = x := by
  unfold AStr.applyFormatting
  exact ite_self _

theorem applyFormatting_top (x : AStr) (N : List Setting) (start end_ : Option Int)
    (h1 : ¬ (sliceIdx x.len start 0 ≥ x.len ∨ sliceIdx x.len end_ x.len ≤ sliceIdx x.len start 0))
    (hN : N ≠ []) :
    x.applyFormatting N start end_ true =
      ⟨x.s, Fmts.em (Fmts.em x.fmts (sliceIdx x.len start 0) (fun p => { p with add := p.add ++ N }))
            (sliceIdx x.len end_ x.len) (fun p => { p with rem := p.rem ++ N })⟩ := by
  unfold AStr.applyFormatting
  exact (if_neg h1).trans (if_neg (mt List.isEmpty_iff.mp hN))

/-- With `topmost=False` the point at `st` is updated twice, the second time only `if P`; the two are
    one update, and for an empty `P` the second does nothing. -/
theorem applyFormatting_bot (x : AStr) (N : List Setting) (start end_ : Option Int)
    (h1 : ¬ (sliceIdx x.len start 0 ≥ x.len ∨ sliceIdx x.len end_ x.len ≤ sliceIdx x.len start 0))
    (hN : N ≠ []) :
    x.applyFormatting N start end_ false =
      let st := sliceIdx x.len start 0
      let f2 := x.fmts.em st (fun p => { p with add := N ++ p.add })
      let P := (active f2 st).filter (fun s => !hasId (f2.getD st).add s.id)
      ⟨x.s, Fmts.em (x.fmts.em st (fun p => { rem := p.rem ++ P, add := N ++ P ++ p.add }))
            (sliceIdx x.len end_ x.len) (fun p => { p with rem := N ++ p.rem })⟩ := by
  have hN' : N.isEmpty = false := by rwa [← Bool.not_eq_true, List.isEmpty_iff]
  unfold AStr.applyFormatting Fmts.em
  simp only [h1, if_false, hN', Bool.false_eq_true]
  split
  · rename_i hP
    simp only [List.isEmpty_iff.mp hP, List.append_nil]
  · simp only [Fmts.modify_modify, List.take_left', List.drop_left']

theorem FreshN.freshG {x : AStr} {N : List Setting} (hw : WF x) (h : FreshN x N) :
    FreshG (Fmts.toFun x.fmts) N := by
  intro k s hs t ht
  exact h.1 t ht s ((Fmts.mem_settings_iff hw.sorted s).mpr ⟨k, hs⟩)

theorem apply_topUpd {x : AStr} {N : List Setting} {start end_ : Option Int} {st en : Nat}
    (hw : WF x) (hf : FreshN x N) (hst : st = sliceIdx x.len start 0)
    (hen : en = sliceIdx x.len end_ x.len) (h1 : st < x.len) (h2 : st < en) (hN : N ≠ []) :
    (x.applyFormatting N start end_ true).s = x.s ∧
    SortedKeys (x.applyFormatting N start end_ true).fmts ∧
    TopUpd (Fmts.toFun x.fmts) (Fmts.toFun (x.applyFormatting N start end_ true).fmts) N st en ∧
    (∀ kp ∈ (x.applyFormatting N start end_ true).fmts, kp.1 ≤ x.len) := by
  subst hst hen
  rw [applyFormatting_top x N start end_ (fun h => h.elim (Nat.not_le_of_lt h1) (Nat.not_le_of_lt h2)) hN]
  have hs := hw.sorted
  have hne := Nat.ne_of_lt h2
  refine ⟨rfl, Fmts.sorted_em (Fmts.sorted_em hs _ _) _ _,
    ⟨h2, fun j j1 j2 => ?_, ?_, ?_, hf.freshG hw, hf.2⟩,
    Fmts.keys_em_le (Fmts.keys_em_le hw.bound (Nat.le_of_lt h1) _) (sliceIdx_le _ _ _ (Nat.le_refl _)) _⟩
  · rw [Fmts.toFun_em_em hs hne, if_neg j2, if_neg j1]
  · rw [Fmts.toFun_em_em hs hne, if_neg hne, if_pos rfl]
  · rw [Fmts.toFun_em_em hs hne, if_pos rfl]

theorem filter_not_hasId_append {E A : List Setting} (h : ∀ s ∈ E, hasId A s.id = false) :
    (E ++ A).filter (fun s => !hasId A s.id) = E := by
  rw [List.filter_append, List.filter_eq_self.mpr (fun s hs => by simp [h s hs]),
    List.filter_eq_nil_iff.mpr (fun s hs => by simp [hasId_of_mem hs]), List.append_nil]

/-- what `apply_formatting(…, topmost=False)` stops and starts again at `st`: the settings active there
    are those left from before plus what the point adds (with `N` in front); only the former are
    not among the latter -/
theorem bot_P {x : AStr} {N : List Setting} (st : Nat) (hw : WF x) (hf : FreshN x N) :
    (active (x.fmts.em st (fun p => { p with add := N ++ p.add })) st).filter
        (fun s => !hasId ((x.fmts.em st (fun p => { p with add := N ++ p.add })).getD st).add s.id) =
      eraseAll (before (Fmts.toFun x.fmts) st) (Fmts.toFun x.fmts st).rem := by
  have hs := hw.sorted
  have hb : before (Fmts.toFun (x.fmts.em st (fun p => { p with add := N ++ p.add }))) st =
      before (Fmts.toFun x.fmts) st :=
    before_congr st (fun j hj => by rw [Fmts.toFun_em hs, if_neg (Nat.ne_of_lt hj)])
  have hnd := hw.nodup st
  rw [active_eq_before hs, before_succ, stepPoint_def, List.map_append, List.nodup_append] at hnd
  rw [show (x.fmts.em st (fun p => { p with add := N ++ p.add })).getD st = Fmts.toFun _ st from rfl,
    active_eq_before (Fmts.sorted_em hs _ _), before_succ, hb, Fmts.toFun_em hs, if_pos rfl]
  refine filter_not_hasId_append (fun s hs' => ?_)
  rw [hasId_append, Bool.or_eq_false_iff, hasId_false_iff, hasId_false_iff]
  exact ⟨(hf.freshG hw).before ((eraseAll_sublist _ _).subset hs'), fun t ht hts =>
    hnd.2.2 s.id (List.mem_map_of_mem hs') t.id (List.mem_map_of_mem ht) hts.symm⟩

theorem apply_botUpd {x : AStr} {N : List Setting} {start end_ : Option Int} {st en : Nat}
    (hw : WF x) (hf : FreshN x N) (hst : st = sliceIdx x.len start 0)
    (hen : en = sliceIdx x.len end_ x.len) (h1 : st < x.len) (h2 : st < en) (hN : N ≠ []) :
    (x.applyFormatting N start end_ false).s = x.s ∧
    SortedKeys (x.applyFormatting N start end_ false).fmts ∧
    BotUpd (Fmts.toFun x.fmts) (Fmts.toFun (x.applyFormatting N start end_ false).fmts) N st en ∧
    (∀ kp ∈ (x.applyFormatting N start end_ false).fmts, kp.1 ≤ x.len) := by
  subst hst hen
  rw [applyFormatting_bot x N start end_ (fun h => h.elim (Nat.not_le_of_lt h1) (Nat.not_le_of_lt h2)) hN]
  simp only [bot_P _ hw hf]
  have hs := hw.sorted
  have hne := Nat.ne_of_lt h2
  refine ⟨trivial, Fmts.sorted_em (Fmts.sorted_em hs _ _) _ _,
    ⟨h2, fun j j1 j2 => ?_, ?_, ?_, hf.freshG hw, hf.2⟩,
    Fmts.keys_em_le (Fmts.keys_em_le hw.bound (Nat.le_of_lt h1) _) (sliceIdx_le _ _ _ (Nat.le_refl _)) _⟩
  · rw [Fmts.toFun_em_em hs hne, if_neg j2, if_neg j1]
  · rw [Fmts.toFun_em_em hs hne, if_neg hne, if_pos rfl]
  · rw [Fmts.toFun_em_em hs hne, if_pos rfl]

/-! ## the invariant `WF` is kept -/

theorem wf_of_upd {x x' : AStr} {N : List Setting} {st en : Nat} (hw : WF x) (hf : FreshN x N)
    (hs : x'.s = x.s) (hsorted : SortedKeys x'.fmts) (hbound : ∀ kp ∈ x'.fmts, kp.1 ≤ x.len)
    (hst : st < x.len) (hen : en ≤ x.len)
    (hu : BlockUpd (Fmts.toFun x.fmts) (Fmts.toFun x'.fmts) N st en)
    (hmem : ∀ k s, (s ∈ (Fmts.toFun x'.fmts k).add ∨ s ∈ (Fmts.toFun x'.fmts k).rem) →
      s ∈ N ∨ ∃ j, s ∈ (Fmts.toFun x.fmts j).add ∨ s ∈ (Fmts.toFun x.fmts j).rem) : WF x' := by
  have hlen : x'.len = x.len := congrArg List.length hs
  have hok : ∀ k, stepOk (before (Fmts.toFun x.fmts) k) (Fmts.toFun x.fmts k).rem = true :=
    (replayOk_iff hw.sorted).mp hw.ok
  have hnd : ∀ k, ((before (Fmts.toFun x.fmts) k).map (·.id)).Nodup := fun k => by
    cases k with
    | zero => exact List.nodup_nil
    | succ k => rw [← active_eq_before hw.sorted]; exact hw.nodup k
  refine ⟨hsorted, hlen ▸ hbound, ?_, (replayOk_iff hsorted).mpr (hu.ok hok), ?_, ?_, ?_⟩
  · rw [Fmts.noAddEnd_iff hsorted, hlen]
    have hold := (Fmts.noAddEnd_iff hw.sorted _).mp hw.noAddEnd
    by_cases c : x.len = en
    · rw [c, hu.enAdd, ← c]; exact hold
    · rw [hu.oth _ (Nat.ne_of_gt hst) c]; exact hold
  · intro i
    rw [active_eq_before hsorted]; exact hu.nodup hnd _
  · rw [hlen, active_eq_before hsorted, hu.before_gt (Nat.lt_succ_of_le hen), ← active_eq_before hw.sorted]
    exact hw.closed
  · have hsub : ∀ s ∈ x'.fmts.settings, s ∈ N ∨ s ∈ x.fmts.settings := by
      intro s hs
      obtain ⟨k, hk⟩ := (Fmts.mem_settings_iff hsorted s).mp hs
      exact (hmem k s hk).imp_right (Fmts.mem_settings_iff hw.sorted s).mpr
    intro s hs t ht hid
    rcases hsub s hs with h1 | h1 <;> rcases hsub t ht with h2 | h2
    · rw [eq_of_id_eq hf.2 h1 h2 hid]
    · exact absurd hid (hf.1 s h1 t h2)
    · exact absurd hid.symm (hf.1 t h2 s h1)
    · exact hw.coherent s h1 t h2 hid

theorem apply_upd {x : AStr} {N : List Setting} {start end_ : Option Int} {top : Bool} {st en : Nat}
    (hw : WF x) (hf : FreshN x N) (hst : st = sliceIdx x.len start 0)
    (hen : en = sliceIdx x.len end_ x.len) (h1 : st < x.len) (h2 : st < en) (hN : N ≠ []) :
    SortedKeys (x.applyFormatting N start end_ top).fmts ∧
    BlockUpd (Fmts.toFun x.fmts) (Fmts.toFun (x.applyFormatting N start end_ top).fmts) N st en ∧
    WF (x.applyFormatting N start end_ top) := by
  have hle : en ≤ x.len := hen ▸ sliceIdx_le _ _ _ (Nat.le_refl _)
  cases top with
  | true =>
    obtain ⟨a, b, c, d⟩ := apply_topUpd hw hf hst hen h1 h2 hN
    exact ⟨b, c.toBlock, wf_of_upd hw hf a b d h1 hle c.toBlock (fun _ _ => c.mem_new)⟩
  | false =>
    obtain ⟨a, b, c, d⟩ := apply_botUpd hw hf hst hen h1 h2 hN
    exact ⟨b, c.toBlock, wf_of_upd hw hf a b d h1 hle c.toBlock (fun _ _ => c.mem_new)⟩

/-! ## the fresh objects made by `apply_formatting` -/

theorem freshSettings_ids (nid : Nat) (ts : List Str) :
    (freshSettings nid ts).map (·.id) = List.range' nid ts.length := by
  have h := List.map_add_range' (a := nid) 0 ts.length 1
  rw [← List.zipIdx_map_snd 0 ts, List.map_map] at h
  rw [freshSettings, List.map_map]
  exact h

theorem texts_freshSettings (nid : Nat) (ts : List Str) : texts (freshSettings nid ts) = ts := by
  unfold texts freshSettings
  rw [List.map_map]
  exact List.zipIdx_map_fst 0 ts
